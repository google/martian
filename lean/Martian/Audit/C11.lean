import Martian.Props.C11
open Martian.Props.C11
#print axioms cut_flatten
#print axioms cut_ne_nil
#print axioms cut_sets_equivalent
#print axioms batch_shows_messages
#print axioms fragmentation_invariant_partial
#print axioms fragmentation_invariant_open_stream
#print axioms fragmentation_invariant_cuts_partial
#print axioms fragmentation_invariant_counterexample
#print axioms empty_eos_frame_partial
#print axioms empty_eos_adds_no_message_counterexample
#print axioms empty_eos_adds_no_message_counterexample_after_message
#print axioms passthrough_sink_stream
#print axioms passthrough_wire_roundtrip
#print axioms eos_exactly_once_after_last
#print axioms eos_exactly_once_empty_frame_partial
#print axioms non_grpc_untouched
#print axioms directions_independent
#print axioms facts_grpc_header_tests
#print axioms facts_grpc_content_type_test
#print axioms facts_grpc_length_arith
#print axioms facts_grpc_encoding_names
#print axioms facts_grpc_prefix_len
#print axioms facts_grpc_codec_symmetric
#print axioms streaming_eq_batch
#print axioms frames_eq_batch
#print axioms length_stays_uint32
#print axioms data_length_stays_uint32
#print axioms complete_message_is_delivered
#print axioms emit_prefix_reads_back
#print axioms emit_prefix_wraps
#print axioms emit_prefix_exact
#print axioms fresh_quiescent
#print axioms data_leaves_quiescent
#print axioms empty_frame_is_noop
#print axioms empty_frames_invisible
#print axioms insert_empty_frame
#print axioms sprinkled_empty_frames_equivalent
#print axioms header_literals
#print axioms encoding_value_table
#print axioms ctName_ne_geName
#print axioms grpcCT_spec
#print axioms ctSeps_eq
#print axioms isGrpcCT_iff
#print axioms grpc_detected_iff
#print axioms grpc_detected_anywhere
#print axioms detects_every_grpc_content_type
#print axioms detects_only_grpc_content_types
#print axioms lookalike_content_types_not_grpc
#print axioms scan_skips_other_fields
#print axioms scan_depends_on_encoding_fields_only
#print axioms scan_ok_iff
#print axioms encoding_is_last_grpc_encoding_field
#print axioms no_encoding_field_keeps_encoding
#print axioms unrecognised_encoding_is_error
#print axioms header_order_independent
#print axioms content_type_position_irrelevant
#print axioms header_enabled
#print axioms header_selects_last_encoding
#print axioms encoding_before_content_type_honoured
#print axioms header_keeps_reassembly_state
#print axioms grpc_subtype_is_processed
#print axioms block_without_encoding_keeps_it
#print axioms blocks_without_encoding_keep_it
#print axioms encoding_is_last_block_naming_one
#print axioms data_keeps_encodings
#print axioms streams_are_independent_from
#print axioms streams_are_independent
#print axioms interleaving_irrelevant
#print axioms non_grpc_stream_untouched_among_others
#print axioms silent_stream_stays_silent
