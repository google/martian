import Martian.Props.C02
open Martian.Props.C02
#print axioms reqmod_exactly_once
#print axioms reqmod_before_upstream
#print axioms resmod_exactly_once_unless_hijacked
#print axioms no_resmod_after_request_hijack
#print axioms same_context_for_request_and_response
#print axioms ctx_ids_pairwise_distinct
#print axioms ctx_table_empty_at_quiescence
#print axioms request_modifier_error_never_aborts
#print axioms response_modifier_error_never_aborts
#print axioms skip_roundtrip_zero_upstream_and_200_through_resmod
#print axioms hijack_stops_io
#print axioms set_is_monotone
#print axioms flags_after_calls
#print axioms calls_are_monotone
#print axioms call_order_is_irrelevant
#print axioms stripWarn_append
#print axioms stripWarn_tail
#print axioms nextOpen_setErr
#print axioms nextOpen_noErr
#print axioms handle_ignores_error_value
#print axioms modifier_error_value_is_irrelevant
#print axioms handle_error_only_adds_warning
#print axioms modifier_errors_only_add_warnings
#print axioms warning_is_added_whatever_the_headers
#print axioms warning_leaves_other_headers_alone
#print axioms facts_handle_action_order_is_the_models
#print axioms facts_handle_modifier_error_warns_then_hijack_check
#print axioms facts_resmod_sees_own_request
#print axioms facts_skip_roundtrip_is_synthetic_200
#print axioms facts_connect_paths_same_shape
#print axioms facts_loops_stop_on_hijack
#print axioms facts_modifier_error_never_leaves_its_branch
#print axioms facts_handle_sets_response_request
