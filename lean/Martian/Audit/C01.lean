import Martian.Props.C01
open Martian.Props.C01
#print axioms relay_one_to_one
#print axioms writeIdx_item
#print axioms writeIdx_tail
#print axioms writeIdx_run_ge
#print axioms relay_in_order
#print axioms response_is_origins
#print axioms served_prefix_is_until_first_close
#print axioms closes_iff_asked
#print axioms next_request_served_iff
#print axioms connection_closed_once_at_the_very_end
#print axioms chunked_body_identical_for_every_chunking
#print axioms rechunking_by_the_relay_preserves_body
#print axioms facts_one_read_one_roundtrip_one_write
#print axioms facts_request_body_drained_at_return
#print axioms facts_close_decision
#print axioms facts_serving_loop
#print axioms shouldClose_eq_asks
#print axioms closes_iff_asked_over_versions
#print axioms http10_without_keepalive_ends_the_connection
#print axioms http10_keepalive_keeps_the_connection
#print axioms http11_keeps_the_connection_by_default
#print axioms takeThrough_map_length
#print axioms served_until_a_side_asks
#print axioms close_decision_ignores_history
#print axioms takeThrough_none
#print axioms keepalive_has_no_request_budget
#print axioms long_history_of_non_asking_exchanges_is_served
#print axioms deadline_is_per_request
#print axioms deadline_armed_once_loses_the_tail_counterexample
#print axioms busy_connection_is_never_cut
#print axioms write_deadline_is_set_after_the_previous_exchange
#print axioms stale_write_deadline_cuts_a_busy_connection_counterexample
#print axioms kept_alive_response_is_self_delimiting
#print axioms client_is_told_when_the_proxy_closes
#print axioms relayed_response_says_close_only_when_closing
#print axioms synthetic_response_says_close_only_when_closing_partial
#print axioms synthetic_response_to_http10_keepalive_counterexample
#print axioms facts_relayed_response_is_the_origins_own
#print axioms facts_close_decision_inputs
#print axioms facts_deadline_rearmed_before_every_handle
#print axioms facts_default_transport_fields
#print axioms read_wire_request
#print axioms read_wire_request_any_chunking
#print axioms read_wire_response
#print axioms body_is_framing_independent
#print axioms pipelined_requests_split_exactly
#print axioms kept_alive_responses_split_exactly
#print axioms relayed_request_is_the_request
#print axioms relayed_response_is_the_response_partial
#print axioms relayed_head_response_is_the_response_partial
#print axioms head_chunked_relay_leaves_stray_crlf
