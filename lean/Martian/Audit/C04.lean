import Martian.Props.C04
open Martian.Props.C04
#print axioms tunnel_transparent_up
#print axioms tunnel_transparent_down
#print axioms nothing_retained_at_quiescence
#print axioms delivery_only_grows
#print axioms end_propagates_to_target
#print axioms end_propagates_to_client
#print axioms eof_propagates_to_target
#print axioms eof_propagates_to_client
#print axioms no_spurious_eof
#print axioms no_spurious_eof_clean
#print axioms dial_failure_502_warning
#print axioms dial_failure_answer_independent_of_error_kind
#print axioms answer_status_relayed
#print axioms every_2xx_establishes_the_tunnel
#print axioms dial_success_200
#print axioms both_released_iff_both_ended
#print axioms both_released_iff_both_finished
#print axioms legacy_buffered_pump_retains
#print axioms legacy_buffered_pump_counterexample
#print axioms destination_half_closed_whatever_the_reason
#print axioms pump_ends_on_eof_readErr_writeErr
#print axioms nothing_after_the_end
#print axioms final_close_is_graceful
#print axioms every_byte_before_close_reaches_target
#print axioms every_byte_before_close_reaches_client
#print axioms abortive_final_close_truncates
#print axioms abortive_final_close_invisible_when_nothing_outstanding
#print axioms abortive_final_close_counterexample
#print axioms facts_tunnel_pumps
#print axioms facts_closeWrite_half_closes
#print axioms facts_downstream_read_ahead_handed_over
#print axioms facts_half_close_whatever_the_reason
#print axioms facts_dial_failure_status_is_constant_502
#print axioms facts_tunnel_sockopts
#print axioms offered_eq_sentBy_of_no_deadline
#print axioms transparent_for_life_partial
#print axioms deadline_cuts_a_busy_tunnel
#print axioms transparent_for_life_counterexample
#print axioms facts_deadline_armed_once_per_exchange
#print axioms tunnels_are_independent
#print axioms Tun.run_eq
#print axioms interleaved_tunnel_logs_are_its_own
