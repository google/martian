import Martian.Props.C05
open Martian.Props.C05
#print axioms every_decrypted_request_is_https_secure_with_tls
#print axioms upstream_over_tls_and_hijack_decrypted
#print axioms secure_state_is_sticky
#print axioms non_tls_traffic_is_plain_insecure
#print axioms transparent_tls_listener_every_request_secure
#print axioms connect_then_tunnel_same_connection
#print axioms facts_secure_marking_precedes_scheme
#print axioms facts_tunnel_served_on_decrypted_connection
#print axioms facts_req_tls_comes_from_handles_connection
#print axioms reqmod_reflects_state
#print axioms request_tls_state_is_the_innermost_sessions
#print axioms tunnel_request_carries_its_tunnels_session
#print axioms tunnel_request_never_carries_the_listeners_session
#print axioms hijacker_is_handed_the_innermost_tunnels_connection
#print axioms second_connect_inside_tunnel_has_its_own_session
#print axioms cleartext_inside_tls_listener_carries_the_listeners_session
#print axioms cleartext_after_mitm_connect_has_no_tls_state
#print axioms failed_handshake_changes_no_session_state
#print axioms after_failed_handshake_traffic_is_plain
#print axioms failed_handshake_inside_tunnel_keeps_the_tunnels_session
#print axioms session_values_survive_the_connection
#print axioms markinsecure_lasts_until_the_next_request
#print axioms connections_are_independent
#print axioms new_connection_starts_plain
#print axioms secure_upstream_is_tls_or_nothing
#print axioms failed_secure_round_trip_is_a_502
