import Martian.Props.C15
open Martian.Props.C15
#print axioms snapshot_is_wire_partial
#print axioms snapshot_lacks_final_crlf
#print axioms snapshot_is_wire_counterexample
#print axioms reader_sections_partition
#print axioms decode_reader_returns_body
#print axioms logger_identity
#print axioms logging_preserves_header_value_lists
#print axioms skip_logging_records_nothing
#print axioms unskipped_is_recorded
#print axioms logger_identity_with_errors
#print axioms logger_error_records_nothing
#print axioms skip_logging_records_nothing_with_errors
#print axioms unskipped_without_error_is_recorded
#print axioms logMsgT_ok
#print axioms logger_errors_are_classified
#print axioms facts_loggers_ask_skip_logging_first
#print axioms facts_flag_setters_only_set
#print axioms logging_preserves_body_faults
#print axioms logging_never_masks_body_faults
#print axioms logging_preserves_body_faults_full
#print axioms unrepaired_snapshot_loses_consumed_bytes
#print axioms failed_body_read_records_nothing
#print axioms logFault_clean
#print axioms flags_accumulate
#print axioms mark_idempotent
#print axioms skip_logging_records_nothing_marks
#print axioms marked_exchange_is_not_recorded
#print axioms held_messages_are_isolated
#print axioms held_messages_are_isolated_from
#print axioms pooled_buffers_break_isolation
#print axioms request_snapshot_reparses
#print axioms wire_request_reparses
#print axioms response_snapshot_reparses
#print axioms reparsed_request_fields
#print axioms reparsed_response_fields
#print axioms reparsed_request_header_values
#print axioms reparsed_response_header_values
#print axioms request_in_normal_form_reparses_to_itself
#print axioms response_in_normal_form_reparses_to_itself
#print axioms chunked_trailer_snapshot_does_not_reparse
