import Martian.Props.C16
open Martian.Props.C16
#print axioms request_fields_equal
#print axioms response_fields_equal
#print axioms header_list_includes_host_cl_te
#print axioms postdata_is_deframed_body
#print axioms chunk_framing_is_not_body
#print axioms content_is_decoded_body_with_true_size
#print axioms capture_follows_options
#print axioms uncaptured_has_no_body
#print axioms logged_content_is_base64
#print axioms late_invalid_byte_is_not_text
#print axioms late_invalid_byte_is_base64
#print axioms facts_header_map_fields_overwrite_map_keys
#print axioms facts_postdata_validity_is_of_the_whole_text
#print axioms wire_head_is_wire_fields
#print axioms header_list_is_what_the_wire_carries
#print axioms absent_field_lists_the_maps_lines
#print axioms ordinary_fields_are_the_maps
#print axioms json_string_roundtrip_image
#print axioms json_string_roundtrip
#print axioms json_string_roundtrip_iff
#print axioms json_string_image_is_valid
#print axioms postdata_roundtrip_of_coder
#print axioms postdata_json_roundtrip_image
#print axioms sanitizePD_eq_iff
#print axioms postdata_json_roundtrip
#print axioms postdata_json_roundtrip_iff
#print axioms postdata_json_roundtrip_counterexample
#print axioms content_json_roundtrip
#print axioms splitPair_cons
#print axioms split_pair_at_first_equals
#print axioms split_pair_without_equals
#print axioms split_pair_loses_nothing
