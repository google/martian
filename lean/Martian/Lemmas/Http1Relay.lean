import Martian.Lemmas.Http1Wire
/-!
The relay functions (`relayRequest`, `relayResponse`: what `martian.Proxy.handle` + `Request.write` /
`Response.Write` make of a parsed message) composed with the serialiser and the reader.
-/
namespace Martian.Http1
open Martian Martian.Go Martian.MessageView

/-- The field names the relay rewrites or drops on a request (the list `relayRequest` filters the
header by, and `Connection`, to which `connCloseField` may add `close`): everything else is end-to-end. -/
def reqRewritten : List Bytes := [hostKey, uaKey, clKey, teKey, trailerKey, connKey]
/-- The field names the relay rewrites or drops on a response (`relayResponse`'s filter list, and `Connection`). -/
def resRewritten : List Bytes := [clKey, teKey, trailerKey, connKey]

theorem vals_connCloseField (c : Bool) (h : List KV) (k : Bytes) (hk : (connKey == k) = false) :
    vals (connCloseField c h) k = [] := by
  unfold connCloseField; split <;> simp [vals_cons, hk]

theorem vals_trailerField (c : Bool) (d : Option (List Bytes)) (k : Bytes) (hk : (trailerKey == k) = false) :
    vals (trailerField c d) k = [] := by
  unfold trailerField
  cases d with
  | none => rfl
  | some ks => simp only; split <;> simp [vals_cons, hk]

theorem vals_relayed {pre : List KV} {c : Bool} {h : List KV} {ch : Bool} {d : Option (List Bytes)}
    {l : List KV} {ex : List Bytes} {k : Bytes} (hpre : vals pre k = [])
    (hconn : (k == connKey) = false) (htr : (k == trailerKey) = false) (hk : ex.contains k = false) :
    vals (pre ++ connCloseField c h ++ trailerField ch d ++ l.filter fun kv => !ex.contains kv.1) k = vals l k := by
  have e1 := vals_connCloseField c h k (by rw [BEq.comm]; exact hconn)
  have e2 := vals_trailerField ch d k (by rw [BEq.comm]; exact htr)
  simp only [vals_append, hpre, e1, e2, List.nil_append, vals_filter_notin l ex k hk]

theorem relayRequest_e2e_vals (p : Parsed) (x : Relayed) (hx : relayRequest p = some x) (k : Bytes)
    (hk : reqRewritten.contains k = false) : vals x.msg.hdr k = vals p.msg.hdr k := by
  simp only [relayRequest] at hx
  split at hx
  · cases hx
  · simp only [Option.some.injEq] at hx
    subst hx
    simp only [reqRewritten, List.contains_cons, List.contains_nil, Bool.or_false, Bool.or_eq_false_iff] at hk
    obtain ⟨hhost, hua, hcl, hte, htr, hconn⟩ := hk
    refine vals_relayed ?_ hconn htr
      (by simp only [List.contains_cons, List.contains_nil, hhost, hua, hcl, hte, htr, Bool.or_false])
    apply vals_eq_nil_of_has
    rw [has_eq_false_iff]
    intro kv hkv
    -- `kv` is the one `User-Agent` field the relay writes: the default, or the client's, cleaned
    have : kv.1 = uaKey := by
      split at hkv
      · simp at hkv; rw [hkv]
      · split at hkv <;> simp at hkv
        rw [hkv]
    rw [this, BEq.comm]; exact hua

theorem relayResponse_e2e_vals (meth : Bytes) (closing : Bool) (p : Parsed) (x : Relayed)
    (hx : relayResponse meth closing p = some x) (k : Bytes)
    (hk : resRewritten.contains k = false) : vals x.msg.hdr k = vals p.msg.hdr k := by
  simp only [relayResponse] at hx
  split at hx
  · cases hx
  · simp only [Option.some.injEq] at hx
    subst hx
    simp only [resRewritten, List.contains_cons, List.contains_nil, Bool.or_false, Bool.or_eq_false_iff] at hk
    obtain ⟨hcl, hte, htr, hconn⟩ := hk
    exact vals_relayed (pre := []) rfl hconn htr
      (by simp only [List.contains_cons, List.contains_nil, hcl, hte, htr, Bool.or_false])

theorem relayRequest_reread_vals (p : Parsed) (x : Relayed) (hx : relayRequest p = some x)
    (hreq : x.msg.isReq = true) (k : Bytes) (hk : reqRewritten.contains k = false) :
    vals (parsedHdr x.msg) k = vals p.msg.hdr k := by
  have hk' := hk
  simp only [reqRewritten, List.contains_cons, List.contains_nil, Bool.or_false, Bool.or_eq_false_iff] at hk'
  obtain ⟨hhost, -, hcl, hte, -, -⟩ := hk'
  rw [vals_parsedHdr x.msg k (by
      simp only [exclOf, hreq, if_true, List.contains_cons, List.contains_nil, hhost, hcl, hte, Bool.or_false])
    (by rw [BEq.comm]; exact hcl)]
  exact relayRequest_e2e_vals p x hx k hk

theorem relayResponse_reread_vals (meth : Bytes) (closing : Bool) (p : Parsed) (x : Relayed)
    (hx : relayResponse meth closing p = some x) (hreq : x.msg.isReq = false) (k : Bytes)
    (hk : resRewritten.contains k = false) : vals (resHdr x.msg) k = vals p.msg.hdr k := by
  have hk' := hk
  simp only [resRewritten, List.contains_cons, List.contains_nil, Bool.or_false, Bool.or_eq_false_iff] at hk'
  obtain ⟨hcl, hte, -, hconn⟩ := hk'
  rw [vals_resHdr x.msg k (by
      simp only [exclOf, hreq, Bool.false_eq_true, if_false, List.contains_cons, List.contains_nil, hcl, hte,
        Bool.or_false])
    (by rw [BEq.comm]; exact hcl) (by rw [BEq.comm]; exact hconn)]
  exact relayResponse_e2e_vals meth closing p x hx k hk

theorem relayRequest_fields (p : Parsed) (x : Relayed) (hx : relayRequest p = some x) :
    x.msg.method = p.msg.method ∧ x.msg.url = originForm p.msg.url ∧ x.msg.body = p.msg.body ∧
    x.msg.host = p.msg.host ∧ isChunked x.msg.te = isChunked p.msg.te ∧ x.noBody = false := by
  simp only [relayRequest] at hx
  split at hx
  · cases hx
  · simp only [Option.some.injEq] at hx
    subst hx
    refine ⟨rfl, rfl, rfl, rfl, ?_, rfl⟩
    cases isChunked p.msg.te <;> simp [isChunked, chunkedTok]

theorem relayResponse_fields (meth : Bytes) (closing : Bool) (p : Parsed) (x : Relayed)
    (hx : relayResponse meth closing p = some x) :
    x.msg.code = p.msg.code ∧ x.msg.major = p.msg.major ∧ x.msg.minor = p.msg.minor ∧
    (meth == headTok) = x.noBody ∧ ((meth == headTok) = false → x.msg.body = p.msg.body) ∧
    isChunked x.msg.te = isChunked p.msg.te := by
  simp only [relayResponse] at hx
  split at hx
  · cases hx
  · simp only [Option.some.injEq] at hx
    subst hx
    refine ⟨rfl, rfl, rfl, rfl, ?_, ?_⟩
    · intro h; simp [h]
    · cases isChunked p.msg.te <;> simp [isChunked, chunkedTok]

end Martian.Http1
