import Martian.Model.Har
import Martian.Lemmas.MessageView
/-! Lemmas for C16: base64 round trip, ASCII ⇒ valid UTF-8, `Header.Map` and wire field membership. -/
namespace Martian.Har
open Martian Martian.Go Martian.MessageView

theorem b64Val_b64Char : ∀ i, i < 64 → b64Val (b64Char i) = some i := by decide +kernel
theorem b64Char_ne_pad : ∀ i, i < 64 → (b64Char i == pad) = false := by decide +kernel

theorem b64Char_ascii (i : Nat) : b64Char i < 0x80 := by
  by_cases h : i < 64
  · exact (by decide +kernel : ∀ i, i < 64 → b64Char i < 0x80) i h
  · unfold b64Char
    rw [if_neg (by omega), if_neg (by omega), if_neg (by omega), if_neg (by omega)]
    decide

theorem b64Decode_quad {i0 i1 i2 i3 : Nat} (h0 : i0 < 64) (h1 : i1 < 64) (h2 : i2 < 64) (h3 : i3 < 64)
    {rest r : Bytes} (hr : b64Decode rest = some r) :
    b64Decode (b64Char i0 :: b64Char i1 :: b64Char i2 :: b64Char i3 :: rest) =
      some (UInt8.ofNat (i0 * 4 + i1 / 16) :: UInt8.ofNat (i1 % 16 * 16 + i2 / 4) ::
        UInt8.ofNat (i2 % 4 * 64 + i3) :: r) := by
  cases rest with
  | nil =>
    cases hr
    simp only [b64Decode, b64Val_b64Char, b64Char_ne_pad, h0, h1, h2, h3]
    rfl
  | cons y ys => simp only [b64Decode, b64Val_b64Char, h0, h1, h2, h3, hr]

theorem ofNat_eq (a : UInt8) (n : Nat) (h : n = a.toNat) : UInt8.ofNat n = a := by
  subst h; exact UInt8.ofNat_toNat

theorem mul_add_divmod (x y m : Nat) (h : y < m) : (x * m + y) / m = x ∧ (x * m + y) % m = y := by
  rw [Nat.mul_comm, Nat.mul_add_div (by omega), Nat.mul_add_mod, Nat.div_eq_of_lt h, Nat.mod_eq_of_lt h]
  exact ⟨rfl, rfl⟩

-- `x`, `y`, `z`: the bits a sextet shares with the neighbouring byte, `0` where padding stands for that byte
theorem sextet1 (a : UInt8) (y : Nat) (hy : y < 16) :
    a.toNat / 4 < 64 ∧ a.toNat % 4 * 16 + y < 64 ∧
      UInt8.ofNat (a.toNat / 4 * 4 + (a.toNat % 4 * 16 + y) / 16) = a := by
  refine ⟨Nat.div_lt_of_lt_mul a.toNat_lt, ?_, ofNat_eq a _ ?_⟩
  · have := Nat.mod_lt a.toNat (show 4 > 0 by decide)
    omega
  · rw [(mul_add_divmod _ _ _ hy).1, Nat.div_add_mod']

theorem sextet2 (x : Nat) (b : UInt8) (z : Nat) (hz : z < 4) :
    b.toNat / 16 < 16 ∧ b.toNat % 16 * 4 + z < 64 ∧
      UInt8.ofNat ((x * 16 + b.toNat / 16) % 16 * 16 + (b.toNat % 16 * 4 + z) / 4) = b := by
  have hb : b.toNat / 16 < 16 := Nat.div_lt_of_lt_mul b.toNat_lt
  refine ⟨hb, ?_, ofNat_eq b _ ?_⟩
  · have := Nat.mod_lt b.toNat (show 16 > 0 by decide)
    omega
  · rw [(mul_add_divmod _ _ _ hb).2, (mul_add_divmod _ _ _ hz).1, Nat.div_add_mod']

theorem sextet3 (x : Nat) (c : UInt8) :
    c.toNat / 64 < 4 ∧ c.toNat % 64 < 64 ∧ UInt8.ofNat ((x * 4 + c.toNat / 64) % 4 * 64 + c.toNat % 64) = c := by
  have hc : c.toNat / 64 < 4 := Nat.div_lt_of_lt_mul c.toNat_lt
  refine ⟨hc, Nat.mod_lt _ (by decide), ofNat_eq c _ ?_⟩
  rw [(mul_add_divmod _ _ _ hc).2, Nat.div_add_mod']

theorem b64_roundtrip (x : Bytes) : b64Decode (b64Encode x) = some x := by
  fun_induction b64Encode x with
  | case1 => rfl
  | case2 a =>
    have ⟨h0, h1, e1⟩ := sextet1 a 0 (by decide)
    rw [Nat.add_zero] at h1 e1
    simp only [b64Decode, b64Val_b64Char, h0, h1, e1]
    rfl
  | case3 a b =>
    have ⟨hb, h2, e2⟩ := sextet2 (a.toNat % 4) b 0 (by decide)
    have ⟨h0, h1, e1⟩ := sextet1 a _ hb
    rw [Nat.add_zero] at h2 e2
    simp only [b64Decode, b64Val_b64Char, b64Char_ne_pad, h0, h1, h2, e1, e2]
    rfl
  | case4 a b c rest ih =>
    have ⟨hc, h3, e3⟩ := sextet3 (b.toNat % 16) c
    have ⟨hb, h2, e2⟩ := sextet2 (a.toNat % 4) b _ hc
    have ⟨h0, h1, e1⟩ := sextet1 a _ hb
    rw [b64Decode_quad h0 h1 h2 h3 ih, e1, e2, e3]

theorem b64Encode_ascii (x : Bytes) : ∀ c ∈ b64Encode x, c < 0x80 := by
  have hp : pad < 0x80 := by decide
  fun_induction b64Encode x with
  | case1 => nofun
  | case2 a => simp only [List.forall_mem_cons, b64Char_ascii, hp, true_and]; nofun
  | case3 a b => simp only [List.forall_mem_cons, b64Char_ascii, hp, true_and]; nofun
  | case4 a b c rest ih => simp only [List.forall_mem_cons, b64Char_ascii, true_and]; exact ih

theorem utf8Valid_cons_ascii (c : UInt8) (r : Bytes) (hc : c < 0x80) : utf8Valid (c :: r) = utf8Valid r := by
  conv => lhs; unfold utf8Valid
  simp [hc]

theorem utf8Valid_ascii_append (s t : Bytes) (h : ∀ c ∈ s, c < 0x80) : utf8Valid (s ++ t) = utf8Valid t := by
  induction s with
  | nil => rfl
  | cons c r ih =>
    rw [List.cons_append, utf8Valid_cons_ascii c _ (h c List.mem_cons_self)]
    exact ih fun x hx => h x (List.mem_cons_of_mem _ hx)

theorem utf8Valid_of_ascii (s : Bytes) (h : ∀ c ∈ s, c < 0x80) : utf8Valid s = true := by
  rw [← s.append_nil, utf8Valid_ascii_append s [] h]
  rfl

theorem base64Tok_eq : base64Tok = [98, 97, 115, 101, 54, 52] := by decide +kernel
theorem base64Tok_valid : utf8Valid base64Tok = true := by rw [base64Tok_eq]; rfl
theorem nil_ne_base64Tok : (([] : Bytes) == base64Tok) = false := by rw [base64Tok_eq]; rfl

theorem mem_setKey (h : List KV) (k k' v : Bytes) (o : Option (List Bytes)) :
    (k', v) ∈ setKey h k o ↔
      if k' = k then (match o with | some vs => v ∈ vs | none => (k', v) ∈ h) else (k', v) ∈ h := by
  cases o with
  | none => exact ite_self _ ▸ Iff.rfl
  | some vs =>
    by_cases e : k' = k
    · simp [setKey, e]
    · simp [setKey, e, Ne.symm e]

theorem fieldKeys_distinct : hostKey ≠ clKey ∧ hostKey ≠ teKey ∧ clKey ≠ teKey := by decide +kernel

theorem mem_headerMap (m : Msg) (k v : Bytes) :
    (k, v) ∈ headerMap m ↔
      match fieldOf m k with
      | some vs => v ∈ vs
      | none => (k, v) ∈ m.hdr := by
  obtain ⟨hHC, hHT, hCT⟩ := fieldKeys_distinct
  simp only [headerMap, fieldOf, beq_iff_eq, mem_setKey]
  -- as constants, every comparison of two keys would unfold the strings
  generalize hostKey = kH, clKey = kC, teKey = kT at *
  by_cases hT : k = kT
  · subst hT
    simp only [hHT.symm, hCT.symm, ↓reduceIte]
  · by_cases hC : k = kC
    · subst hC
      simp only [hT, hHC.symm, ↓reduceIte]
    · simp only [hT, hC, ↓reduceIte]
      split <;> rfl

theorem fieldOf_ordinary (m : Msg) (k : Bytes)
    (hk : k ≠ clKey ∧ k ≠ teKey ∧ (m.isReq = true → k ≠ hostKey)) : fieldOf m k = none := by
  simp only [fieldOf, beq_iff_eq, if_neg hk.1, if_neg hk.2.1, ite_eq_right_iff, Bool.and_eq_true]
  exact fun e h => absurd e (hk.2.2 h.1)

theorem fieldOf_some (m : Msg) (k : Bytes) (vs : List Bytes) (hf : fieldOf m k = some vs) :
    (k = hostKey ∧ m.isReq = true ∧ m.host ≠ [] ∧ vs = [m.host]) ∨
    (k = clKey ∧ 0 < m.cl ∧ vs = [itoa m.cl]) ∨
    (k = teKey ∧ m.te ≠ [] ∧ vs = m.te) := by
  simp only [fieldOf, beq_iff_eq] at hf
  by_cases hH : k = hostKey
  · simp [if_pos hH] at hf
    exact .inl ⟨hH, hf.1.1, hf.1.2, hf.2.symm⟩
  · by_cases hC : k = clKey
    · simp [if_neg hH, if_pos hC] at hf
      exact .inr (.inl ⟨hC, hf.1, hf.2.symm⟩)
    · simp [if_neg hH, if_neg hC] at hf
      exact .inr (.inr ⟨hf.1, hf.2.1, hf.2.2.symm⟩)

theorem mem_wireFields (m : Msg) (k v : Bytes) :
    (k, v) ∈ wireFields m ↔
      (m.isReq = true ∧ m.host ≠ [] ∧ k = hostKey ∧ v = m.host) ∨
      (m.te ≠ [] ∧ k = teKey ∧ v = join m.te (strBytes ", ")) ∨
      (isChunked m.te = false ∧ 0 ≤ m.cl ∧ k = clKey ∧ v = itoa m.cl) ∨
      ((k, v) ∈ m.hdr ∧ (m.isReq = true → k ≠ hostKey) ∧ k ≠ clKey ∧ k ≠ teKey) := by
  have hx : (!(if m.isReq then [hostKey, clKey, teKey] else [clKey, teKey]).contains k) = true ↔
      (m.isReq = true → k ≠ hostKey) ∧ k ≠ clKey ∧ k ≠ teKey := by
    cases m.isReq <;> simp
  simp only [wireFields, List.mem_append, List.mem_ite_nil_right, List.mem_ite_nil_left, List.mem_singleton,
    List.mem_filter, mem_sortKV, hx, Prod.mk.injEq, Bool.and_eq_true, Bool.not_eq_true', decide_eq_true_eq,
    List.isEmpty_eq_false_iff, Bool.not_eq_true, or_assoc, and_assoc]

theorem newResponse_some (infl : Bytes → Bytes → Option Bytes) (wb : Bool) (m : Msg) (r : Response)
    (h : newResponse infl wb m = some r) :
    ∃ t, (if wb then decodeBody infl (snapshot noOpts m) = some t else t = []) ∧
      r = { status := m.code, httpVersion := protoBytes m.major m.minor, headers := harHeaders m,
            redirectURL := if 300 ≤ m.code && m.code < 400 then headerGet m.hdr locationKey else [],
            bodySize := m.cl,
            content := { size := t.length, mime := headerGet m.hdr ctKey, text := t, base64 := true } } := by
  cases wb with
  | false => exact ⟨[], rfl, (Option.some.inj h).symm⟩
  | true =>
    simp only [newResponse, if_true, Option.map_eq_some_iff] at h
    obtain ⟨_, ⟨t, ht, rfl⟩, rfl⟩ := h
    exact ⟨t, ht, rfl⟩

end Martian.Har
