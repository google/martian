/-!
Base-256 arithmetic of a big-endian `uint32`, shared by the gRPC length prefix (written by
`Grpc.putBe32`, read by `Grpc.be32`) and the marbl length and index fields (written by `Marbl.be32`,
read by `Marbl.rd32`): both writers give the digits `n / 256^k % 256`; `Grpc.be32` reads them back
by weight, `Marbl.rd32` in Horner form.
-/
namespace Martian.Be32

/-- digit of weight `w` of `n` is that of `n % 2^32`, for `2^32 = w * (256 * m)` -/
theorem digit_mod (n w m : Nat) : n % (w * (256 * m)) / w % 256 = n / w % 256 := by
  rw [Nat.mod_mul_right_div_self, Nat.mod_mul_right_mod]

theorem mod_two32 (n : Nat) :
    n % 4294967296 = n % 256 + 256 * (n / 256 % 256 + 256 * (n / 65536 % 256 + 256 * (n / 16777216 % 256))) := by
  rw [show 4294967296 = 256 * (256 * (256 * 256)) from rfl, Nat.mod_mul, Nat.mod_mul, Nat.mod_mul,
    Nat.div_div_eq_div_mul, Nat.div_div_eq_div_mul]

theorem horner (a b c d : Nat) : ((a * 256 + b) * 256 + c) * 256 + d = d + 256 * (c + 256 * (b + 256 * a)) := by
  simp only [Nat.mul_comm _ 256, Nat.add_comm _ d, Nat.add_comm _ c, Nat.add_comm _ b]

theorem weights (a b c d : Nat) :
    a * 16777216 + b * 65536 + c * 256 + d = d + 256 * (c + 256 * (b + 256 * a)) := by
  simp only [Nat.mul_add, ← Nat.mul_assoc, Nat.reduceMul]
  ac_rfl

end Martian.Be32
