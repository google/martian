import Martian.Lemmas.H2Relay
/-!
Helper lemmas for the SETTINGS theorems of C09 (`Props/C09/Settings.lean`) and the HPACK
table-size theorems of C08 (`Props/C08/Hpack.lean`): how the two relays and their HPACK states sit
side by side in `Sys`, what the SETTINGS loop leaves alone, which SETTINGS values each relay has in
force after a frame (`Sys.inForce`), and the sender-side notion of a header block an encoder may
legally emit.
-/
namespace Martian.H2Relay
open Martian Martian.H2Hpack

@[simp] theorem addWin_initWin (r : Relay) (s : Nat) (inc : Int) : (addWin r s inc).initWin = r.initWin := rfl
@[simp] theorem addWin_maxFrame (r : Relay) (s : Nat) (inc : Int) : (addWin r s inc).maxFrame = r.maxFrame := rfl

@[simp] theorem relay_setRelay_same (s : Sys) (d : Dir) (r : Relay) : (s.setRelay d r).relay d = r := by
  cases d <;> rfl
@[simp] theorem relay_setRelay_peer (s : Sys) (d : Dir) (r : Relay) : (s.setRelay d r).relay d.peer = s.relay d.peer := by
  cases d <;> rfl
@[simp] theorem relay_setRelay_peer' (s : Sys) (d : Dir) (r : Relay) : (s.setRelay d.peer r).relay d = s.relay d := by
  cases d <;> rfl
@[simp] theorem hp_setRelay (s : Sys) (d e : Dir) (r : Relay) : (s.setRelay d r).hp e = s.hp e := by
  cases d <;> cases e <;> rfl
@[simp] theorem hp_on (s : Sys) (d e : Dir) (i : RIn) : (s.on d i).hp e = s.hp e := by simp [Sys.on]
@[simp] theorem relay_on_same (s : Sys) (d : Dir) (i : RIn) : (s.on d i).relay d = rstep (s.relay d) i := by
  simp [Sys.on]
@[simp] theorem relay_on_peer (s : Sys) (d : Dir) (i : RIn) : (s.on d i).relay d.peer = s.relay d.peer := by
  simp [Sys.on]
@[simp] theorem relay_on_peer' (s : Sys) (d : Dir) (i : RIn) : (s.on d.peer i).relay d = s.relay d := by
  simp [Sys.on]
@[simp] theorem relay_setHp (s : Sys) (d e : Dir) (h : Hp) : (s.setHp d h).relay e = s.relay e := by
  cases d <;> cases e <;> rfl
@[simp] theorem hp_setHp_same (s : Sys) (d : Dir) (h : Hp) : (s.setHp d h).hp d = h := by cases d <;> rfl
@[simp] theorem hp_setHp_peer (s : Sys) (d : Dir) (h : Hp) : (s.setHp d h).hp d.peer = s.hp d.peer := by
  cases d <;> rfl
@[simp] theorem hp_setHp_peer' (s : Sys) (d : Dir) (h : Hp) : (s.setHp d.peer h).hp d = s.hp d := by
  cases d <;> rfl
@[simp] theorem relay_setErr (s : Sys) (d e : Dir) : (s.setErr d).relay e = s.relay e := by
  cases d <;> cases e <;> rfl
@[simp] theorem hp_setErr (s : Sys) (d e : Dir) : (s.setErr d).hp e = s.hp e := by
  cases d <;> cases e <;> rfl
@[simp] theorem peer_peer (d : Dir) : d.peer.peer = d := by cases d <;> rfl
theorem peer_ne (d : Dir) : d.peer ≠ d := by cases d <;> simp [Dir.peer]

@[simp] theorem relay_encodeBlock (s : Sys) (d e : Dir) : (s.encodeBlock d).relay e = s.relay e := by
  cases d <;> cases e <;> rfl
theorem hp_encodeBlock_same (s : Sys) (d : Dir) :
    (s.encodeBlock d).hp d = { (s.hp d) with enc := (s.hp d).enc.flush.1 } := by
  cases d <;> rfl
@[simp] theorem hp_encodeBlock_peer (s : Sys) (d : Dir) : (s.encodeBlock d).hp d.peer = s.hp d.peer := by
  cases d <;> rfl
@[simp] theorem hp_encodeBlock_peer' (s : Sys) (d : Dir) : (s.encodeBlock d.peer).hp d = s.hp d := by
  cases d <;> rfl

theorem lastOf_getD_cons (id i v : Nat) (rest : List (Nat × Nat)) (a : Nat) :
    (lastOf id ((i, v) :: rest)).getD a = (lastOf id rest).getD (if i = id then v else a) := by
  simp only [lastOf]
  cases lastOf id rest with
  | some w => rfl
  | none => dsimp only; split <;> rfl

theorem settingsLoop_frame {α : Type} (f : Sys → α) (p : Dir)
    (h5 : ∀ s v, f (s.on p (.maxFrame v)) = f s) (h1 : ∀ s v, f (s.setHp p ((s.hp p).updateTableSize v)) = f s)
    (s : Sys) (kvs : List (Nat × Nat)) : f (settingsLoop s p kvs) = f s := by
  induction kvs generalizing s with
  | nil => rfl
  | cons kv rest ih =>
    rw [settingsLoop, ih]
    split
    · exact h5 s _
    · split
      · exact h1 s _
      · rfl

theorem Dir.eq_or_eq_peer (q d : Dir) : q = d ∨ q = d.peer := by cases q <;> cases d <;> simp [Dir.peer]

theorem settings_mem_dispatch {d : DState} {f : Frame} {kvs : List (Nat × Nat)}
    (h : Call.settings kvs ∈ (dispatch d f).2) : f = .settings kvs := by
  revert h
  fun_cases dispatch d f <;> simp
  -- what is left is the SETTINGS frame
  exact Eq.symm

/-- One frame read by the relay of direction `d`, with the two implementation choices of that step. -/
structure Ev where
  d : Dir
  f : Frame
  enc : Bytes
  order : List Nat

/-- A history of frames through the two relays (`none`: a Go panic on the way). -/
def runSys : Sys → List Ev → Option Sys
  | s, [] => some s
  | s, e :: es =>
    match sysStep s e.d e.f e.enc e.order with
    | none => none
    | some s' => runSys s' es

@[simp] theorem flush_maxSize (e : EncSig) : e.flush.1.maxSize = e.maxSize := by
  unfold EncSig.flush; split <;> rfl
@[simp] theorem flush_limit (e : EncSig) : e.flush.1.limit = e.limit := by
  unfold EncSig.flush; split <;> rfl
@[simp] theorem setMax_limit (e : EncSig) (v : Nat) : (e.setMax v).limit = e.limit := rfl
theorem setMax_maxSize (e : EncSig) (v : Nat) (h : v ≤ e.limit) : (e.setMax v).maxSize = v := by
  simp only [EncSig.setMax]
  split
  · omega
  · rfl

/-- MAX_FRAME_SIZE and HEADER_TABLE_SIZE are handed on inside the loop, value by value: the last one stays. -/
theorem settingsLoop_lastOf (s : Sys) (p : Dir) (kvs : List (Nat × Nat))
    (hlim : ∀ kv ∈ kvs, kv.1 = 1 → kv.2 ≤ (s.hp p).enc.limit) :
    ((settingsLoop s p kvs).relay p).maxFrame = (lastOf 5 kvs).getD (s.relay p).maxFrame ∧
    ((settingsLoop s p kvs).hp p).enc.maxSize = (lastOf 1 kvs).getD (s.hp p).enc.maxSize := by
  induction kvs generalizing s with
  | nil => exact ⟨rfl, rfl⟩
  | cons kv rest ih =>
    obtain ⟨id, x⟩ := kv
    have hrest : ∀ kv ∈ rest, kv.1 = 1 → kv.2 ≤ (s.hp p).enc.limit := fun kv h => hlim kv (List.mem_cons_of_mem _ h)
    simp only [settingsLoop, lastOf_getD_cons]
    split
    · subst id
      obtain ⟨h1, h2⟩ := ih (s.on p (.maxFrame x)) (by simpa only [hp_on] using hrest)
      rw [h1, h2]
      simp [rstep_maxFrame]
    · split
      · subst id
        have hx : x ≤ (s.hp p).enc.limit := hlim (1, x) (by simp) rfl
        obtain ⟨h1, h2⟩ := ih (s.setHp p ((s.hp p).updateTableSize x))
          (by simpa only [hp_setHp_same, Hp.updateTableSize, setMax_limit] using hrest)
        rw [h1, h2]
        simp [Hp.updateTableSize, setMax_maxSize _ _ hx]
      · obtain ⟨h1, h2⟩ := ih s hrest
        rw [h1, h2]
        simp [*]

theorem settingsLoop_untouched (s : Sys) (p : Dir) (kvs : List (Nat × Nat)) :
    let s' := settingsLoop s p kvs
    ((s'.relay p).initWin, (s'.relay p).emitted, (s'.relay p).ob, (s'.relay p).connWin) =
      ((s.relay p).initWin, (s.relay p).emitted, (s.relay p).ob, (s.relay p).connWin) ∧
    (s'.relay p.peer, s'.hp p.peer, (s'.hp p).enc.limit) = (s.relay p.peer, s.hp p.peer, (s.hp p).enc.limit) :=
  ⟨settingsLoop_frame (fun s => ((s.relay p).initWin, (s.relay p).emitted, (s.relay p).ob, (s.relay p).connWin)) p
     (fun s v => by simp [rstep]) (fun s v => by simp) s kvs,
   settingsLoop_frame (fun s => (s.relay p.peer, s.hp p.peer, (s.hp p).enc.limit)) p
     (fun s v => by simp) (fun s v => by simp [Hp.updateTableSize]) s kvs⟩

theorem foldl_setMax (vs : List Nat) (e : EncSig) (hv : ∀ v ∈ vs, v ≤ e.limit) :
    (vs.foldl EncSig.setMax e).limit = e.limit ∧
    (vs.foldl EncSig.setMax e).maxSize = vs.getLast?.getD e.maxSize ∧
    (vs.foldl EncSig.setMax e).pending = (e.pending || !vs.isEmpty) ∧
    ∀ m, (vs.foldl EncSig.setMax e).minSize = some m → m ∈ vs ∨ e.minSize = some m := by
  induction vs generalizing e with
  | nil => simp
  | cons v rest ih =>
    have hv0 : v ≤ e.limit := hv v (by simp)
    obtain ⟨h1, h2, h3, h4⟩ := ih (e.setMax v) fun x hx => hv x (by simp [hx])
    refine ⟨h1, ?_, by simpa [EncSig.setMax] using h3, fun m hm => ?_⟩
    · rw [List.foldl_cons, h2, setMax_maxSize e v hv0, List.getLast?_cons]; rfl
    · rcases h4 m hm with h | h
      · exact Or.inl (by simp [h])
      · have hnot : ¬ v > e.limit := by omega
        simp only [EncSig.setMax, hnot, if_false] at h
        cases he : e.minSize with
        | none => rw [he] at h; cases h; exact Or.inl (by simp)
        | some m0 =>
          rw [he] at h
          dsimp only at h
          by_cases hlt : v < m0
          · rw [if_pos hlt] at h; cases h; exact Or.inl (by simp)
          · rw [if_neg hlt] at h; exact Or.inr h

@[simp] theorem relay_encodeFull (s : Sys) (d e : Dir) (b : Bool) : (s.encodeFull d b).relay e = s.relay e := by
  cases b <;> cases d <;> cases e <;> rfl
@[simp] theorem hp_encodeFull_peer (s : Sys) (d : Dir) (b : Bool) : (s.encodeFull d b).hp d.peer = s.hp d.peer := by
  cases b <;> cases d <;> rfl
@[simp] theorem hp_encodeFull_peer' (s : Sys) (d : Dir) (b : Bool) : (s.encodeFull d.peer b).hp d = s.hp d := by
  cases b <;> cases d <;> rfl
@[simp] theorem encodeFull_maxSize (s : Sys) (d : Dir) (b : Bool) :
    ((s.encodeFull d b).hp d).enc.maxSize = (s.hp d).enc.maxSize := by
  cases b
  · simp [Sys.encodeFull, hp_encodeBlock_same]
  · cases d <;> rfl
@[simp] theorem encodeFull_limit (s : Sys) (d : Dir) (b : Bool) :
    ((s.encodeFull d b).hp d).enc.limit = (s.hp d).enc.limit := by
  cases b
  · simp [Sys.encodeFull, hp_encodeBlock_same]
  · cases d <;> rfl
@[simp] theorem encodeFull_dec (s : Sys) (d : Dir) (b : Bool) :
    ((s.encodeFull d b).hp d).dec = (s.hp d).dec := by
  cases b
  · simp [Sys.encodeFull, hp_encodeBlock_same]
  · cases d <;> rfl

/-- What the relay of direction `q` works with of the SETTINGS of the endpoint it sends to — INITIAL_WINDOW_SIZE,
MAX_FRAME_SIZE, HEADER_TABLE_SIZE — and the encoder's limit, which bounds what `updateTableSize` can set. -/
def Sys.inForce (s : Sys) (q : Dir) : Nat × Nat × Nat × Nat :=
  ((s.relay q).initWin, (s.relay q).maxFrame, (s.hp q).enc.maxSize, (s.hp q).enc.limit)

/-- RFC 7540 6.5.3 on these values: of each identifier the last value in the frame stays. -/
def lastWins (kvs : List (Nat × Nat)) (v : Nat × Nat × Nat × Nat) : Nat × Nat × Nat × Nat :=
  ((lastOf 4 kvs).getD v.1, (lastOf 5 kvs).getD v.2.1, (lastOf 1 kvs).getD v.2.2.1, v.2.2.2)

theorem on_inForce (s : Sys) (d : Dir) {i : RIn} (h1 : (rstep (s.relay d) i).initWin = (s.relay d).initWin)
    (h2 : (rstep (s.relay d) i).maxFrame = (s.relay d).maxFrame) : (s.on d i).inForce = s.inForce := by
  funext q
  rcases Dir.eq_or_eq_peer q d with rfl | rfl
  · simp [Sys.inForce, h1, h2]
  · simp [Sys.inForce]

theorem encodeFull_inForce (s : Sys) (d : Dir) (b : Bool) : (s.encodeFull d b).inForce = s.inForce := by
  funext q
  rcases Dir.eq_or_eq_peer q d with rfl | rfl <;> simp [Sys.inForce]

theorem applySettings_inForce (s : Sys) (p : Dir) (order : List Nat) (kvs : List (Nat × Nat))
    (hlim : ∀ kv ∈ kvs, kv.1 = 1 → kv.2 ≤ (s.hp p).enc.limit) (q : Dir) :
    (applySettings s p order kvs).inForce q = if q = p then lastWins kvs (s.inForce q) else s.inForce q := by
  obtain ⟨a2, a3⟩ := settingsLoop_lastOf s p kvs hlim
  obtain ⟨hl1, hl2⟩ := settingsLoop_untouched s p kvs
  simp only [Prod.mk.injEq] at hl1 hl2
  rcases Dir.eq_or_eq_peer q p with rfl | rfl
  · simp only [Sys.inForce, lastWins, if_true, applySettings]
    cases lastOf 4 kvs <;> simp [rstep_initWin, rstep_maxFrame, a2, a3, hl1.1, hl2.2.2]
  · simp only [Sys.inForce, if_neg (peer_ne p), applySettings]
    cases lastOf 4 kvs <;> simp [hl2.1, hl2.2.1]

theorem applyCall_inForce {s s' : Sys} {d : Dir} {enc : Bytes} {order : List Nat} {c : Call}
    (h : applyCall s d enc order c = some s')
    (hb : ∀ kvs, c = .settings kvs → ∀ kv ∈ kvs, kv.1 = 1 → kv.2 ≤ (s.hp d.peer).enc.limit) (q : Dir) :
    s'.inForce q = match (generalizing := false) c with
      | .settings kvs => if q = d.peer then lastWins kvs (s.inForce q) else s.inForce q
      | _ => s.inForce q := by
  cases c with
  | settings kvs =>
    cases h
    rw [on_inForce _ _ (rstep_initWin _ _) (rstep_maxFrame _ _)]
    exact applySettings_inForce s d.peer order kvs (hb kvs rfl) q
  | nilContinuation => cases h
  | headerRep sid reps es prio =>
    simp only [applyCall] at h
    split at h <;> cases h
    · cases d <;> rfl
    · rw [on_inForce _ _ (rstep_initWin _ _) (rstep_maxFrame _ _), encodeFull_inForce]
      cases d <;> cases q <;> rfl
  | _ =>
    cases h
    simp only [on_inForce, encodeFull_inForce, rstep_initWin, rstep_maxFrame]

theorem applyCalls_inForce {d : Dir} {enc : Bytes} {order : List Nat} (cs : List Call) {s s' : Sys}
    (h : cs.foldlM (fun s c => applyCall s d enc order c) s = some s') (hns : ∀ kvs, .settings kvs ∉ cs) :
    s'.inForce = s.inForce := by
  induction cs generalizing s with
  | nil => cases h; rfl
  | cons c cs ih =>
    rw [List.foldlM_cons] at h
    obtain ⟨s1, h1, h⟩ := Option.bind_eq_some_iff.mp h
    rw [ih h fun kvs hm => hns kvs (List.mem_cons_of_mem _ hm)]
    funext q
    rw [applyCall_inForce h1 (fun kvs e => absurd (e ▸ List.mem_cons_self) (hns kvs)) q]
    cases c <;> first | rfl | exact absurd List.mem_cons_self (hns _)

theorem sysStep_inForce {s s' : Sys} {d : Dir} {f : Frame} {enc : Bytes} {order : List Nat}
    (h : sysStep s d f enc order = some s')
    (hb : ∀ kvs, f = .settings kvs → ∀ kv ∈ kvs, kv.1 = 1 → kv.2 ≤ (s.hp d.peer).enc.limit) (q : Dir) :
    s'.inForce q = match (generalizing := false) f with
      | .settings kvs => if q = d.peer then lastWins kvs (s.inForce q) else s.inForce q
      | _ => s.inForce q := by
  by_cases hf : ∃ kvs, f = .settings kvs
  · obtain ⟨kvs, rfl⟩ := hf
    have : applyCall s d enc order (.settings kvs) = some s' := by cases d <;> simpa [sysStep, dispatch] using h
    exact applyCall_inForce this (fun kvs' e => hb kvs' (by cases e; rfl)) q
  · have := applyCalls_inForce _ h fun kvs hm => hf ⟨kvs, settings_mem_dispatch hm⟩
    rw [this]
    cases f <;> first | (cases d <;> rfl) | exact absurd ⟨_, rfl⟩ hf
/-- The encoder of a relay's SOURCE endpoint as far as the relay depends on it: its dynamic table
and the SETTINGS_HEADER_TABLE_SIZE of its peer that it has acknowledged (4096 before any). -/
structure Snd where
  tab : DynTab := {}
  limit : Nat := 4096
deriving DecidableEq, Repr

/-- The field representations of a block (after the leading size updates), run against the
encoder's own table: `none` = not emittable (reference to an entry that is not there, or a size
update that is not at the start of the block). -/
def sndFields (t : DynTab) : List Rep → Option (DynTab × List Ent)
  | [] => some (t, [])
  | .sizeUpdate _ :: _ => none
  | .indexed k :: rs =>
    match t.at? k with
    | none => none
    | some e => (sndFields t rs).map fun p => (p.1, e :: p.2)
  | .litInc n v :: rs => (sndFields (t.add ⟨n, v⟩) rs).map fun p => (p.1, ⟨n, v⟩ :: p.2)
  | .litIncRef k v :: rs =>
    match t.at? k with
    | none => none
    | some e => (sndFields (t.add ⟨e.name, v⟩) rs).map fun p => (p.1, ⟨e.name, v⟩ :: p.2)
  | .lit n v :: rs => (sndFields t rs).map fun p => (p.1, ⟨n, v⟩ :: p.2)

/-- A header block the sender may legally emit in state `s`, with the table it has afterwards and
the field list it means (RFC 7541 4.2, 6.3): size updates only at the start, at most two (the
smallest size since the last block, then the final one), none above the limit the sender knows; a
table larger than that limit has to be reduced first. One restriction is x/net's, not the RFC's:
the pinned `hpack.Decoder` accepts a second size update only when the table is empty after the
first. -/
def sndBlock (s : Snd) : List Rep → Option (DynTab × List Ent)
  | .sizeUpdate n :: .sizeUpdate m :: rs =>
    if n ≤ s.limit ∧ m ≤ s.limit ∧ tabSize (s.tab.setMax n).ents = 0 then sndFields ((s.tab.setMax n).setMax m) rs
    else none
  | .sizeUpdate n :: rs => if n ≤ s.limit then sndFields (s.tab.setMax n) rs else none
  | rs => if s.tab.maxSize ≤ s.limit then sndFields s.tab rs else none

/-- The decoder reads the field representations exactly as the encoder that owns the table meant
them, whatever `allowed` is and wherever in the block they stand. -/
theorem decBlock_of_sndFields (t : DynTab) (a : Nat) (first : Bool) (rs : List Rep) (t' : DynTab) (fs : List Ent)
    (h : sndFields t rs = some (t', fs)) : decBlock ⟨t, a⟩ first rs = some (⟨t', a⟩, fs) := by
  fun_induction sndFields t rs generalizing first fs with
  | case1 => cases h; rfl  -- `[]`
  | case2 | case3 | case6 => cases h  -- a size update, or a reference to an entry that is not there
  | case4 t k rs e hk ih | case7 t k v rs e hk ih =>  -- `.indexed`, `.litIncRef`
    obtain ⟨⟨t1, f1⟩, hp, he⟩ := Option.map_eq_some_iff.mp h
    cases he
    simp [decBlock, decRep, hk, ih false f1 hp]
  | case5 t n v rs ih | case8 t n v rs ih =>  -- `.litInc`, `.lit`
    obtain ⟨⟨t1, f1⟩, hp, he⟩ := Option.map_eq_some_iff.mp h
    cases he
    simp [decBlock, decRep, ih false f1 hp]

theorem decBlock_sizeUpdate (d : Dec) (first : Bool) (n : Nat) (rs : List Rep)
    (h1 : first = true ∨ tabSize d.tab.ents = 0) (h2 : n ≤ d.allowed) :
    decBlock d first (.sizeUpdate n :: rs) = decBlock { d with tab := d.tab.setMax n } false rs := by
  have hr : decRep d first (.sizeUpdate n) = some ({ d with tab := d.tab.setMax n }, []) := by
    have : ¬ n > d.allowed := by omega
    rcases h1 with h1 | h1 <;> simp [decRep, h1, this]
  rw [decBlock, hr]
  dsimp only
  cases decBlock { d with tab := d.tab.setMax n } false rs <;> rfl

theorem sndFields_no_update {t : DynTab} {n : Nat} {rs : List Rep} : sndFields t (.sizeUpdate n :: rs) = none := rfl

end Martian.H2Relay
