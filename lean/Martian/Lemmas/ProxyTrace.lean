import Martian.Lemmas.Proxy
/-! Checkers of the order of events in a trace (`okUp`, `quiet`), and that every connection passes them. -/
namespace Martian.Proxy

/-- "Every upstream contact (round trip or dial) of exchange `j` happens after the request modifier
ran for `j`": `seen` = exchanges whose request modifier has already run. -/
def okUp : List Nat → List Ev → Bool
  | _, [] => true
  | seen, e :: r =>
    match e with
    | .reqmod j _ _ _ _ _ => okUp (j :: seen) r
    | .upstream j _ => seen.contains j && okUp seen r
    | .dial j _ => seen.contains j && okUp seen r
    | _ => okUp seen r

def isBookkeeping : Ev → Bool | .unlink _ => true | .closeConn => true | _ => false
/-- After a `hijacked` event the proxy does nothing on the connection but bookkeeping and close. -/
def quiet : List Ev → Bool
  | [] => true
  | e :: r =>
    match e with
    | .hijacked _ _ _ => r.all isBookkeeping
    | _ => quiet r

theorem okUp_mono (l : List Ev) : ∀ (a b : List Nat), (∀ x ∈ a, x ∈ b) → okUp a l = true → okUp b l = true := by
  induction l with
  | nil => intros; rfl
  | cons e r ih =>
    intro a b hab h
    cases e with
    | reqmod j _ _ _ _ _ => exact ih _ _ (List.cons_subset_cons j hab) h
    | upstream j _ | dial j _ =>
      simp only [okUp, Bool.and_eq_true, List.contains_iff_mem] at h ⊢
      exact ⟨hab _ h.1, ih _ _ hab h.2⟩
    | _ => exact ih _ _ hab h

def reqmodsOf (l : List Ev) : List Nat := l.filterMap fun | .reqmod j _ _ _ _ _ => some j | _ => none

theorem okUp_append (a b : List Ev) (seen : List Nat) (ha : okUp seen a = true)
    (hb : ∀ seen', okUp seen' b = true) : okUp seen (a ++ b) = true := by
  induction a generalizing seen with
  | nil => exact hb seen
  | cons e r ih =>
    cases e with
    | upstream j _ | dial j _ =>
      simp only [okUp, List.cons_append, Bool.and_eq_true] at ha ⊢
      exact ⟨ha.1, ih _ ha.2⟩
    | _ => exact ih _ ha

theorem okUp_bookkeeping (opn : List Nat) (seen : List Nat) :
    okUp seen (opn.map Ev.unlink ++ [Ev.closeConn]) = true := by
  induction opn with
  | nil => rfl
  | cons c r ih => simpa [okUp] using ih

theorem okUp_of_idx (i : Nat) (l : List Ev) (seen : List Nat) (hi : i ∈ seen)
    (hl : ∀ e ∈ l, e.idx = some i ∨ e.idx = none) : okUp seen l = true := by
  induction l generalizing seen with
  | nil => rfl
  | cons e r ih =>
    have hr := fun e he => hl e (List.mem_cons_of_mem _ he)
    have he := hl e List.mem_cons_self
    cases e with
    | reqmod j _ _ _ _ _ => exact ih _ (List.mem_cons_of_mem _ hi) hr
    | upstream j _ | dial j _ =>
      simp only [Ev.idx, Option.some.injEq, reduceCtorEq, or_false] at he
      simp only [okUp, Bool.and_eq_true, List.contains_iff_mem]
      exact ⟨he ▸ hi, ih _ hi hr⟩
    | _ => exact ih _ hi hr

theorem okUp_item (sd : Bool) (s : St) (i c : Nat) (it : Item) (seen : List Nat) :
    okUp seen (handleItem sd s i c it).1 = true := by
  have h := @of_item sd s i c it
  rw [handleItem_fst] at h ⊢
  simp only [pre, List.cons_append, List.append_assoc, List.nil_append, okUp]
  -- past `read`, `link` and `reqmod i` every event is one of exchange `i`, which is now in `seen`
  refine okUp_of_idx i _ _ List.mem_cons_self fun e he => (h ?_).idx
  simp only [pre, List.cons_append, List.append_assoc, List.nil_append, List.mem_cons]
  exact .inr (.inr (.inr he))

theorem okUp_run (sd : Bool) (base : Nat) (s : St) (i : Nat) (opn : List Nat) (items : List Item) :
    ∀ seen, okUp seen (run sd base s i opn items) = true := by
  induction items generalizing s i opn with
  | nil => exact okUp_bookkeeping opn
  | cons it rest ih =>
    intro seen
    rw [run_cons]
    refine okUp_append _ _ _ (okUp_item ..) fun sn => ?_
    split
    · exact okUp_bookkeeping opn sn
    · exact ih _ _ _ sn

theorem all_bookkeeping_tail (opn : List Nat) : (opn.map Ev.unlink ++ [Ev.closeConn]).all isBookkeeping = true := by
  refine List.all_eq_true.mpr (forall_mem_closing (fun _ => ?_) ?_ opn) <;> rfl

theorem quiet_of_all (l : List Ev) (h : l.all isBookkeeping = true) : quiet l = true := by
  induction l with
  | nil => rfl
  | cons e r ih =>
    simp only [List.all_cons, Bool.and_eq_true] at h
    obtain ⟨h1, h2⟩ := h
    cases e <;> simp [isBookkeeping] at h1 <;> simp only [quiet] <;> exact ih h2

def Next.isHijack : Next → Bool | .hijack => true | _ => false

@[simp] theorem isHijack_hijack : Next.hijack.isHijack = true := rfl
@[simp] theorem isHijack_close : Next.close.isHijack = false := rfl
@[simp] theorem isHijack_again (s : St) : (Next.again s).isHijack = false := rfl

theorem isHijack_item (sd : Bool) (s : St) (i c : Nat) (it : Item) : (handleItem sd s i c it).2.isHijack = it.hij := by
  rw [handleItem_eq]
  cases it.hij
  · cases endsConn sd it <;> rfl
  · rfl

theorem quiet_append_of_no_hijacked {l : List Ev} (h : ∀ e ∈ l, ∀ j tls tid, e ≠ .hijacked j tls tid) (t : List Ev) :
    quiet (l ++ t) = quiet t := by
  induction l with
  | nil => rfl
  | cons e r ih =>
    have hr := ih fun e he => h e (List.mem_cons_of_mem _ he)
    cases e with
    | hijacked j tls tid => exact absurd rfl (h _ List.mem_cons_self j tls tid)
    | _ => exact hr

section quiet
variable (s : St) (i c : Nat) (it : Item) (t : List Ev)

theorem quiet_pre (rq : ReqB) : quiet (pre s i c rq ++ t) = quiet t := by
  unfold pre; cases rqErr rq <;> rfl

theorem quiet_up : quiet (it.up s i ++ t) = quiet t := by
  refine quiet_append_of_no_hijacked (fun e he => ?_) t
  rcases Item.mem_up he with rfl | ⟨_, rfl⟩ | rfl <;> nofun

theorem quiet_post (st : Nat) (rs : ResB) : quiet (post i c st rs ++ t) = quiet t := by
  unfold post; cases rsErr rs <;> rfl

theorem quiet_fin (sd : Bool) : quiet (it.fin sd i c ++ t) = quiet t := by
  refine quiet_append_of_no_hijacked (fun e he => ?_) t
  rcases Item.mem_fin he with ⟨_, _, _, rfl⟩ | rfl | rfl <;> nofun

theorem quiet_hijExit : quiet (hijExit s i c ++ t) = t.all isBookkeeping := by
  simp [hijExit, quiet, isBookkeeping]

end quiet

/-- Either the exchange hijacks and its trace ends `…, hijacked, unlink`, or it has no `hijacked`
event at all. Stated through `quiet` on the trace followed by any tail `t`. -/
theorem quiet_item (sd : Bool) (s : St) (i c : Nat) (it : Item) (t : List Ev) :
    quiet ((handleItem sd s i c it).1 ++ t) =
      (if (handleItem sd s i c it).2.isHijack then t.all isBookkeeping else quiet t) := by
  rw [handleItem_fst, isHijack_item, List.append_assoc, quiet_pre]
  by_cases hq : it.rq = .hijack
  · simp [hq, Item.hij, quiet_hijExit]
  · rw [if_neg hq, List.append_assoc, List.append_assoc, quiet_up, quiet_post]
    by_cases hs : it.rs = .hijack
    · simp [hs, Item.hij, quiet_hijExit]
    · simp [hq, hs, Item.hij, quiet_fin]

theorem quiet_run (sd : Bool) (base : Nat) (s : St) (i : Nat) (opn : List Nat) (items : List Item) :
    quiet (run sd base s i opn items) = true := by
  induction items generalizing s i opn with
  | nil => exact quiet_of_all _ (all_bookkeeping_tail opn)
  | cons it rest ih =>
    rw [run_cons, quiet_item, isHijack_item]
    cases he : endsConn sd it
    · simpa [not_hij_of_not_ends he] using ih _ _ _
    · have htail := all_bookkeeping_tail opn
      cases it.hij
      · simpa using quiet_of_all _ htail
      · simpa using htail

end Martian.Proxy
