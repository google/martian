import Martian.Lemmas.ShapeInter
/-! C18: an uninterrupted run of the rounds machine (`runRounds`) and the sequential loop (`bodyLoop`,
hence `shapedWrite`) agree in what they deliver and perform, in the status and in the context fields
the loop owns. -/
namespace Martian.Shape
open Martian Martian.Go

def StepRes.mapLoop (f : Loop → Loop) : StepRes → StepRes
  | .cont s b => .cont (f s) b
  | .done s st => .done (f s) st

def capOr (x : Option Int) (s : Loop) : Loop := { s with cap := match s.cap with | some y => some y | none => x }

/-- A round does not look at the last `SetCapacity`; it only remembers a new one. -/
theorem stepLoop_cap (valid : Bool) (k : Nat) (s : Loop) (b : Bytes) :
    stepLoop valid k s b = (stepLoop valid k { s with cap := none } b).mapLoop (capOr s.cap) := by
  unfold stepLoop
  simp only
  by_cases h1 : amount b.length s.off s.next < 0
  · simp only [h1, if_true]; rfl
  · simp only [h1, if_false]
    generalize min (k + 1) (amount b.length s.off s.next).toNat = m
    cases s.next with
    | none => rfl
    | some p =>
      simp only
      by_cases h2 : s.off + (m : Int) ≥ p.2
      · simp only [h2, if_true]
        cases valid with
        | false => rfl
        | true =>
          simp only [Bool.not_true, Bool.false_eq_true, if_false]
          cases s.acts[p.1]? with
          | none => rfl
          | some a =>
            simp only
            by_cases h3 : a.count = 0
            · simp only [h3, ne_eq, not_true_eq_false, if_false]; rfl
            · simp only [h3, ne_eq, not_false_eq_true, if_true]
              cases a.kind <;> rfl
      · simp only [h2, if_false]; rfl

/-- The loop state `s` of the sequential run and the state `(l, c, pd)` of the machine agree: the
next round of the machine starts from `s` without the remembered capacity, on the same action list. -/
structure SimRel (s : Loop) (l : Listener) (c : Conn) (pd : Pending) (r : Nat) (valid : Bool) : Prop where
  shaping : c.ctx.shaping = true
  regex : c.ctx.regex = some r
  loop : roundLoop c pd s.acts = { s with cap := none }
  valid : valid = (validShape l c r).isSome
  acts : s.acts = shapeActs l c r

/-- What is compared: delivered bytes, events, status, and the context fields the loop owns. -/
def SameOut (s : Loop) (st : Status) (res : Listener × Conn × Pending × Status) : Prop :=
  res.2.2.1.delivered = s.delivered ∧ res.2.2.1.evs = s.evs ∧ res.2.2.2 = st ∧
  res.2.1.ctx.off = s.off ∧ res.2.1.ctx.next = s.next ∧ res.2.1.ctx.shaping = s.shaping

/-- Each round is the same `stepLoop` up to the remembered capacity (`stepLoop_cap`), and what
`roundStep` writes back keeps the states related. -/
theorem rounds_simulate (caps : Nat → Nat) : ∀ (fuel : Nat) (s : Loop) (l : Listener) (c : Conn)
    (pd : Pending) (r : Nat) (valid : Bool), SimRel s l c pd r valid →
    SameOut (bodyLoop valid caps fuel pd.round s pd.rest).1 (bodyLoop valid caps fuel pd.round s pd.rest).2
      (runRounds caps fuel l c pd)
  | 0, _, _, _, _, _, _, h =>
    ⟨congrArg Loop.delivered h.loop, congrArg Loop.evs h.loop, rfl, congrArg Loop.off h.loop,
      congrArg Loop.next h.loop, h.shaping.trans (congrArg Loop.shaping h.loop)⟩
  | fuel + 1, s, l, c, pd, r, valid, h => by
    unfold bodyLoop runRounds
    rcases roundStep_cases (caps pd.round) l c pd with ⟨pd', heq, hwhy, hd, he⟩ | ⟨r', hne, _, hreg', heq⟩
    · rw [heq]
      rcases hwhy with hr | hs | hn
      · rw [hr, List.isEmpty_nil, if_pos rfl]
        exact ⟨by rw [hd, hr, List.append_nil]; exact congrArg Loop.delivered h.loop, he.trans (congrArg Loop.evs h.loop),
          rfl, congrArg Loop.off h.loop, congrArg Loop.next h.loop, h.shaping.trans (congrArg Loop.shaping h.loop)⟩
      · rw [h.shaping] at hs; cases hs
      · rw [h.regex] at hn; cases hn
    · cases h.regex.symm.trans hreg'
      rw [← h.valid, ← h.acts, h.loop] at heq
      -- what the round writes back is the shape lookup of the next round
      have hnext : ∀ (acts' : List Action) (c1 : Conn), c1.established = c.established → (valid = false → acts' = s.acts) →
          valid = (validShape (if valid then setShapeActions l r acts' else l) c1 r).isSome ∧
          acts' = shapeActs (if valid then setShapeActions l r acts' else l) c1 r := by
        intro acts' c1 he hinv
        have hval := h.valid
        have hacts := h.acts
        unfold shapeActs at hacts ⊢
        cases hv : validShape l c r with
        | none =>
          rw [hv, Option.isSome_none] at hval; rw [hv] at hacts; subst hval
          rw [if_neg nofun, validShape_congr l c c1 he, hv]; exact ⟨rfl, (hinv rfl).trans hacts⟩
        | some sh =>
          rw [hv, Option.isSome_some] at hval; subst hval
          rw [if_pos rfl, validShape_setShapeActions c c1 acts' he hv]; exact ⟨rfl, rfl⟩
      rw [if_neg (by simpa using hne), heq, writeBack, stepLoop_cap valid _ s]
      have F := stepLoop_frame valid (caps pd.round) { s with cap := none } pd.rest
      generalize stepLoop valid (caps pd.round) { s with cap := none } pd.rest = res at F ⊢
      obtain ⟨he, f, hf⟩ := applyCap_ctx
        { c with ctx := { c.ctx with off := res.loop.off, next := res.loop.next, shaping := res.loop.shaping } } r res.loop.cap
      cases res with
      | cont s1 b1 =>
        apply rounds_simulate
        have hshape : s1.shaping = true := (F.shaping rfl).trans (congrArg Loop.shaping h.loop).symm
        obtain ⟨n1, n2⟩ := hnext s1.acts _ he (fun hv => (F.invalid hv).2.1)
        refine ⟨by rw [hf]; exact hshape, by rw [hf]; exact h.regex, ?_, n1, n2⟩
        rw [roundLoop, hf]
        cases s1; cases hshape; rfl
      | done s1 st => exact ⟨rfl, rfl, rfl, congrArg Ctx.off hf, congrArg Ctx.next hf, congrArg Ctx.shaping hf⟩

theorem beginWrite_shaped (c : Conn) (b : Bytes) (hsh : c.ctx.shaping = true) :
    beginWrite c b =
      ({ c with ctx := { c.ctx with headerWritten := c.ctx.headerWritten + (headPart c.ctx b : Int) } },
       { rest := b.drop (headPart c.ctx b), delivered := b.take (headPart c.ctx b) }) := by
  unfold beginWrite headPart
  simp only [hsh, if_true]

end Martian.Shape
