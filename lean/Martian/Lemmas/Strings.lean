import Martian.Go.Strings
import Martian.Go.Strconv
/-! Lemmas about `strBytes`, `Go.split` (one-byte separator), `Go.trimSpace` and the decimal digits of
`strconv.Itoa` / `Atoi`. -/
namespace Martian

/-- `rw [strBytes_ofList]` unifies `String.ofList ?cs` with a literal and so gets its characters as
they stand; evaluating `String.toList` on a literal goes through its UTF-8 encoding and back. -/
theorem strBytes_ofList (cs : List Char) :
    strBytes (String.ofList cs) = cs.map fun c => UInt8.ofNat c.toNat := by
  rw [strBytes, String.toList_ofList]

end Martian

namespace Martian.Go
open Martian

theorem splitAux_append (sep : UInt8) (a b cur : Bytes) :
    splitAux sep (a ++ sep :: b) cur = splitAux sep a cur ++ splitAux sep b [] := by
  induction a generalizing cur with
  | nil => simp [splitAux]
  | cons c r ih => simp only [List.cons_append, splitAux]; split <;> simp [ih]

theorem splitAux_of_not_mem (sep : UInt8) (a cur : Bytes) (ha : sep ∉ a) :
    splitAux sep a cur = [cur.reverse ++ a] := by
  induction a generalizing cur with
  | nil => simp [splitAux]
  | cons c r ih =>
    simp [splitAux, Ne.symm (List.ne_of_not_mem_cons ha), ih _ (List.not_mem_of_not_mem_cons ha)]

theorem splitAux_append_sep (sep : UInt8) (a b cur : Bytes) (ha : sep ∉ a) :
    splitAux sep (a ++ sep :: b) cur = (cur.reverse ++ a) :: splitAux sep b [] := by
  rw [splitAux_append, splitAux_of_not_mem sep a cur ha]; rfl

theorem split_append_sep (a b : Bytes) (sep : UInt8) :
    split (a ++ sep :: b) sep = split a sep ++ split b sep :=
  splitAux_append sep a b []

theorem split_of_not_mem (a : Bytes) (sep : UInt8) (ha : sep ∉ a) : split a sep = [a] :=
  splitAux_of_not_mem sep a [] ha

theorem splitAux_no_sep (sep : UInt8) (s cur : Bytes) (hc : sep ∉ cur) :
    ∀ p ∈ splitAux sep s cur, sep ∉ p := by
  induction s generalizing cur with
  | nil => simpa [splitAux] using hc
  | cons c r ih =>
    simp only [splitAux]
    split
    · simp only [List.forall_mem_cons, List.mem_reverse]
      exact ⟨hc, ih [] List.not_mem_nil⟩
    · rename_i hne
      exact ih (c :: cur) (List.not_mem_cons_of_ne_of_not_mem (fun h => hne (h ▸ beq_self_eq_true _)) hc)

theorem split_no_sep (s : Bytes) (sep : UInt8) : ∀ p ∈ split s sep, sep ∉ p :=
  splitAux_no_sep sep s [] (by simp)

theorem split_join (l : List Bytes) (sep : UInt8) (hl : l ≠ []) (hs : ∀ x ∈ l, sep ∉ x) :
    split (join l [sep]) sep = l := by
  induction l with
  | nil => exact absurd rfl hl
  | cons x r ih =>
    cases r with
    | nil => simpa [join, List.intercalate] using split_of_not_mem x sep (hs x (by simp))
    | cons y r' =>
      have : join (x :: y :: r') [sep] = x ++ sep :: join (y :: r') [sep] := by
        simp [join, List.intercalate, List.intersperse]
      rw [this, split_append_sep, split_of_not_mem x sep (hs x (by simp)),
        ih (by simp) (fun z hz => hs z (by simp [hz]))]
      rfl

theorem mem_trimSpace {c : UInt8} {s : Bytes} (h : c ∈ trimSpace s) : c ∈ s :=
  have h1 := (List.dropWhile_sublist _).subset (List.mem_reverse.mp h)
  (List.dropWhile_sublist _).subset (List.mem_reverse.mp h1)

def dg (d : Nat) : UInt8 := UInt8.ofNat (48 + d)

theorem natDigits_eq (n : Nat) :
    natDigits n = if n < 10 then [dg n] else natDigits (n / 10) ++ [dg (n % 10)] := by
  have hd : ∀ d, d < 10 → UInt8.ofNat (Nat.digitChar d).toNat = dg d := by decide
  unfold natDigits
  rw [Nat.toDigits_eq_if (by decide)]
  split
  · rename_i h; simp [hd n h]
  · simp [hd (n % 10) (Nat.mod_lt _ (by decide))]

theorem isDigit_dg : ∀ d, d < 10 → isDigit (dg d) = true ∧ (dg d).toNat - 48 = d := by
  decide

theorem digitsVal_append (a : Bytes) (c : UInt8) (acc : Nat) :
    digitsVal (a ++ [c]) acc = digitsVal a acc * 10 + (c.toNat - 48) := by
  induction a generalizing acc with
  | nil => simp [digitsVal]
  | cons x r ih => simp [digitsVal, ih]

theorem natDigits_spec (n : Nat) : (natDigits n).all isDigit = true ∧ digitsVal (natDigits n) 0 = n := by
  induction n using Nat.strongRecOn with
  | _ n ih =>
    rw [natDigits_eq]
    split
    · simpa [digitsVal] using isDigit_dg n ‹_›
    · have h1 := ih (n / 10) (by omega)
      have h2 := isDigit_dg (n % 10) (Nat.mod_lt _ (by decide))
      simp only [List.all_append, h1.1, List.all_cons, h2.1, List.all_nil, Bool.and_true, digitsVal_append, h1.2, h2.2,
        true_and]
      omega

theorem atoiUnsigned_natDigits (n : Nat) : atoiUnsigned (natDigits n) = some n := by
  have hne : (natDigits n).isEmpty = false := by rw [natDigits_eq]; split <;> simp
  simp [atoiUnsigned, hne, natDigits_spec n]

theorem itoa_ofNat (n : Nat) : itoa (n : Int) = natDigits n := by
  simp [itoa]

end Martian.Go
