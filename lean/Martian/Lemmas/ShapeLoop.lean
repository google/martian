import Martian.Lemmas.Shape
/-! The shaped write loop of C18: one round (`stepLoop`) is characterised by a case principle,
`stepLoop_cases`; what rounds, whole runs (`bodyLoop`) and `Write` calls guarantee is derived from it here. -/
namespace Martian.Shape
open Martian Martian.Go

/-- `a` is a `*CloseConnection` action: performing it ends the `Write` with `ErrForceClose`. -/
def isClose (a : Action) : Bool := match a.kind with | .close => true | _ => false

theorem dec_byte (a : Action) : a.dec.byte = a.byte := by
  fun_cases Action.dec a <;> rfl

theorem dec_kind (a : Action) : a.dec.kind = a.kind := by
  fun_cases Action.dec a <;> rfl

theorem dec_of_count_zero {a : Action} (h : a.count = 0) : a.dec = a := by
  fun_cases Action.dec a
  · rfl
  · omega
  · rfl

theorem isClose_dec (a : Action) : isClose a.dec = isClose a := by unfold isClose; rw [dec_kind]

def bytesOf (acts : List Action) : List Int := acts.map Action.byte

theorem set_dec_bytes {l : List Action} {i : Nat} {a : Action} (h : l[i]? = some a) :
    bytesOf (l.set i a.dec) = bytesOf l := by
  obtain ⟨hi, rfl⟩ := List.getElem_of_getElem? h
  unfold bytesOf
  rw [List.map_set, dec_byte, ← List.getElem_map Action.byte (h := by simpa using hi), List.set_getElem_self]

theorem set_dec_of_count_zero {l : List Action} {i : Nat} {a : Action} (h : l[i]? = some a) (h0 : a.count = 0) :
    l.set i a.dec = l := by
  obtain ⟨hi, rfl⟩ := List.getElem_of_getElem? h
  rw [dec_of_count_zero h0, List.set_getElem_self]

theorem sorted_of_bytes {a b : List Action} (h : bytesOf a = bytesOf b) (hs : SortedBy Action.byte b) :
    SortedBy Action.byte a := by
  unfold SortedBy at hs ⊢
  have hb : (bytesOf b).Pairwise (· ≤ ·) := List.pairwise_map.2 hs
  rw [← h] at hb
  exact List.pairwise_map.1 hb

/-- Invariant of the loop state: the actions are sorted by offset and the pending action lies ahead. -/
structure LInv (s : Loop) : Prop where
  sorted : SortedBy Action.byte s.acts
  next : ∀ i nb, s.next = some (i, nb) → ∃ h : i < s.acts.length, s.acts[i].byte = nb ∧ s.off ≤ nb

theorem amount_none (len : Nat) (off : Int) : amount len off none = len := rfl

theorem amount_some (len : Nat) (off : Int) (i : Nat) (nb : Int) :
    amount len off (some (i, nb)) = min (nb - off) len := rfl

theorem amount_bounds {len : Nat} {off : Int} {next : Option (Nat × Int)}
    (h : ∀ i nb, next = some (i, nb) → off ≤ nb) :
    0 ≤ amount len off next ∧ amount len off next ≤ len ∧
    (∀ i nb, next = some (i, nb) → amount len off next ≤ nb - off) ∧
    (amount len off next = 0 → len = 0 ∨ ∃ i, next = some (i, off)) := by
  cases next with
  | none =>
    rw [amount_none]
    exact ⟨Int.natCast_nonneg _, Int.le_refl _, nofun, fun h0 => .inl (Int.natCast_eq_zero.1 h0)⟩
  | some p =>
    obtain ⟨i, nb⟩ := p
    have := h i nb rfl
    rw [amount_some]
    refine ⟨Int.le_min.2 ⟨Int.sub_nonneg.2 this, Int.natCast_nonneg _⟩, Int.min_le_right _ _,
      fun i' nb' he => by cases he; exact Int.min_le_left _ _, fun h0 => ?_⟩
    have : len = 0 ∨ off = nb := by omega
    exact this.imp id fun he => ⟨i, by rw [he]⟩

/-- The loop state after `m` bytes of `b` went out: `ByteOffset += m`, `b[:m]` delivered. -/
def Loop.adv (s : Loop) (b : Bytes) (m : Nat) : Loop :=
  { s with off := s.off + (m : Int), delivered := s.delivered ++ b.take m }

/-- The chunk `m = min(capacity, amountToWrite)` of a round with action `ind` pending at `nb`. -/
structure Chunk (cap : Nat) (s : Loop) (b : Bytes) (m ind : Nat) (nb : Int) : Prop where
  next : s.next = some (ind, nb)
  ahead : s.off ≤ nb
  eq : m = min (cap + 1) (min (nb - s.off) (b.length : Int)).toNat

theorem Chunk.le {cap : Nat} {s : Loop} {b : Bytes} {m ind : Nat} {nb : Int} (h : Chunk cap s b m ind nb) :
    m ≤ b.length := by
  have := h.eq; omega

/-- The chunk reaches the pending action: `ByteOffset >= NextActionInfo.ByteOffset` holds after it
(with equality, a chunk never passes the offset), and the round enters the action block. -/
structure Reach (cap : Nat) (s : Loop) (b : Bytes) (m ind : Nat) (nb : Int) : Prop extends Chunk cap s b m ind nb where
  reach : s.off + (m : Int) = nb

/-- Every way a round can go.  The first three cases do not reach the pending action (`neg` is the
negative slice bound); in the others the write position has reached its offset `nb`. -/
theorem stepLoop_cases {valid : Bool} {cap : Nat} {s : Loop} {b : Bytes} {P : StepRes → Prop}
    (neg : ∀ ind nb, s.next = some (ind, nb) → nb < s.off → P (.done s .panic))
    (free : ∀ m, s.next = none → m = min (cap + 1) b.length → P (.cont (s.adv b m) (b.drop m)))
    (short : ∀ m ind nb, Chunk cap s b m ind nb → s.off + (m : Int) < nb → P (.cont (s.adv b m) (b.drop m)))
    (fallback : ∀ m ind nb, Reach cap s b m ind nb → valid = false →
      P (.done { (s.adv b m) with shaping := false, delivered := (s.adv b m).delivered ++ b.drop m } .ok))
    (noact : ∀ m ind nb, Reach cap s b m ind nb → valid = true → s.acts[ind]? = none →
      P (.done (s.adv b m) .panic))
    (skip : ∀ m ind nb a, Reach cap s b m ind nb → valid = true → s.acts[ind]? = some a →
      a.count = 0 → P (.cont { (s.adv b m) with next := nextFromIndex s.acts (ind + 1) } (b.drop m)))
    (halt : ∀ m ind nb a d, Reach cap s b m ind nb → valid = true → s.acts[ind]? = some a →
      a.count ≠ 0 → a.kind = .halt d →
      P (.cont
        { (s.adv b m) with
          acts := s.acts.set ind a.dec, next := nextFromIndex (s.acts.set ind a.dec) (ind + 1),
          evs := s.evs ++ [.sleep d (s.off + (m : Int))] } (b.drop m)))
    (close : ∀ m ind nb a, Reach cap s b m ind nb → valid = true → s.acts[ind]? = some a →
      a.count ≠ 0 → a.kind = .close →
      P (.done
        { (s.adv b m) with acts := s.acts.set ind a.dec, evs := s.evs ++ [.forceClose (s.off + (m : Int))] } .closed))
    (bw : ∀ m ind nb a x, Reach cap s b m ind nb → valid = true → s.acts[ind]? = some a →
      a.count ≠ 0 → a.kind = .bw x →
      P (.cont
        { (s.adv b m) with
          acts := s.acts.set ind a.dec, next := nextFromIndex (s.acts.set ind a.dec) (ind + 1),
          evs := s.evs ++ [.setCap x (s.off + (m : Int))], cap := some x } (b.drop m))) :
    P (stepLoop valid cap s b) := by
  obtain ⟨off, next, acts, shaping, cp, delivered, evs⟩ := s
  unfold stepLoop
  cases next with
  | none =>
    rw [amount_none]
    simp only [show ¬ (b.length : Int) < 0 by omega, if_false, Int.toNat_natCast]
    exact free _ rfl rfl
  | some p =>
    obtain ⟨ind, nb⟩ := p
    rw [amount_some]
    simp only
    by_cases hneg : nb < off
    · simp only [show min (nb - off) (b.length : Int) < 0 by omega, if_true]
      exact neg ind nb rfl hneg
    · simp only [show ¬ min (nb - off) (b.length : Int) < 0 by omega, if_false]
      generalize hm : min (cap + 1) (min (nb - off) (b.length : Int)).toNat = m
      have hc : Chunk cap ⟨off, some (ind, nb), acts, shaping, cp, delivered, evs⟩ b m ind nb :=
        ⟨rfl, by simp only; omega, hm.symm⟩
      by_cases hr : off + (m : Int) ≥ nb
      · simp only [hr, if_true]
        replace hr := Reach.mk hc (show off + (m : Int) = nb by omega)
        cases valid with
        | false => exact fallback m ind nb hr rfl
        | true =>
          simp only [Bool.not_true, Bool.false_eq_true, if_false]
          cases ha : acts[ind]? with
          | none => exact noact m ind nb hr rfl ha
          | some a =>
            simp only
            by_cases h0 : a.count = 0
            · simp only [h0, ne_eq, not_true_eq_false, if_false]; exact skip m ind nb a hr rfl ha h0
            · simp only [h0, ne_eq, not_false_eq_true, if_true]
              cases hk : a.kind with
              | halt d => exact halt m ind nb a d hr rfl ha h0 hk
              | close => exact close m ind nb a hr rfl ha h0 hk
              | bw x => exact bw m ind nb a x hr rfl ha h0 hk
      · simp only [hr, if_false]
        exact short m ind nb hc (by simp only; omega)

def StepRes.loop : StepRes → Loop
  | .cont s _ => s
  | .done s _ => s

def StepRes.rest : StepRes → Bytes
  | .cont _ b => b
  | .done _ _ => []

def StepRes.status? : StepRes → Option Status
  | .cont _ _ => none
  | .done _ st => some st

structure Frame (valid : Bool) (s : Loop) (b : Bytes) (r : StepRes) : Prop where
  deliv : ∃ m, m ≤ b.length ∧ r.loop.delivered = s.delivered ++ b.take m ∧
    (r.status? = none → r.rest = b.drop m) ∧ (r.status? = some .ok → m = b.length)
  bytes : bytesOf r.loop.acts = bytesOf s.acts
  shaping : r.status? = none → r.loop.shaping = s.shaping
  invalid : valid = false → r.loop.evs = s.evs ∧ r.loop.acts = s.acts ∧ r.loop.cap = s.cap

theorem stepLoop_frame (valid : Bool) (cap : Nat) (s : Loop) (b : Bytes) : Frame valid s b (stepLoop valid cap s b) := by
  apply stepLoop_cases
  case neg =>
    intro _ _ _ _
    exact ⟨⟨0, Nat.zero_le _, (List.append_nil _).symm, nofun, nofun⟩, rfl, nofun, fun _ => ⟨rfl, rfl, rfl⟩⟩
  case free =>
    intro m _ hm
    exact ⟨⟨m, by omega, rfl, fun _ => rfl, nofun⟩, rfl, fun _ => rfl, fun _ => ⟨rfl, rfl, rfl⟩⟩
  case short =>
    intro m _ _ hc _
    exact ⟨⟨m, hc.le, rfl, fun _ => rfl, nofun⟩, rfl, fun _ => rfl, fun _ => ⟨rfl, rfl, rfl⟩⟩
  case fallback =>
    intro m _ _ _ _
    exact ⟨⟨b.length, Nat.le_refl _, by simp [StepRes.loop, Loop.adv], nofun, fun _ => rfl⟩, rfl, nofun,
      fun _ => ⟨rfl, rfl, rfl⟩⟩
  case noact =>
    intro m _ _ hc _ _
    exact ⟨⟨m, hc.le, rfl, nofun, nofun⟩, rfl, nofun, fun _ => ⟨rfl, rfl, rfl⟩⟩
  case skip =>
    intro m _ _ _ hc _ _ _
    exact ⟨⟨m, hc.le, rfl, fun _ => rfl, nofun⟩, rfl, fun _ => rfl, fun _ => ⟨rfl, rfl, rfl⟩⟩
  case halt =>
    intro m _ _ _ _ hc hv ha _ _
    exact ⟨⟨m, hc.le, rfl, fun _ => rfl, nofun⟩, set_dec_bytes ha, fun _ => rfl, fun h => by cases hv.symm.trans h⟩
  case close =>
    intro m _ _ _ hc hv ha _ _
    exact ⟨⟨m, hc.le, rfl, nofun, nofun⟩, set_dec_bytes ha, nofun, fun h => by cases hv.symm.trans h⟩
  case bw =>
    intro m _ _ _ _ hc hv ha _ _
    exact ⟨⟨m, hc.le, rfl, fun _ => rfl, nofun⟩, set_dec_bytes ha, fun _ => rfl, fun h => by cases hv.symm.trans h⟩

structure ContRel (s s' : Loop) (b b' : Bytes) : Prop where
  ex : ∃ m, m ≤ b.length ∧ b' = b.drop m ∧ s'.delivered = s.delivered ++ b.take m ∧ s'.off = s.off + (m : Int)
  shaping : s'.shaping = s.shaping
  inv : LInv s'
  len : s'.acts.length = s.acts.length
  measure : b'.length + (s'.acts.length - nidx s'.acts s'.next) < b.length + (s.acts.length - nidx s.acts s.next)
  mono : nidx s.acts s.next ≤ nidx s'.acts s'.next
  closes : ∀ (j : Nat) (a : Action), isClose a = true → (s'.acts[j]? = some a ↔ s.acts[j]? = some a)
  skipped : ∀ (j : Nat) (a : Action), nidx s.acts s.next ≤ j → j < nidx s'.acts s'.next → s.acts[j]? = some a →
    isClose a = true → a.count = 0

theorem contRel_adv {s : Loop} {b : Bytes} {m : Nat} (hI : LInv s) (h0 : 0 < m) (hle : m ≤ b.length)
    (hah : ∀ ind nb, s.next = some (ind, nb) → s.off + (m : Int) ≤ nb) : ContRel s (s.adv b m) b (b.drop m) := by
  refine ⟨⟨m, hle, rfl, rfl, rfl⟩, rfl, ⟨hI.sorted, ?_⟩, rfl, ?_, Nat.le_refl _, fun _ _ _ => Iff.rfl, ?_⟩
  · intro i nb h
    obtain ⟨h1, h2, _⟩ := hI.next i nb h
    exact ⟨h1, h2, hah i nb h⟩
  · show (b.drop m).length + (s.acts.length - nidx s.acts s.next) < _
    rw [List.length_drop]; omega
  · intro j a h1 h2; exact absurd h1 (Nat.not_le.2 h2)

/-- The round that performs or skips the pending action `a` at `ind` and moves on: everything a
continuing round guarantees follows from `nextFromIndex_spec` on the new action list. -/
theorem contRel_next {s s' : Loop} {b : Bytes} {cap m ind : Nat} {nb : Int} {a : Action} (hI : LInv s)
    (hc : Reach cap s b m ind nb) (ha : s.acts[ind]? = some a)
    (hk : a.count = 0 ∨ isClose a = false)
    (hacts : s'.acts = s.acts.set ind a.dec) (hnext : s'.next = nextFromIndex s'.acts (ind + 1))
    (hoff : s'.off = s.off + (m : Int)) (hdel : s'.delivered = s.delivered ++ b.take m)
    (hsh : s'.shaping = s.shaping) : ContRel s s' b (b.drop m) := by
  obtain ⟨hind, _⟩ := List.getElem_of_getElem? ha
  obtain ⟨_, hbyte, _⟩ := hI.next ind nb hc.next
  have hlen : s'.acts.length = s.acts.length := by rw [hacts, List.length_set]
  have hsort : SortedBy Action.byte s'.acts := sorted_of_bytes (by rw [hacts]; exact set_dec_bytes ha) hI.sorted
  obtain ⟨n1, n2, n3, n4⟩ := nextFromIndex_spec s'.acts (ind + 1) (by omega)
  rw [← hnext] at n1 n2 n3 n4
  have hni : nidx s.acts s.next = ind := by rw [hc.next]; rfl
  refine ⟨⟨m, hc.le, rfl, hdel, hoff⟩, hsh, ⟨hsort, ?_⟩, hlen, ?_, ?_, ?_, ?_⟩
  · intro j nb' hj
    obtain ⟨hjl, hjb, _⟩ := n4 j nb' hj
    refine ⟨hjl, hjb, ?_⟩
    -- the write position is the offset of action `ind`, and the list is sorted
    have hij : ind ≤ j := by rw [hj] at n1; simp only [nidx] at n1; omega
    have h1 := sorted_getElem hsort hij hjl
    have h2 : (s'.acts[ind]'(by omega)).byte = nb := by
      simp only [hacts, List.getElem_set_self, dec_byte]
      obtain ⟨_, rfl⟩ := List.getElem_of_getElem? ha; exact hbyte
    have h3 := hc.reach
    omega
  · rw [hni, List.length_drop]; omega
  · omega
  · intro j a' ha'
    rw [hacts, List.getElem?_set]
    by_cases hj : ind = j
    · subst hj
      simp only [if_true, hind, ha]
      rcases hk with h0 | hk
      · rw [dec_of_count_zero h0]
      · constructor
        · intro h; cases h; rw [isClose_dec, hk] at ha'; cases ha'
        · intro h; cases h; rw [hk] at ha'; cases ha'
    · simp only [hj, if_false]
  · intro j a' h1 h2 h3 h4
    by_cases hj : j = ind
    · subst hj; rw [ha] at h3; cases h3
      rcases hk with h0 | hk
      · exact h0
      · rw [hk] at h4; cases h4
    · apply n3 j a' (by omega) h2
      rw [hacts, List.getElem?_set_ne (by omega)]; exact h3

/-- The round is cut after `m` bytes by the pending close action `a` at index `i`. -/
structure Cut (s s' : Loop) (b : Bytes) (m i : Nat) (a : Action) : Prop where
  le : m ≤ b.length
  deliv : s'.delivered = s.delivered ++ b.take m
  off : s'.off = s.off + (m : Int)
  shaping : s'.shaping = s.shaping
  next : s.next = some (i, a.byte)
  act : s.acts[i]? = some a
  close : isClose a = true
  count : a.count ≠ 0
  reach : s'.off = a.byte

/-- What a round guarantees under the invariant: it goes on, falls back (shapes replaced) or is cut. -/
def StepOK (valid : Bool) (s : Loop) (b : Bytes) : StepRes → Prop
  | .cont s' b' => ContRel s s' b b'
  | .done s' st =>
    (st = .ok ∧ valid = false ∧ s'.delivered = s.delivered ++ b) ∨
    (st = .closed ∧ valid = true ∧ ∃ m i a, Cut s s' b m i a)

theorem stepLoop_ok (valid : Bool) (cap : Nat) (s : Loop) (b : Bytes) (hI : LInv s) (hb : b ≠ []) :
    StepOK valid s b (stepLoop valid cap s b) := by
  have hlen : 0 < b.length := List.length_pos_iff.2 hb
  apply stepLoop_cases
  case neg =>
    intro ind nb hn hlt
    obtain ⟨_, _, h⟩ := hI.next ind nb hn; omega
  case free =>
    intro m hn hm
    exact contRel_adv hI (by omega) (by omega) (by intro _ _ h; rw [hn] at h; cases h)
  case short =>
    intro m ind nb hc hlt
    have := hc.eq
    exact contRel_adv hI (by omega) hc.le (by intro _ _ h; rw [hc.next] at h; cases h; omega)
  case fallback =>
    intro m ind nb hc hv
    exact Or.inl ⟨rfl, hv, by simp only [Loop.adv, List.append_assoc, List.take_append_drop]⟩
  case noact =>
    intro m ind nb hc _ ha
    obtain ⟨h, _⟩ := hI.next ind nb hc.next
    rw [List.getElem?_eq_getElem h] at ha; cases ha
  case skip =>
    intro m ind nb a hc _ ha h0
    exact contRel_next hI hc ha (Or.inl h0) (set_dec_of_count_zero ha h0).symm rfl rfl rfl rfl
  case halt =>
    intro m ind nb a d hc _ ha _ hk
    exact contRel_next hI hc ha (Or.inr (by simp only [isClose, hk])) rfl rfl rfl rfl rfl
  case close =>
    intro m ind nb a hc hv ha h0 hk
    obtain ⟨h, hbyte, _⟩ := hI.next ind nb hc.next
    rw [List.getElem?_eq_getElem h] at ha; cases ha
    exact Or.inr ⟨rfl, hv, m, ind, _, hc.le, rfl, rfl, rfl, by rw [hc.next, hbyte], List.getElem?_eq_getElem h,
      by simp only [isClose, hk], h0, hc.reach.trans hbyte.symm⟩
  case bw =>
    intro m ind nb a x hc _ ha _ hk
    exact contRel_next hI hc ha (Or.inr (by simp only [isClose, hk])) rfl rfl rfl rfl rfl

structure RunRel (valid : Bool) (s : Loop) (b : Bytes) (s' : Loop) (st : Status) : Prop where
  nofuel : st ≠ .fuel
  nopanic : st ≠ .panic
  deliv : ∃ n, n ≤ b.length ∧ s'.delivered = s.delivered ++ b.take n ∧ (st = .ok → n = b.length) ∧
    (valid = true → s'.off = s.off + (n : Int) ∧ s'.shaping = s.shaping)
  closedValid : st = .closed → valid = true
  closed : st = .closed → ∃ i a, s.acts[i]? = some a ∧ isClose a = true ∧ a.count ≠ 0 ∧ s'.off = a.byte ∧
    nidx s.acts s.next ≤ i ∧
    ∀ (j : Nat) (a' : Action), nidx s.acts s.next ≤ j → j < i → s.acts[j]? = some a' → isClose a' = true → a'.count = 0
  okInv : st = .ok → valid = true → LInv s' ∧ nidx s.acts s.next ≤ nidx s'.acts s'.next ∧
    (∀ (j : Nat) (a : Action), isClose a = true → (s'.acts[j]? = some a ↔ s.acts[j]? = some a)) ∧
    (∀ (j : Nat) (a : Action), nidx s.acts s.next ≤ j → j < nidx s'.acts s'.next → s.acts[j]? = some a →
      isClose a = true → a.count = 0)

theorem RunRel.stop {valid : Bool} {s : Loop} (hI : LInv s) : RunRel valid s [] s .ok :=
  ⟨nofun, nofun, ⟨0, Nat.le_refl _, (List.append_nil _).symm, fun _ => rfl, fun _ => ⟨(Int.add_zero _).symm, rfl⟩⟩,
    nofun, nofun, fun _ _ => ⟨hI, Nat.le_refl _, fun _ _ _ => Iff.rfl, fun _ _ h1 h2 => absurd h1 (Nat.not_le.2 h2)⟩⟩

theorem RunRel.cont {valid : Bool} {s s1 s' : Loop} {b b1 : Bytes} {st : Status} (sc : ContRel s s1 b b1)
    (rc : RunRel valid s1 b1 s' st) : RunRel valid s b s' st := by
  obtain ⟨m, hm1, hm2, hm3, hm4⟩ := sc.ex
  obtain ⟨n, hn1, hn2, hn3, hn4⟩ := rc.deliv
  subst hm2
  rw [List.length_drop] at hn1 hn3
  -- close actions between the two pending indices: skipped by this round, or by the rest of the run
  have skipped : ∀ (i j : Nat) (a : Action), nidx s.acts s.next ≤ j → j < i → s.acts[j]? = some a → isClose a = true →
      (∀ (j : Nat) (a : Action), nidx s1.acts s1.next ≤ j → j < i → s1.acts[j]? = some a → isClose a = true → a.count = 0) →
      a.count = 0 := by
    intro i j a hj1 hj2 hj3 hj4 h
    by_cases hlt : j < nidx s1.acts s1.next
    · exact sc.skipped j a hj1 hlt hj3 hj4
    · exact h j a (by omega) hj2 ((sc.closes j a hj4).2 hj3) hj4
  refine ⟨rc.nofuel, rc.nopanic, ⟨m + n, by omega, ?_, fun h => by have := hn3 h; omega, ?_⟩, rc.closedValid, ?_, ?_⟩
  · rw [hn2, hm3, List.append_assoc, List.take_add]
  · intro hv; obtain ⟨h1, h2⟩ := hn4 hv
    exact ⟨by rw [h1, hm4]; push_cast; omega, h2.trans sc.shaping⟩
  · intro hc
    obtain ⟨i, a, h1, h2, h3, h4, h5, h6⟩ := rc.closed hc
    exact ⟨i, a, (sc.closes i a h2).1 h1, h2, h3, h4, Nat.le_trans sc.mono h5,
      fun j a' hj1 hj2 hj3 hj4 => skipped i j a' hj1 hj2 hj3 hj4 h6⟩
  · intro hok hv
    obtain ⟨k1, k2, k3, k4⟩ := rc.okInv hok hv
    exact ⟨k1, Nat.le_trans sc.mono k2, fun j a ha => (k3 j a ha).trans (sc.closes j a ha),
      fun j a hj1 hj2 hj3 hj4 => skipped _ j a hj1 hj2 hj3 hj4 k4⟩

theorem RunRel.done {valid : Bool} {s s' : Loop} {b : Bytes} {st : Status} (h : StepOK valid s b (.done s' st)) :
    RunRel valid s b s' st := by
  rcases h with ⟨rfl, hinv, hd⟩ | ⟨rfl, hval, m, i, a, cut⟩
  · exact ⟨nofun, nofun, ⟨b.length, Nat.le_refl _, by rw [List.take_length]; exact hd, fun _ => rfl,
      fun hv => by rw [hinv] at hv; cases hv⟩, nofun, nofun, fun _ hv => by rw [hinv] at hv; cases hv⟩
  · refine ⟨nofun, nofun, ⟨m, cut.le, cut.deliv, nofun, fun _ => ⟨cut.off, cut.shaping⟩⟩, fun _ => hval, fun _ => ?_, nofun⟩
    refine ⟨i, a, cut.act, cut.close, cut.count, cut.reach, by rw [cut.next]; exact Nat.le_refl _, ?_⟩
    intro j a' hj1 hj2
    rw [cut.next] at hj1; exact absurd hj1 (Nat.not_le.2 hj2)

theorem bodyLoop_spec (valid : Bool) (caps : Nat → Nat) (fuel r : Nat) (s : Loop) (b : Bytes) (hI : LInv s)
    (hf : b.length + (s.acts.length - nidx s.acts s.next) < fuel) :
    RunRel valid s b (bodyLoop valid caps fuel r s b).1 (bodyLoop valid caps fuel r s b).2 := by
  fun_induction bodyLoop valid caps fuel r s b with
  | case1 => omega
  | case2 fuel r s b hb => rw [List.isEmpty_iff.1 hb]; exact .stop hI
  | case3 fuel r s b hb s' b' hst ih =>
    have sc := stepLoop_ok valid (caps r) s b hI (by simpa using hb)
    rw [hst] at sc
    exact .cont sc (ih sc.inv (by have := sc.measure; omega))
  | case4 fuel r s b hb s' st hst =>
    have sc := stepLoop_ok valid (caps r) s b hI (by simpa using hb)
    rw [hst] at sc
    exact .done sc

theorem bodyLoop_invalid (caps : Nat → Nat) (fuel r : Nat) (s : Loop) (b : Bytes) :
    (bodyLoop false caps fuel r s b).1.evs = s.evs ∧ (bodyLoop false caps fuel r s b).1.acts = s.acts ∧
    (bodyLoop false caps fuel r s b).1.cap = s.cap := by
  fun_induction bodyLoop false caps fuel r s b with
  | case1 => exact ⟨rfl, rfl, rfl⟩
  | case2 => exact ⟨rfl, rfl, rfl⟩
  | case3 fuel r s b hb s' b' hst ih =>
    have st := (stepLoop_frame false (caps r) s b).invalid rfl
    rw [hst] at st
    exact ⟨ih.1.trans st.1, ih.2.1.trans st.2.1, ih.2.2.trans st.2.2⟩
  | case4 fuel r s b hb s' st' hst =>
    have st := (stepLoop_frame false (caps r) s b).invalid rfl
    rw [hst] at st
    exact st

/-- The context/action-list pair a `Write` call starts from is well formed: actions sorted by
offset, the pending action exists, carries its own offset and is not behind the write position.
This is `LInv` of the loop state the call starts from, in terms of what the caller holds. -/
def CtxOK (c : Ctx) (acts : List Action) : Prop :=
  SortedBy Action.byte acts ∧
  ∀ i nb, c.next = some (i, nb) → ∃ h : i < acts.length, acts[i].byte = nb ∧ c.off ≤ nb

/-- Number of bytes of this call that still belong to the response head and go out unshaped
(`writeAmount` in `Conn.Write`; the local `h` of `shapedWrite` and `beginWrite`). -/
def headPart (c : Ctx) (b : Bytes) : Nat :=
  if c.headerLen - c.headerWritten > 0 then min b.length (c.headerLen - c.headerWritten).toNat else 0

theorem headPart_le (c : Ctx) (b : Bytes) : headPart c b ≤ b.length := by
  unfold headPart; split <;> omega

theorem shapedWrite_runRel (valid : Bool) (caps : Nat → Nat) (c : Ctx) (acts : List Action) (b : Bytes) (h : CtxOK c acts) :
    let s : Loop := { off := c.off, next := c.next, acts := acts, delivered := b.take (headPart c b) }
    let r := bodyLoop valid caps (fuelFor (b.drop (headPart c b)) acts) 0 s (b.drop (headPart c b))
    RunRel valid s (b.drop (headPart c b)) r.1 r.2 := by
  apply bodyLoop_spec
  · exact ⟨h.1, h.2⟩
  · unfold fuelFor; simp only; omega

theorem shapedWrite_eq (valid : Bool) (caps : Nat → Nat) (c : Ctx) (acts : List Action) (b : Bytes) :
    shapedWrite valid caps c acts b =
      let r := bodyLoop valid caps (fuelFor (b.drop (headPart c b)) acts) 0
        { off := c.off, next := c.next, acts := acts, delivered := b.take (headPart c b) }
        (b.drop (headPart c b))
      { ctx := { c with headerWritten := c.headerWritten + (headPart c b : Int), off := r.1.off,
                        next := r.1.next, shaping := r.1.shaping },
        acts := r.1.acts, cap := r.1.cap, delivered := r.1.delivered, evs := r.1.evs, status := r.2 } := by
  unfold shapedWrite headPart
  rfl

end Martian.Shape
