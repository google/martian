import Martian.Model.Proxy
/-!
One call of `handle`: all four handlers emit `pre`, then the hijack exit or upstream contact, the
response modifier and - unless it hijacks - the write (`handleItem_eq`); the rest is read off that.
-/
namespace Martian.Proxy

def Item.rq : Item → ReqB
  | .x _ rq _ _ => rq
  | .connectMitm _ rq _ => rq
  | .connectBlind _ rq _ => rq
  | .connectMitmFail rq _ => rq
def Item.rs : Item → ResB
  | .x _ _ rs _ => rs
  | .connectMitm _ _ rs => rs
  | .connectBlind _ _ rs => rs
  | .connectMitmFail _ rs => rs
def Item.hij (it : Item) : Bool := it.rq == .hijack || it.rs == .hijack

def isTlsMitm : Item → Bool | .connectMitm true _ _ => true | _ => false
def Item.isMitm : Item → Bool | .connectMitm _ _ _ => true | _ => false

/-- Does this request end the connection (close after it, or hijack)? Independent of the state. -/
def endsConn (sd : Bool) : Item → Bool
  | .x rc rq rs org =>
    decide (rq = .hijack) || decide (rs = .hijack) || rc || sd ||
      (!rqSkip rq && (match org with | .ok _ cl => cl | .trunc _ => true | .fail => false))
  | .connectMitm _ rq rs => decide (rq = .hijack) || decide (rs = .hijack)
  | .connectBlind ok rq rs => decide (rq = .hijack) || decide (rs = .hijack) || ok
  | .connectMitmFail rq rs => decide (rq = .hijack) || decide (rs = .hijack)

def isRead (i : Nat) : Ev → Bool | .read j => j == i | _ => false

def links (evs : List Ev) : List Nat := evs.filterMap fun | .link c => some c | _ => none
def unlinks (evs : List Ev) : List Nat := evs.filterMap fun | .unlink c => some c | _ => none

theorem links_append (a b : List Ev) : links (a ++ b) = links a ++ links b := by simp [links]
theorem unlinks_append (a b : List Ev) : unlinks (a ++ b) = unlinks a ++ unlinks b := by simp [unlinks]

theorem countP_append (p : Ev → Bool) (a b : List Ev) : countP p (a ++ b) = countP p a + countP p b := by
  simp [countP, List.filter_append]

theorem countP_nil (p : Ev → Bool) : countP p [] = 0 := rfl

theorem countP_cons (p : Ev → Bool) (e : Ev) (l : List Ev) :
    countP p (e :: l) = (if p e then 1 else 0) + countP p l := by
  simp only [countP, List.filter_cons]; split <;> simp [Nat.add_comm]

theorem countP_ite (p : Ev → Bool) (b : Prop) [Decidable b] (l l' : List Ev) :
    countP p (if b then l else l') = if b then countP p l else countP p l' := by split <;> rfl

theorem countP_eq_zero {p : Ev → Bool} {l : List Ev} (h : ∀ e ∈ l, p e = false) : countP p l = 0 := by
  simp only [countP, List.length_eq_zero_iff, List.filter_eq_nil_iff]
  intro e he; simp [h e he]

theorem forall_mem_closing {P : Ev → Prop} (hun : ∀ c, P (.unlink c)) (hcl : P .closeConn) (opn : List Nat) :
    ∀ e ∈ opn.map Ev.unlink ++ [Ev.closeConn], P e := by
  intro e he
  rcases List.mem_append.mp he with h | h
  · obtain ⟨c, _, rfl⟩ := List.mem_map.mp h; exact hun c
  · rw [List.mem_singleton.mp h]; exact hcl

/-! The parts of `handle`'s trace after `pre`, named so that `handleItem_eq` can state the four
handlers of the model as one equation. -/

/-- A modifier has hijacked the session: `handle` returns at once, the deferred unlink runs. -/
def hijExit (s : St) (i c : Nat) : List Ev := [.hijacked i s.sessTls (hijTid s), .unlink c]

/-- The response modifier's call and the Warning for its error. -/
def post (i c status : Nat) (rs : ResB) : List Ev := .resmod i c status :: if rsErr rs then [.warnRes i] else []

/-- Contact with the origin: the round trip of a request that is not skipped, the dial of a CONNECT
without MITM; each with the Warning on the 502 made up when it fails. -/
def Item.up (s : St) (i : Nat) : Item → List Ev
  | .x _ rq _ org =>
    if rqSkip rq then [] else .upstream i (s.secure || s.connTls) :: if org = .fail then [.warnRt i] else []
  | .connectBlind ok _ _ => .dial i ok :: if ok then [] else [.warnRt i]
  | _ => []

/-- The status of the response the response modifier is given. -/
def Item.status : Item → Nat
  | .x _ rq _ org => if rqSkip rq then 200 else match org with | .ok st _ => st | .fail => 502 | .trunc st => st
  | .connectBlind ok _ _ => if ok then 200 else 502
  | _ => 200

/-- From the write to the client to `handle`'s return (`closeMark`, `complete` as in `handleX`). -/
def Item.fin (sd : Bool) (i c : Nat) : Item → List Ev
  | .x rc rq rs org =>
    [.write i (Item.x rc rq rs org).status
        (rc || (!rqSkip rq && match org with | .ok _ cl => cl | _ => false) || sd)
        (rqSkip rq || match org with | .trunc _ => false | _ => true),
      .unlink c]
  | .connectMitm _ _ _ => [.write i 200 false true]
  | .connectBlind ok _ _ =>
    if ok then [.write i 200 true true, .tunnel i, .unlink c] else [.write i 502 false true, .unlink c]
  | .connectMitmFail _ _ => [.write i 200 false true, .unlink c]

theorem Item.mem_up {s : St} {i : Nat} {it : Item} {e : Ev} (h : e ∈ it.up s i) :
    e = .upstream i (s.secure || s.connTls) ∨ (∃ ok, e = .dial i ok) ∨ e = .warnRt i := by
  cases it with
  | x _ rq _ org =>
    rw [Item.up] at h
    split at h
    · cases h
    · rw [List.mem_cons] at h
      refine h.imp_right fun h => .inr ?_
      split at h
      · exact List.mem_singleton.mp h
      · cases h
  | connectBlind ok _ _ =>
    rw [Item.up, List.mem_cons] at h
    refine .inr (h.imp (fun h => ⟨ok, h⟩) fun h => ?_)
    split at h
    · cases h
    · exact List.mem_singleton.mp h
  | connectMitm _ _ _ => cases h
  | connectMitmFail _ _ => cases h

theorem Item.mem_fin {sd : Bool} {i c : Nat} {it : Item} {e : Ev} (h : e ∈ it.fin sd i c) :
    (∃ st cl co, e = .write i st cl co) ∨ e = .tunnel i ∨ e = .unlink c := by
  cases it with
  | x _ _ _ _ =>
    simp only [Item.fin, List.mem_cons, List.not_mem_nil, or_false] at h
    exact h.imp (fun h => ⟨_, _, _, h⟩) .inr
  | connectMitm _ _ _ =>
    simp only [Item.fin, List.mem_singleton] at h
    exact .inl ⟨_, _, _, h⟩
  | connectBlind ok _ _ =>
    rw [Item.fin] at h
    split at h <;> simp only [List.mem_cons, List.not_mem_nil, or_false] at h
    · exact h.imp_left fun h => ⟨_, _, _, h⟩
    · exact h.imp (fun h => ⟨_, _, _, h⟩) .inr
  | connectMitmFail _ _ =>
    simp only [Item.fin, List.mem_cons, List.not_mem_nil, or_false] at h
    exact h.imp (fun h => ⟨_, _, _, h⟩) .inr

/-- The state the loop serves the next request in. -/
def Item.after (s : St) (i : Nat) (it : Item) : St :=
  if isTlsMitm it then { secure := true, connTls := true, sessTls := true, tlsId := i + 2, stored := s.stored + 1 }
  else afterReq it.rq (stAfter s)

section after
variable (s : St) (i : Nat) (it : Item)

theorem Item.after_of_not_tls (hm : isTlsMitm it = false) : it.after s i = afterReq it.rq (stAfter s) := by
  unfold Item.after
  rw [if_neg (by simp [hm])]

theorem Item.after_tlsId : (it.after s i).tlsId = if isTlsMitm it then i + 2 else s.tlsId := by
  unfold Item.after afterReq
  split
  · rfl
  · split <;> rfl

/-- One exchange keeps every value stored so far and adds the one of this request - also across a
TLS upgrade (`setConn`), a failed handshake and a modifier's `MarkInsecure`. -/
theorem Item.after_stored : (it.after s i).stored = s.stored + 1 := by
  unfold Item.after afterReq
  split
  · rfl
  · split <;> rfl

theorem Item.after_connTls : (it.after s i).connTls = (isTlsMitm it || s.connTls) := by
  unfold Item.after afterReq
  split
  · simp [*]
  · split <;> simp [*, stAfter]

theorem Item.after_sessTls : (it.after s i).sessTls = (isTlsMitm it || s.sessTls) := by
  unfold Item.after afterReq
  split
  · simp [*]
  · split <;> simp [*, stAfter]

theorem Item.after_secure (hm : isTlsMitm it = false) :
    (it.after s i).secure = if it.rq = .insecure then false else (s.secure || s.connTls) := by
  rw [Item.after_of_not_tls s i it hm, afterReq]
  split <;> rfl

end after

theorem handleItem_eq (sd : Bool) (s : St) (i c : Nat) (it : Item) :
    handleItem sd s i c it =
      (pre s i c it.rq ++
        if it.rq = .hijack then hijExit s i c else
          it.up s i ++ post i c it.status it.rs ++ if it.rs = .hijack then hijExit s i c else it.fin sd i c,
       if it.hij then .hijack else if endsConn sd it then .close else .again (it.after s i)) := by
  cases it with
  | x rc rq rs org =>
    dsimp only [handleItem, handleX, Item.rq, Item.rs, Item.hij, Item.up, Item.status, Item.fin, hijExit, post, stAfter,
      endsConn, Item.after, isTlsMitm]
    by_cases hq : rq = .hijack
    · simp [hq]
    · by_cases hs : rs = .hijack <;> simp only [hq, hs, if_true, if_false]
      all_goals cases rqSkip rq <;> cases org <;> simp [hq, hs, or_right_comm]
  | connectMitm tls rq rs =>
    dsimp only [handleItem, handleMitm, Item.rq, Item.rs, Item.hij, Item.up, Item.status, Item.fin, hijExit, post,
      endsConn, Item.after]
    by_cases hq : rq = .hijack
    · simp [hq]
    · by_cases hs : rs = .hijack <;> cases tls <;> simp [hq, hs, isTlsMitm, stAfter]
  | connectBlind ok rq rs =>
    dsimp only [handleItem, handleBlind, Item.rq, Item.rs, Item.hij, Item.up, Item.status, Item.fin, hijExit, post,
      endsConn, Item.after, isTlsMitm]
    by_cases hq : rq = .hijack
    · simp [hq]
    · by_cases hs : rs = .hijack <;> cases ok <;> simp [hq, hs]
  | connectMitmFail rq rs =>
    dsimp only [handleItem, handleMitmFail, Item.rq, Item.rs, Item.hij, Item.up, Item.status, Item.fin, hijExit, post,
      endsConn, Item.after, isTlsMitm]
    by_cases hq : rq = .hijack
    · simp [hq]
    · by_cases hs : rs = .hijack <;> simp [hq, hs]

theorem handleItem_fst (sd : Bool) (s : St) (i c : Nat) (it : Item) :
    (handleItem sd s i c it).1 = pre s i c it.rq ++
      if it.rq = .hijack then hijExit s i c else
        it.up s i ++ post i c it.status it.rs ++ if it.rs = .hijack then hijExit s i c else it.fin sd i c :=
  congrArg Prod.fst (handleItem_eq sd s i c it)

theorem roundtrip_is_made {rq : ReqB} (hq : rq = .pass ∨ ∃ v, rq = .err v) : rqSkip rq = false ∧ rq ≠ .hijack := by
  rcases hq with rfl | ⟨v, rfl⟩ <;> exact ⟨rfl, nofun⟩

theorem not_hij_of_not_ends {sd : Bool} {it : Item} (h : endsConn sd it = false) : it.hij = false := by
  cases it <;> simp_all [Item.hij, Item.rq, Item.rs, endsConn]

theorem handleItem_snd (sd : Bool) (s : St) (i c : Nat) (it : Item) :
    (handleItem sd s i c it).2 =
      if endsConn sd it then (if it.hij then .hijack else .close) else .again (it.after s i) := by
  rw [handleItem_eq]
  cases he : endsConn sd it
  · simp [not_hij_of_not_ends he]
  · simp

def Item.withMods (rq : ReqB) (rs : ResB) : Item → Item
  | .x rc _ _ org => .x rc rq rs org
  | .connectMitm tls _ _ => .connectMitm tls rq rs
  | .connectBlind ok _ _ => .connectBlind ok rq rs
  | .connectMitmFail _ _ => .connectMitmFail rq rs

theorem pre_congr (s : St) (i c : Nat) {rq rq' : ReqB} (h : rqErr rq' = rqErr rq) : pre s i c rq' = pre s i c rq := by
  unfold pre; rw [h]

theorem post_congr (i c st : Nat) {rs rs' : ResB} (h : rsErr rs' = rsErr rs) : post i c st rs' = post i c st rs := by
  unfold post; rw [h]

/-- `handle` looks at what a modifier did only through `rqSkip`, whether it hijacked, whether it
marked the session insecure - and, for the two Warnings, through `rqErr` and `rsErr`. -/
theorem handleItem_withMods (sd : Bool) (s : St) (i c : Nat) (it : Item) (rq : ReqB) (rs : ResB)
    (hskip : rqSkip rq = rqSkip it.rq) (hhij : rq = .hijack ↔ it.rq = .hijack)
    (hins : rq = .insecure ↔ it.rq = .insecure) (hrs : rs = .hijack ↔ it.rs = .hijack) :
    (handleItem sd s i c (it.withMods rq rs)).2 = (handleItem sd s i c it).2 ∧
    (handleItem sd s i c (it.withMods rq rs)).1 = pre s i c rq ++
      if it.rq = .hijack then hijExit s i c else
        it.up s i ++ post i c it.status rs ++ if it.rs = .hijack then hijExit s i c else it.fin sd i c := by
  have hm : isTlsMitm (it.withMods rq rs) = isTlsMitm it := by
    cases it with
    | connectMitm tls _ _ => cases tls <;> rfl
    | _ => rfl
  rw [handleItem_fst, handleItem_snd, handleItem_snd]
  simp only [Item.after, hm]
  cases it <;>
    simp only [Item.withMods, Item.rq, Item.rs, Item.up, Item.status, Item.fin, endsConn, Item.hij,
      afterReq, beq_iff_eq, Bool.or_eq_true, decide_eq_true_eq] at *
  all_goals
    simp only [hskip, hhij, hins, hrs]
    constructor <;> congr

def Ev.idx : Ev → Option Nat
  | .read i | .reqmod i _ _ _ _ _ | .warnReq i | .dial i _ | .upstream i _ | .warnRt i | .resmod i _ _ | .warnRes i
  | .write i _ _ _ | .tunnel i | .hijacked i _ _ => some i
  | .link _ | .unlink _ | .closeConn => none

/-- What an event emitted for exchange `i` with context `c` in state `s` looks like: it carries that
index and that context, and what it shows of the session is what `s` holds. -/
def Ev.Of (s : St) (i c : Nat) : Ev → Prop
  | .read j | .warnReq j | .dial j _ | .warnRt j | .warnRes j | .write j _ _ _ | .tunnel j => j = i
  | .link d | .unlink d => d = c
  | .reqmod j d https secure tls tid =>
    j = i ∧ d = c ∧ https = (s.secure || s.connTls) ∧ secure = (s.secure || s.connTls) ∧ tls = s.connTls ∧
      tid = if s.connTls then s.tlsId else 0
  | .upstream j tls => j = i ∧ tls = (s.secure || s.connTls)
  | .resmod j d _ => j = i ∧ d = c
  | .hijacked j tls tid => j = i ∧ tls = s.sessTls ∧ tid = hijTid s
  | .closeConn => False

theorem Ev.Of.idx {s : St} {i c : Nat} {e : Ev} (h : e.Of s i c) : e.idx = some i ∨ e.idx = none := by
  cases e <;> simp_all [Ev.Of, Ev.idx]

theorem of_item {sd : Bool} {s : St} {i c : Nat} {it : Item} {e : Ev} (he : e ∈ (handleItem sd s i c it).1) : e.Of s i c := by
  have hpre : ∀ e ∈ pre s i c it.rq, e.Of s i c := by
    unfold pre; cases rqErr it.rq <;> simp [Ev.Of]
  have hx : ∀ e ∈ hijExit s i c, e.Of s i c := by simp [hijExit, Ev.Of]
  have hup : ∀ e ∈ it.up s i, e.Of s i c := by
    intro e he
    rcases Item.mem_up he with rfl | ⟨ok, rfl⟩ | rfl
    · exact ⟨rfl, rfl⟩
    · exact rfl
    · exact rfl
  have hpost : ∀ e ∈ post i c it.status it.rs, e.Of s i c := by
    unfold post; cases rsErr it.rs <;> simp [Ev.Of]
  have hfin : ∀ e ∈ it.fin sd i c, e.Of s i c := by
    intro e he
    rcases Item.mem_fin he with ⟨st, cl, co, rfl⟩ | rfl | rfl <;> exact rfl
  rw [handleItem_fst] at he
  refine List.forall_mem_append.mpr ⟨hpre, ?_⟩ e he
  split
  · exact hx
  · refine List.forall_mem_append.mpr ⟨List.forall_mem_append.mpr ⟨hup, hpost⟩, ?_⟩
    split <;> assumption

theorem ite_or {α : Type} (a b : Prop) [Decidable a] [Decidable b] (x y : α) :
    (if a then x else if b then x else y) = if a ∨ b then x else y := by
  by_cases a <;> by_cases b <;> simp [*]

section own
variable (sd : Bool) (s : St) (i c : Nat) (it : Item)

attribute [local simp] countP_append countP_cons countP_ite countP_nil pre post hijExit Item.up Item.fin

theorem own_read : countP (isRead i) (handleItem sd s i c it).1 = 1 := by
  rw [handleItem_fst]
  cases it <;> simp [isRead]

theorem own_reqmod : countP (isReqmod i) (handleItem sd s i c it).1 = 1 := by
  rw [handleItem_fst]
  cases it <;> simp [isReqmod]

theorem own_resmod : countP (isResmod i) (handleItem sd s i c it).1 = if it.rq = .hijack then 0 else 1 := by
  rw [handleItem_fst]
  cases it <;> simp [isResmod]

theorem own_write : countP (isWrite i) (handleItem sd s i c it).1 = if it.hij then 0 else 1 := by
  rw [handleItem_fst]
  cases it <;> simp [isWrite, Item.hij, ite_or]

theorem own_hijacked : countP (isHijacked i) (handleItem sd s i c it).1 = if it.hij then 1 else 0 := by
  rw [handleItem_fst]
  cases it <;> simp [isHijacked, Item.hij, ite_or]

theorem own_warnReq : countP (isWarnReq i) (handleItem sd s i c it).1 = if rqErr it.rq then 1 else 0 := by
  rw [handleItem_fst]
  cases it <;> simp [isWarnReq]

theorem own_warnRes : countP (isWarnRes i) (handleItem sd s i c it).1 =
    if it.rq = .hijack then 0 else if rsErr it.rs then 1 else 0 := by
  rw [handleItem_fst]
  cases it <;> simp [isWarnRes]

theorem own_upstream : countP (isUpstream i) (handleItem sd s i c it).1 =
    if it.rq = .hijack then 0 else countP (isUpstream i) (it.up s i) := by
  rw [handleItem_fst]
  cases it <;> simp [-Item.up, isUpstream]

theorem links_item : links (handleItem sd s i c it).1 = [c] := by
  rw [handleItem_fst]
  cases it <;> simp [links, apply_ite (List.filterMap _)]

/-- A MITM CONNECT that goes on to serve its tunnel comes back to the loop still linked. -/
theorem unlinks_item : unlinks (handleItem sd s i c it).1 = if it.hij || !it.isMitm then [c] else [] := by
  rw [handleItem_fst]
  cases it <;> simp [unlinks, Item.isMitm, Item.hij, ite_or, apply_ite (List.filterMap _)]

end own

end Martian.Proxy
