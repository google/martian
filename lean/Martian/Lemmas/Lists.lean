/-! Facts about core `List` functions that the lemmas of more than one model use. -/
namespace Martian

theorem getElem?_split {α : Type} {l : List α} {k : Nat} {a : α} (hk : l[k]? = some a) :
    ∃ pre post, l = pre ++ a :: post ∧ ∀ b, l.set k b = pre ++ b :: post := by
  obtain ⟨hlt, rfl⟩ := List.getElem?_eq_some_iff.mp hk
  exact ⟨l.take k, l.drop (k + 1), by simp, fun b => by rw [List.set_eq_take_append_cons_drop, if_pos hlt]⟩

theorem dropWhile_of_all_not {α} (p : α → Bool) (l : List α) (h : ∀ c ∈ l, p c = false) :
    l.dropWhile p = l := by
  cases l with
  | nil => rfl
  | cons c r => simp [List.dropWhile, h c (by simp)]

end Martian
