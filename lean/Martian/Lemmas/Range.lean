import Martian.Model.Range
import Martian.Lemmas.Strings
/-! Lemmas about the Range pipeline of `Model/Range.lean`: every accepted range lies inside the content
(`Within`), so `goSlice` succeeds on it and `respond` is one of five shapes (`respond_eq`). -/
namespace Martian.Go
open Martian

theorem atoi_some {s : Bytes} {v : Int} : atoi s = some v →
    minInt64 ≤ v ∧ v ≤ maxInt64 ∧ (v < 0 → s.head? = some 45) := by
  have key : ∀ {o : Option Nat} {P : Nat → Prop} [DecidablePred P] {g : Nat → Int},
      (o.bind fun n => if P n then some (g n) else none) = some v → ∃ n, P n ∧ g n = v := by
    intro o P _ g h
    simp only [Option.bind_eq_some_iff, Option.ite_none_right_eq_some, Option.some.injEq] at h
    obtain ⟨n, -, hn⟩ := h
    exact ⟨n, hn⟩
  fun_cases atoi s
  · nofun
  · intro h
    obtain ⟨n, hn, rfl⟩ := key h
    simp only [minInt64, maxInt64] at hn ⊢
    omega
  · rename_i c r _ h45
    intro h
    obtain ⟨n, hn, rfl⟩ := key h
    refine ⟨hn, ?_, fun _ => by rw [eq_of_beq h45]; rfl⟩
    simp only [maxInt64]
    omega
  · intro h
    obtain ⟨n, hn, rfl⟩ := key h
    simp only [minInt64, maxInt64] at hn ⊢
    omega

end Martian.Go

namespace Martian.Range
open Martian Martian.Go

def Within (size : Nat) (p : Int × Int) : Prop := 0 ≤ p.1 ∧ p.1 ≤ p.2 ∧ p.2 < (size : Int)

/-- Bytes `p.1 ..= p.2` of the content: `content[s:e+1]`. -/
def slice (content : Bytes) (p : Int × Int) : Bytes :=
  (content.drop p.1.toNat).take (p.2.toNat + 1 - p.1.toNat)

theorem parseOne_ok {size : Nat} {rng : Bytes} {s e : Int} :
    parseOne size rng = .ok s e → Within size (s, e) := by
  fun_cases parseOne size rng
  case case4 rng' a b hsp sv hs ev _ hcond =>
    intro h
    injection h with h1 h2
    subst h1 h2
    -- the first half comes out of a split on "-", so it carries no sign and is not negative
    have ha : minus ∉ trimSpace a := fun hm =>
      split_no_sep _ _ a (by rw [hsp]; exact List.mem_cons_self) (mem_trimSpace hm)
    have : 0 ≤ sv := Int.not_lt.1 fun hn => ha (List.mem_of_mem_head? ((atoi_some hs).2.2 hn))
    unfold Within
    omega
  all_goals nofun

theorem parseAll_ok {size : Nat} {l : List Bytes} {acc rs : List (Int × Int)}
    (h : parseAll size l acc = .ok rs) (hacc : ∀ p ∈ acc, Within size p) : ∀ p ∈ rs, Within size p := by
  fun_induction parseAll size l acc
  case case1 => cases h; simpa using hacc
  case case2 ho ih => exact ih h (List.forall_mem_cons.2 ⟨parseOne_ok ho, hacc⟩)
  all_goals cases h

theorem goSlice_ok {content : Bytes} {p : Int × Int} (h : Within content.length p) :
    goSlice content p.1 (p.2 + 1) = some (slice content p) := by
  obtain ⟨h0, h1, h2⟩ := h
  rw [goSlice, if_pos ⟨h0, Int.le_trans h1 (Int.le_add_one (Int.le_refl _)), Int.add_one_le_of_lt h2⟩,
    Int.toNat_add (Int.le_trans h0 h1) (by decide)]
  rfl

theorem sliceParts_ok (content : Bytes) (rs : List (Int × Int)) (h : ∀ p ∈ rs, Within content.length p) :
    sliceParts content rs =
      some (rs.map fun p => (p.1, p.2, slice content p)) := by
  induction rs with
  | nil => rfl
  | cons p rest ih =>
    obtain ⟨hp, hrest⟩ := List.forall_mem_cons.1 h
    simp [sliceParts, goSlice_ok hp, ih hrest]

theorem respond_eq (content : Bytes) (hdr : Option Bytes) :
    (respond content hdr = .full content ∨ respond content hdr = .unsat ∨ respond content hdr = .err) ∨
    ∃ rs : List (Int × Int), (∀ p ∈ rs, Within content.length p) ∧
      respond content hdr = match rs with
        | [(s, e)] => .single s e content.length (slice content (s, e))
        | rs => .multi content.length
            (rs.map fun p => (p.1, p.2, slice content p)) := by
  fun_cases respond content hdr
  case case1 | case2 => exact .inl (.inl rfl)
  case case3 => exact .inl (.inr (.inl rfl))
  case case4 => exact .inl (.inr (.inr rfl))
  case case5 s e hp hs =>
    rw [goSlice_ok (p := (s, e)) (parseAll_ok hp nofun _ List.mem_cons_self)] at hs
    cases hs
  case case6 s e hp seg hs =>
    have hall := parseAll_ok hp nofun
    rw [goSlice_ok (p := (s, e)) (hall _ List.mem_cons_self)] at hs
    cases hs
    exact .inr ⟨_, hall, rfl⟩
  case case7 rs _ hp hs =>
    rw [sliceParts_ok _ _ (parseAll_ok hp nofun)] at hs
    cases hs
  case case8 rs hrs hp ps hs =>
    have hall := parseAll_ok hp nofun
    rw [sliceParts_ok _ _ hall] at hs
    cases hs
    refine .inr ⟨rs, hall, ?_⟩
    split
    · exact absurd rfl (hrs _ _)
    · rfl

end Martian.Range
