import Martian.Model.Marbl
import Martian.Lemmas.Be32
/-! Lemmas about `Model/Marbl.lean`: `ReadFrame` on the layout `sendHeader`/`sendData` write, interleavings
(`Shuffle`) and the runs of the stream's goroutines (`Sys`), `bodyLogger.Read` (`bodyRun`), the writer's buffers. -/
namespace Martian.Marbl
open Martian

theorem rd32_be32 (n : Nat) : rd32 (be32 n) = n % two32 := by
  simp only [be32, rd32, two32, UInt8.toNat_ofNat', Nat.mod_mod]
  rw [Be32.horner, ← Be32.mod_two32]

theorem be32_length (n : Nat) : (be32 n).length = 4 := rfl

theorem hasAtLeast_iff (n : Nat) (bs : Bytes) : hasAtLeast n bs = true ↔ n ≤ bs.length := by
  fun_induction hasAtLeast n bs <;> simp [*]

theorem readFull_append {n : Nat} (a b : Bytes) (h : a.length = n) : readFull n (a ++ b) = .ok (a, b) := by
  subst h
  have : hasAtLeast a.length (a ++ b) = true := (hasAtLeast_iff _ _).mpr (by simp)
  simp [readFull, this]

theorem readFull_ok {n : Nat} {bs a b : Bytes} (h : readFull n bs = .ok (a, b)) :
    n ≤ bs.length ∧ a = bs.take n ∧ b = bs.drop n := by
  unfold readFull at h
  split at h
  · rename_i hh
    simp at h; exact ⟨(hasAtLeast_iff _ _).mp hh, h.1.symm, h.2.symm⟩
  · split at h <;> simp at h

theorem readFull_rest {n : Nat} {bs a b : Bytes} (h : readFull n bs = .ok (a, b)) : b.length + n = bs.length := by
  obtain ⟨hl, _, rfl⟩ := readFull_ok h
  rw [List.length_drop]; omega

theorem frameHead_length (ft mt : UInt8) (id : Bytes) (h : id.length = 8) : (frameHead ft mt id).length = 10 := by
  simp [frameHead, h]

theorem readHeaderBody_encode (sum : Nat → Nat → Nat) (hsum : ∀ a b, a < two32 → b < two32 → sum a b = a + b)
    (mt : UInt8) (id n v rest : Bytes) (hn : n.length < two32) (hv : v.length < two32) :
    readHeaderBody sum mt id ((be32 n.length ++ be32 v.length) ++ ((n ++ v) ++ rest)) = .ok (.header mt id n v) rest := by
  have hn' : n.length % two32 = n.length := Nat.mod_eq_of_lt hn
  have hv' : v.length % two32 = v.length := Nat.mod_eq_of_lt hv
  unfold readHeaderBody
  rw [readFull_append (n := 8) (be32 n.length ++ be32 v.length) _ (by simp [be32_length])]
  simp only [List.take_left' (be32_length _), List.drop_left' (be32_length _), rd32_be32, hn', hv']
  rw [hsum _ _ hn hv, readFull_append _ _ List.length_append]
  simp

theorem desc_take4 (a c : Bytes) (tb : UInt8) (h : a.length = 4) : (a ++ [tb] ++ c).take 4 = a := by
  rw [List.append_assoc]
  exact List.take_left' h

theorem desc_drop4 (a c : Bytes) (tb : UInt8) (h : a.length = 4) : (a ++ [tb] ++ c).drop 4 = tb :: c := by
  rw [List.append_assoc]
  exact List.drop_left' h

theorem desc_drop5 (a c : Bytes) (tb : UInt8) (h : a.length = 4) : (a ++ [tb] ++ c).drop 5 = c :=
  List.drop_left' (by simp [h])

theorem readDataBody_encode (mt : UInt8) (id : Bytes) (i : Nat) (tb : UInt8) (p rest : Bytes)
    (hi : i < two32) (hp : p.length < two32) :
    readDataBody mt id ((be32 i ++ [tb] ++ be32 p.length) ++ (p ++ rest)) = .ok (.data mt id i (tb == 1) p) rest := by
  have hi' : i % two32 = i := Nat.mod_eq_of_lt hi
  have hp' : p.length % two32 = p.length := Nat.mod_eq_of_lt hp
  unfold readDataBody
  rw [readFull_append (n := 9) (be32 i ++ [tb] ++ be32 p.length) _ (by simp [be32_length])]
  simp only [desc_take4 _ _ _ (be32_length _), desc_drop4 _ _ _ (be32_length _), desc_drop5 _ _ _ (be32_length _),
    rd32_be32, hi', hp', List.headD_cons]
  rw [readFull_append _ _ rfl]

theorem encode_header_eq (mt : UInt8) (id n v : Bytes) (hn : n.length < two32) (hv : v.length < two32) :
    encode (.header mt id n v) = frameHead 1 mt id ++ (be32 n.length ++ be32 v.length) ++ (n ++ v) := by
  simp only [encode, Nat.mod_eq_of_lt hn, Nat.mod_eq_of_lt hv, List.take_length]

theorem readFrameWith_frameHead (sum : Nat → Nat → Nat) (ft mt : UInt8) (id r1 : Bytes) (hid : id.length = 8) :
    readFrameWith sum (frameHead ft mt id ++ r1) =
      if ft = 1 then readHeaderBody sum mt id r1 else if ft = 2 then readDataBody mt id r1 else .err .unknownType := by
  have h8 : id.take 8 = id := List.take_of_length_le (Nat.le_of_eq hid)
  unfold readFrameWith
  rw [readFull_append _ _ (frameHead_length ft mt id hid)]
  simp only [frameHead, h8, List.headD_cons, List.drop_succ_cons, List.drop_zero]

theorem readFrameWith_encode (sum : Nat → Nat → Nat) (hsum : ∀ a b, a < two32 → b < two32 → sum a b = a + b)
    (f : Frame) (hf : f.Valid) (rest : Bytes) : readFrameWith sum (encode f ++ rest) = .ok f rest := by
  cases f with
  | header mt id n v =>
    obtain ⟨hid, hn, hv⟩ := hf
    rw [encode_header_eq mt id n v hn hv, List.append_assoc, List.append_assoc, readFrameWith_frameHead sum 1 mt id _ hid,
      if_pos rfl]
    exact readHeaderBody_encode sum hsum mt id n v rest hn hv
  | data mt id i t p =>
    obtain ⟨hid, hi, hp⟩ := hf
    rw [encode, List.append_assoc, List.append_assoc, readFrameWith_frameHead sum 2 mt id _ hid,
      if_neg (by simp), if_pos rfl, readDataBody_encode mt id i _ p rest hi hp]
    cases t <;> simp

theorem readHeaderBody_sumInt_ne_panic (mt : UInt8) (id r1 : Bytes) : readHeaderBody sumInt mt id r1 ≠ .panic := by
  -- the arms of `readHeaderBody`: first `ReadFull` failed, second failed, `.ok`, `.panic`
  fun_cases readHeaderBody sumInt mt id r1 with
  | case1 | case2 | case3 => nofun
  | case4 lens r2 h nl vl nv r3 h2 hle =>
    -- `nv` has `nl + vl` bytes
    obtain ⟨hl, rfl, _⟩ := readFull_ok h2
    rw [List.length_take] at hle
    simp only [sumInt, nl, vl] at hl hle
    omega

theorem readHeaderBody_rest {sum : Nat → Nat → Nat} {mt : UInt8} {id r1 : Bytes} :
    ∀ {f : Frame} {rest : Bytes}, readHeaderBody sum mt id r1 = .ok f rest → rest.length ≤ r1.length := by
  fun_cases readHeaderBody sum mt id r1 with
  | case1 | case2 | case4 => nofun
  | case3 =>
    intro f rest h
    obtain ⟨-, rfl⟩ := Res.ok.inj h
    have := readFull_rest ‹readFull 8 r1 = _›
    have := readFull_rest ‹readFull (sum _ _) _ = _›
    omega

theorem readDataBody_ne_panic (mt : UInt8) (id r1 : Bytes) : readDataBody mt id r1 ≠ .panic := by
  fun_cases readDataBody mt id r1 <;> nofun

theorem readDataBody_rest {mt : UInt8} {id r1 : Bytes} :
    ∀ {f : Frame} {rest : Bytes}, readDataBody mt id r1 = .ok f rest → rest.length ≤ r1.length := by
  -- the arms of `readDataBody`: first `ReadFull` failed, second failed, `.ok`
  fun_cases readDataBody mt id r1 with
  | case1 | case2 => nofun
  | case3 =>
    intro f rest h
    obtain ⟨-, rfl⟩ := Res.ok.inj h
    have := readFull_rest ‹readFull 9 r1 = _›
    have := readFull_rest ‹readFull (rd32 _) _ = _›
    omega

theorem readFrameWith_sumInt_ne_panic (bs : Bytes) : readFrameWith sumInt bs ≠ .panic := by
  -- the arms of `readFrameWith`: `ReadFull` failed, header frame, data frame, unknown type
  fun_cases readFrameWith sumInt bs with
  | case1 | case4 => nofun
  | case2 => exact readHeaderBody_sumInt_ne_panic _ _ _
  | case3 => exact readDataBody_ne_panic _ _ _

theorem readFrameWith_rest_le {sum : Nat → Nat → Nat} {bs : Bytes} :
    ∀ {f : Frame} {rest : Bytes}, readFrameWith sum bs = .ok f rest → rest.length + 10 ≤ bs.length := by
  fun_cases readFrameWith sum bs with
  | case1 | case4 => nofun
  | case2 fh r1 h1 =>
    intro f rest h
    have := readFull_rest h1
    have := readHeaderBody_rest h
    omega
  | case3 fh r1 h1 =>
    intro f rest h
    have := readFull_rest h1
    have := readDataBody_rest h
    omega

theorem readFrame_encode (f : Frame) (hf : f.Valid) (rest : Bytes) : readFrame (encode f ++ rest) = .ok f rest :=
  readFrameWith_encode sumInt (fun _ _ _ _ => rfl) f hf rest

theorem encode_length_pos (f : Frame) : 0 < (encode f).length := by
  cases f <;> simp [encode, frameHead]

theorem readAllFuel_encodeAll (fs : List Frame) (hv : ∀ f ∈ fs, f.Valid) :
    ∀ fuel, (encodeAll fs).length < fuel → readAllFuel fuel (encodeAll fs) = (fs, .err .eof) := by
  induction fs with
  | nil =>
    intro fuel h
    cases fuel with
    | zero => simp at h
    | succ k => simp [readAllFuel, encodeAll, readFrame, readFrameWith, readFull, hasAtLeast]
  | cons f fs ih =>
    intro fuel h
    cases fuel with
    | zero => simp at h
    | succ k =>
      have hcons : encodeAll (f :: fs) = encode f ++ encodeAll fs := by simp [encodeAll]
      rw [hcons] at h ⊢
      have hpos := encode_length_pos f
      rw [List.length_append] at h
      simp only [readAllFuel, readFrame_encode f (hv f (by simp))]
      rw [ih (fun g hg => hv g (by simp [hg])) k (by omega)]

theorem readAllFuel_stop : ∀ (fuel : Nat) (bs : Bytes), bs.length < fuel → ∃ e, (readAllFuel fuel bs).2 = .err e := by
  intro fuel
  induction fuel with
  | zero => intro bs h; simp at h
  | succ k ih =>
    intro bs h
    simp only [readAllFuel]
    cases hr : readFrame bs with
    | ok f rest =>
      have := readFrameWith_rest_le hr
      exact ih rest (by omega)
    | err e => exact ⟨e, rfl⟩
    | panic => exact absurd hr (readFrameWith_sumInt_ne_panic bs)

theorem Shuffle.filter {α : Type} (p : α → Bool) {ms : List (List α)} {l : List α} (h : Shuffle ms l) :
    Shuffle (ms.map (List.filter p)) (l.filter p) := by
  induction h with
  | nil hall =>
    apply Shuffle.nil
    intro m hm
    rw [List.mem_map] at hm
    obtain ⟨m', hm', rfl⟩ := hm
    rw [hall m' hm']; rfl
  | @cons ms l i x m hi _ ih =>
    rw [List.map_set] at ih
    have hget : (ms.map (List.filter p))[i]? = some ((x :: m).filter p) := by
      rw [List.getElem?_map, hi]; rfl
    by_cases hp : p x = true
    · rw [List.filter_cons_of_pos hp] at hget ⊢
      exact Shuffle.cons i x _ hget ih
    · rw [List.filter_cons_of_neg hp] at hget ⊢
      -- the sender's head is filtered out: its filtered sequence is already the one after the step
      obtain ⟨hlt, hi'⟩ := List.getElem?_eq_some_iff.mp hget
      rwa [← hi', List.set_getElem_self] at ih

theorem Shuffle.single {α : Type} {ms : List (List α)} {l : List α} (h : Shuffle ms l) :
    ∀ i : Nat, (∀ (j : Nat) (m : List α), j ≠ i → ms[j]? = some m → m = []) → l = (ms[i]?).getD [] := by
  induction h with
  | @nil ms hall =>
    intro i _
    cases hm : ms[i]? with
    | none => rfl
    | some m => simp [hall m (List.mem_of_getElem? hm)]
  | @cons ms l k x m hk _ ih =>
    intro i hothers
    have hki : k = i := by
      by_cases hki : k = i
      · exact hki
      · have := hothers k _ hki hk; cases this
    subst hki
    have hlt : k < ms.length := (List.getElem?_eq_some_iff.mp hk).1
    have := ih k (by
      intro j m' hj hm'
      rw [List.getElem?_set_ne (Ne.symm hj)] at hm'
      exact hothers j m' hj hm')
    rw [this, hk, List.getElem?_set_self hlt]
    rfl

theorem Shuffle.mem {α : Type} {ms : List (List α)} {l : List α} (h : Shuffle ms l) :
    ∀ x ∈ l, ∃ m ∈ ms, x ∈ m := by
  induction h with
  | nil _ => intro x hx; cases hx
  | @cons ms l i x m hi _ ih =>
    intro y hy
    have hxm : (x :: m) ∈ ms := List.mem_of_getElem? hi
    rcases List.mem_cons.mp hy with rfl | hy
    · exact ⟨_, hxm, by simp⟩
    · obtain ⟨m', hm', hym⟩ := ih y hy
      rcases List.mem_or_eq_of_mem_set hm' with h | h
      · exact ⟨m', h, hym⟩
      · subst h; exact ⟨_, hxm, List.mem_cons_of_mem _ hym⟩

theorem Shuffle.of_map {α β : Type} (f : α → β) {cs : List (List β)} {l : List β} (h : Shuffle cs l) :
    ∀ ms : List (List α), cs = ms.map (List.map f) → ∃ fl, Shuffle ms fl ∧ l = fl.map f := by
  induction h with
  | @nil cs hall =>
    rintro ms rfl
    exact ⟨[], Shuffle.nil fun m hm => by simpa using hall _ (List.mem_map_of_mem hm), rfl⟩
  | @cons cs l i x m hi _ ih =>
    rintro ms rfl
    obtain ⟨mi, hmi, hmap⟩ : ∃ mi, ms[i]? = some mi ∧ mi.map f = x :: m := by
      simpa [List.getElem?_map] using hi
    obtain ⟨y, m', rfl, rfl, rfl⟩ := List.map_eq_cons_iff.mp hmap
    obtain ⟨fl, hfl, rfl⟩ := ih (ms.set i m') (by rw [List.map_set])
    exact ⟨y :: fl, Shuffle.cons i y m' hmi hfl, rfl⟩

theorem Sys.step_take {α : Type} {s s1 : Sys α} {i : Nat} (h : s.take i = some s1) :
    ∃ c m, s.writer.inflight = [] ∧ s.senders[i]? = some (c :: m) ∧
      s1.senders = s.senders.set i m ∧ s1.writer.inflight = [c] ∧ s1.out = s.out := by
  unfold Sys.take at h
  split at h
  · rename_i c m hw hs
    cases h
    exact ⟨c, m, by rw [hw]; rfl, hs, rfl, rfl, rfl⟩
  · cases h

theorem Sys.step_write {α : Type} {s s1 : Sys α} (h : s.write = some s1) :
    ∃ c, s.writer.inflight = [c] ∧ s1.senders = s.senders ∧ s1.writer.inflight = [] ∧ s1.out = s.out ++ [c] := by
  unfold Sys.write at h
  split at h
  · rename_i c hw
    cases h
    exact ⟨c, by rw [hw]; rfl, rfl, rfl, rfl⟩
  · cases h

theorem Sys.step_close {α : Type} {s s1 : Sys α} (h : s.close = some s1) :
    s.writer.inflight = [] ∧ s1.senders = s.senders ∧ s1.writer.inflight = [] ∧ s1.out = s.out := by
  unfold Sys.close at h
  split at h
  · rename_i hw
    cases h
    exact ⟨by rw [hw]; rfl, rfl, rfl, rfl⟩
  · cases h

theorem Sys.exec_shuffle {α : Type} (steps : List Step) (s s' : Sys α) (h : s.exec steps = some s')
    (hq : s'.quiescent = true) : ∃ l, Shuffle s.senders l ∧ s'.out = s.out ++ s.writer.inflight ++ l := by
  -- stated for any start `s` so that it is an invariant of `step`: written so far, then the slice inside
  -- `Write`, then an interleaving of what the senders still hold
  fun_induction Sys.exec s steps with
  | case1 s =>
    cases h
    simp only [Sys.quiescent, Bool.and_eq_true, List.all_eq_true, List.isEmpty_iff] at hq
    exact ⟨[], Shuffle.nil hq.1, by simp [hq.2]⟩
  | case2 s st rest s1 hs ih =>
    obtain ⟨l, hl, hout⟩ := ih h
    cases st with
    | take i =>
      obtain ⟨c, m, hw, hi, hsend, hw1, ho1⟩ := Sys.step_take hs
      rw [hsend] at hl
      exact ⟨c :: l, Shuffle.cons i c m hi hl, by rw [hout, hw, hw1, ho1]; simp⟩
    | write =>
      obtain ⟨c, hw, hsend, hw1, ho1⟩ := Sys.step_write hs
      rw [hsend] at hl
      exact ⟨l, hl, by rw [hout, hw, hw1, ho1]; simp⟩
    | close =>
      obtain ⟨hw, hsend, hw1, ho1⟩ := Sys.step_close hs
      rw [hsend] at hl
      exact ⟨l, hl, by rw [hout, hw, hw1, ho1]⟩
  | case3 s st rest hs => cases h

theorem Sys.shuffle_reachable {α : Type} {ms : List (List α)} {l : List α} (h : Shuffle ms l) :
    ∀ o : List α, ∃ steps s', (Sys.mk ms .idle o).exec steps = some s' ∧ s'.quiescent = true ∧ s'.out = o ++ l := by
  induction h with
  | @nil ms hall =>
    intro o
    refine ⟨[], _, rfl, ?_, by simp⟩
    simp only [Sys.quiescent, Bool.and_eq_true, List.all_eq_true, List.isEmpty_iff]
    exact ⟨hall, rfl⟩
  | @cons ms l i x m hi _ ih =>
    intro o
    obtain ⟨steps, s', he, hq, ho⟩ := ih (o ++ [x])
    refine ⟨.take i :: .write :: steps, s', ?_, hq, by rw [ho]; simp⟩
    simp only [Sys.exec, Sys.step, Sys.take, Sys.write, hi]
    exact he

theorem senderChunks_whole (m : List Frame) : senderChunks true m = m.map encode := by
  induction m with
  | nil => rfl
  | cons f m ih =>
    simp only [senderChunks, List.flatMap_cons, chunksOf, if_true, List.map_cons] at ih ⊢
    rw [ih]; rfl

theorem bodyRun_length (mt : UInt8) (id : Bytes) (rs : List ReadRes) : ∀ ctr, (bodyRun mt id ctr rs).2.length = rs.length := by
  induction rs with
  | nil => intro ctr; rfl
  | cons r rs ih => intro ctr; simp [bodyRun, bodyRead, ih]

theorem bodyRun_index (mt : UInt8) (id : Bytes) (rs : List ReadRes) :
    ∀ ctr, ctr + rs.length ≤ two32 → (bodyRun mt id ctr rs).2.map Frame.index = List.range' ctr rs.length := by
  induction rs with
  | nil => intro ctr _; rfl
  | cons r rs ih =>
    intro ctr h
    simp only [List.length_cons] at h
    -- after the last read the counter may wrap (`ctr + 1 = two32`); only a read that follows needs `ctr + 1 < two32`
    cases rs with
    | nil => simp [bodyRun, bodyRead, Frame.index]
    | cons r2 rs2 =>
      simp only [List.length_cons] at h ih
      have hlt : ctr + 1 < two32 := by omega
      have := ih (ctr + 1) (by omega)
      simp only [bodyRun, bodyRead, Nat.mod_eq_of_lt hlt, List.map_cons, Frame.index, List.length_cons, List.range'_succ] at this ⊢
      rw [this]

theorem bodyRun_payload (mt : UInt8) (id : Bytes) (rs : List ReadRes) :
    ∀ ctr, (bodyRun mt id ctr rs).2.map Frame.payload = rs.map ReadRes.data := by
  induction rs with
  | nil => intro ctr; rfl
  | cons r rs ih => intro ctr; simp [bodyRun, bodyRead, Frame.payload, ih]

theorem bodyRun_terminal (mt : UInt8) (id : Bytes) (rs : List ReadRes) :
    ∀ ctr, (bodyRun mt id ctr rs).2.map Frame.terminal = rs.map (fun r => r.err == .eof) := by
  induction rs with
  | nil => intro ctr; rfl
  | cons r rs ih => intro ctr; simp [bodyRun, bodyRead, Frame.terminal, ih]

theorem bodyRun_key (mt : UInt8) (id : Bytes) (rs : List ReadRes) :
    ∀ ctr, ∀ f ∈ (bodyRun mt id ctr rs).2, f.key = (id, mt) ∧ f.isData = true := by
  induction rs with
  | nil => intro ctr f hf; simp [bodyRun] at hf
  | cons r rs ih =>
    intro ctr f hf
    simp only [bodyRun, bodyRead, List.mem_cons] at hf
    rcases hf with rfl | hf
    · simp [Frame.key, Frame.isData]
    · exact ih _ f hf

theorem bodyRun_valid (mt : UInt8) (id : Bytes) (hid : id.length = 8) (rs : List ReadRes)
    (hd : ∀ r ∈ rs, r.data.length < two32) :
    ∀ ctr, ctr < two32 → ∀ f ∈ (bodyRun mt id ctr rs).2, f.Valid := by
  induction rs with
  | nil => intro ctr _ f hf; simp [bodyRun] at hf
  | cons r rs ih =>
    intro ctr hc f hf
    simp only [bodyRun, bodyRead, List.mem_cons] at hf
    rcases hf with rfl | hf
    · exact ⟨hid, hc, hd r (by simp)⟩
    · exact ih (fun r' hr' => hd r' (by simp [hr'])) _ (Nat.mod_lt _ (by decide)) f hf

theorem callRun_spec (mt : UInt8) (id : Bytes) (cs : List Call) : ∀ ctr closed,
    (callRun false mt id ctr closed cs).1 = cs ∧
    (callRun false mt id ctr closed cs).2 = (bodyRun mt id ctr (Call.reads cs)).2 := by
  induction cs with
  | nil => intro ctr closed; exact ⟨rfl, rfl⟩
  | cons c cs ih =>
    intro ctr closed
    cases c with
    | read r =>
      have := ih ((ctr + 1) % two32) closed
      simp [callRun, bodyRead, Call.reads, bodyRun, this.1, this.2]
    | close e =>
      have := ih ctr true
      simp [callRun, Call.reads, this.1, this.2]

/-- Invariant of `sendFrame .fresh` (a `make` per frame): the retaining writer's view equals the
copying writer's, and every reference it holds is a buffer of the heap. -/
structure WState.Ok (s : WState) : Prop where
  view : s.retained = s.copied
  inRange : ∀ i ∈ s.kept, i < s.heap.length

theorem sendFrame_fresh_ok (s : WState) (f : Bytes) (h : s.Ok) : (sendFrame .fresh s f).Ok := by
  constructor
  · have hv := h.view
    simp only [sendFrame, WState.retained, List.map_append, List.map_cons, List.map_nil] at hv ⊢
    rw [← hv]
    congr 1
    · apply List.map_congr_left
      intro i hi
      rw [List.getElem?_append_left (h.inRange i hi)]
    · simp
  · intro i hi
    simp only [sendFrame, List.mem_append, List.mem_singleton, List.length_append, List.length_cons, List.length_nil] at hi ⊢
    rcases hi with hi | hi
    · have := h.inRange i hi; omega
    · omega

theorem foldl_sendFrame_fresh (fs : List Bytes) : ∀ s : WState, s.Ok →
    (fs.foldl (sendFrame .fresh) s).Ok ∧ (fs.foldl (sendFrame .fresh) s).copied = s.copied ++ fs := by
  induction fs with
  | nil => intro s h; simp [h]
  | cons f fs ih =>
    intro s h
    have := ih (sendFrame .fresh s f) (sendFrame_fresh_ok s f h)
    simp only [List.foldl_cons]
    refine ⟨this.1, ?_⟩
    rw [this.2]; simp [sendFrame]

end Martian.Marbl
