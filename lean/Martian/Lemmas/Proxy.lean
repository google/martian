import Martian.Lemmas.ProxyItem
/-! The serving loop: which request is handled in which state, localisation of per-exchange counts,
lifting of per-event facts, context ids. -/
namespace Martian.Proxy

theorem run_cons (sd : Bool) (base : Nat) (s : St) (i : Nat) (opn : List Nat) (it : Item) (rest : List Item) :
    run sd base s i opn (it :: rest) = (handleItem sd s i (base + i) it).1 ++
      if endsConn sd it then opn.map .unlink ++ [.closeConn]
      else run sd base (it.after s i) (i + 1) (nextOpen (base + i) opn it) rest := by
  simp only [run, handleItem_snd]
  cases endsConn sd it
  · rfl
  · cases it.hij <;> simp

/-- Which state and item the request with index `k` is handled with, if it is read at all. -/
def at? (sd : Bool) (base : Nat) : St → Nat → List Item → Nat → Option (St × Item)
  | _, _, [], _ => none
  | s, i, it :: rest, k =>
    if k = i then some (s, it) else
    match (handleItem sd s i (base + i) it).2 with
    | .again s' => at? sd base s' (i + 1) rest k
    | _ => none

theorem at?_cons (sd : Bool) (base : Nat) (s : St) (i : Nat) (it : Item) (rest : List Item) (k : Nat) :
    at? sd base s i (it :: rest) k =
      if k = i then some (s, it) else if endsConn sd it then none else at? sd base (it.after s i) (i + 1) rest k := by
  simp only [at?, handleItem_snd]
  cases endsConn sd it
  · rfl
  · cases it.hij <;> rfl

theorem at?_lt (sd : Bool) (base : Nat) (s : St) (i : Nat) (items : List Item) (k : Nat) (h : k < i) :
    at? sd base s i items k = none := by
  induction items generalizing s i with
  | nil => rfl
  | cons it rest ih =>
    rw [at?_cons, if_neg (by omega), ih _ _ (by omega)]
    exact ite_self _

theorem getElem?_cons_sub {α : Type} (x : α) (rest : List α) {i j : Nat} (h : i < j) :
    (x :: rest)[j - i]? = rest[j - (i + 1)]? := by
  rw [show j - i = (j - (i + 1)) + 1 by omega, List.getElem?_cons_succ]

theorem at?_cons_some {sd : Bool} {base : Nat} {s : St} {i : Nat} {x : Item} {rest : List Item} {k : Nat}
    {s' : St} {it : Item} (h : at? sd base s i (x :: rest) k = some (s', it)) :
    (k = i ∧ s' = s ∧ it = x) ∨
      (i < k ∧ endsConn sd x = false ∧ at? sd base (x.after s i) (i + 1) rest k = some (s', it)) := by
  rw [at?_cons] at h
  split at h
  · cases h; exact .inl ⟨‹k = i›, rfl, rfl⟩
  · split at h
    · cases h
    · refine .inr ⟨Nat.lt_of_not_le fun hk => ?_, by simpa using ‹¬endsConn sd x = true›, h⟩
      rw [at?_lt sd base _ (i + 1) rest k (by omega)] at h
      cases h

theorem at?_none_after_end {sd : Bool} {base : Nat} {s : St} {i : Nat} {items : List Item} {k j : Nat} {s' : St}
    {it : Item} (h : at? sd base s i items k = some (s', it)) (he : endsConn sd it = true) (hj : k < j) :
    at? sd base s i items j = none := by
  induction items generalizing s i with
  | nil => rfl
  | cons x rest ih =>
    rw [at?_cons]
    rcases at?_cons_some h with ⟨rfl, _, rfl⟩ | ⟨_, hx, h'⟩
    · rw [if_neg (by omega), if_pos he]
    · rw [if_neg (by omega), hx, ih h']; rfl

theorem at?_item (sd : Bool) (base : Nat) (s : St) (i : Nat) (items : List Item) (k : Nat) (s' : St) (it : Item)
    (h : at? sd base s i items k = some (s', it)) : i ≤ k ∧ items[k - i]? = some it := by
  induction items generalizing s i with
  | nil => simp [at?] at h
  | cons x rest ih =>
    rcases at?_cons_some h with ⟨rfl, _, rfl⟩ | ⟨hik, _, h'⟩
    · simp
    · exact ⟨by omega, by rw [getElem?_cons_sub x rest hik]; exact (ih _ _ h').2⟩

/-- A family of event predicates indexed by exchange number that ignores bookkeeping events and
events of other exchanges. -/
structure Local (p : Nat → Ev → Bool) : Prop where
  unlink : ∀ k c, p k (.unlink c) = false
  closeConn : ∀ k, p k .closeConn = false
  foreign : ∀ k sd s i c it, k ≠ i → countP (p k) (handleItem sd s i c it).1 = 0

theorem Local.of_idx {p : Nat → Ev → Bool} (hp : ∀ k e, p k e = true → e.idx = some k) : Local p :=
  ⟨fun k c => Bool.eq_false_iff.mpr fun h => (nomatch (hp k (.unlink c) h : none = some k)),
   fun k => Bool.eq_false_iff.mpr fun h => (nomatch (hp k .closeConn h : none = some k)),
   fun k sd s i c it hk => countP_eq_zero fun e he => Bool.eq_false_iff.mpr fun hpe => by
     have := hp k e hpe
     rcases (of_item he).idx with h | h <;> simp_all⟩

theorem local_read : Local isRead := .of_idx fun k e h => by cases e <;> simp_all [isRead, Ev.idx]
theorem local_reqmod : Local isReqmod := .of_idx fun k e h => by cases e <;> simp_all [isReqmod, Ev.idx]
theorem local_resmod : Local isResmod := .of_idx fun k e h => by cases e <;> simp_all [isResmod, Ev.idx]
theorem local_upstream : Local isUpstream := .of_idx fun k e h => by cases e <;> simp_all [isUpstream, Ev.idx]
theorem local_write : Local isWrite := .of_idx fun k e h => by cases e <;> simp_all [isWrite, Ev.idx]
theorem local_warnReq : Local isWarnReq := .of_idx fun k e h => by cases e <;> simp_all [isWarnReq, Ev.idx]
theorem local_warnRes : Local isWarnRes := .of_idx fun k e h => by cases e <;> simp_all [isWarnRes, Ev.idx]
theorem local_warnRt : Local isWarnRt := .of_idx fun k e h => by cases e <;> simp_all [isWarnRt, Ev.idx]
theorem local_hijacked : Local isHijacked := .of_idx fun k e h => by cases e <;> simp_all [isHijacked, Ev.idx]

theorem countP_unlinks {p : Nat → Ev → Bool} (hp : Local p) (k : Nat) (opn : List Nat) :
    countP (p k) (opn.map Ev.unlink ++ [Ev.closeConn]) = 0 :=
  countP_eq_zero (forall_mem_closing (hp.unlink k) (hp.closeConn k) opn)

/-- Localisation: the number of `p k` events of a whole connection is that of exchange `k` alone. -/
theorem count_run {p : Nat → Ev → Bool} (hp : Local p) (sd : Bool) (base : Nat) (k : Nat)
    (s : St) (i : Nat) (opn : List Nat) (items : List Item) :
    countP (p k) (run sd base s i opn items) =
      match at? sd base s i items k with
      | some (s', it) => countP (p k) (handleItem sd s' k (base + k) it).1
      | none => 0 := by
  induction items generalizing s i opn with
  | nil => simp only [run, at?]; exact countP_unlinks hp k opn
  | cons it rest ih =>
    rw [run_cons, at?_cons, countP_append]
    by_cases hk : k = i
    · subst hk
      rw [if_pos rfl]
      split
      · rw [countP_unlinks hp]; rfl
      · rw [ih, at?_lt sd base _ (k + 1) rest k (by omega)]; rfl
    · rw [if_neg hk, hp.foreign k sd s i (base + i) it hk, Nat.zero_add]
      split
      · exact countP_unlinks hp k opn
      · exact ih _ _ _

theorem forall_run (P : Ev → Prop) (sd : Bool) (base : Nat)
    (hitem : ∀ s i it, ∀ e ∈ (handleItem sd s i (base + i) it).1, P e)
    (hun : ∀ c, P (.unlink c)) (hcl : P .closeConn)
    (s : St) (i : Nat) (opn : List Nat) (items : List Item) :
    ∀ e ∈ run sd base s i opn items, P e := by
  have tail := forall_mem_closing hun hcl
  induction items generalizing s i opn with
  | nil => exact tail opn
  | cons it rest ih =>
    intro e he
    rw [run_cons] at he
    rcases List.mem_append.mp he with h | h
    · exact hitem s i it e h
    · split at h
      · exact tail opn e h
      · exact ih _ _ _ e h

theorem mem_run_of_at? {sd : Bool} {base : Nat} {s : St} {i : Nat} (opn : List Nat) {items : List Item}
    {k : Nat} {s' : St} {it : Item} (h : at? sd base s i items k = some (s', it)) :
    ∀ e ∈ (handleItem sd s' k (base + k) it).1, e ∈ run sd base s i opn items := by
  induction items generalizing s i opn with
  | nil => simp [at?] at h
  | cons x rest ih =>
    intro e he
    rw [run_cons]
    rcases at?_cons_some h with ⟨rfl, rfl, rfl⟩ | ⟨_, hx, h'⟩
    · exact List.mem_append_left _ he
    · rw [hx]; exact List.mem_append_right _ (ih _ h' e he)

theorem links_tail (opn : List Nat) : links (opn.map Ev.unlink ++ [Ev.closeConn]) = [] := by
  refine List.filterMap_eq_nil_iff.mpr (forall_mem_closing (fun _ => ?_) ?_ opn) <;> rfl

theorem unlinks_tail (opn : List Nat) : unlinks (opn.map Ev.unlink ++ [Ev.closeConn]) = opn := by
  induction opn with
  | nil => simp [unlinks]
  | cons c r ih => simp only [unlinks, List.map_cons, List.cons_append, List.filterMap_cons] at *; rw [ih]

theorem unlinks_run_tail (a : List Ev) (opn : List Nat) :
    unlinks (a ++ opn.map Ev.unlink ++ [Ev.closeConn]) = unlinks a ++ opn := by
  rw [List.append_assoc, unlinks_append, unlinks_tail]

section
variable (sd : Bool) (base : Nat) (s : St) (i : Nat) (opn : List Nat) (items : List Item)

/-- Context ids are handed out in increasing order, so none is used twice. -/
theorem links_nodup :
    (∀ c ∈ links (run sd base s i opn items), base + i ≤ c) ∧ (links (run sd base s i opn items)).Nodup := by
  induction items generalizing s i opn with
  | nil => simp [run, links_tail]
  | cons it rest ih =>
    rw [run_cons, links_append, links_item]
    split
    · simp [links_tail]
    · obtain ⟨h1, h2⟩ := ih (it.after s i) (i + 1) (nextOpen (base + i) opn it)
      refine ⟨fun c hc => ?_, List.nodup_cons.mpr ⟨fun hm => ?_, h2⟩⟩
      · rcases List.mem_cons.mp hc with rfl | hc
        · omega
        · have := h1 c hc; omega
      · have := h1 _ hm; omega

/-- Every context linked during a connection is unlinked by the time the connection is closed:
as multisets, unlinks = links + the contexts that were still pending at the start. -/
theorem unlinks_count (c : Nat) :
    (unlinks (run sd base s i opn items)).count c = (links (run sd base s i opn items)).count c + opn.count c := by
  induction items generalizing s i opn with
  | nil => simp [run, links_tail, unlinks_tail]
  | cons it rest ih =>
    rw [run_cons, links_append, unlinks_append, links_item, unlinks_item, List.count_append, List.count_append]
    cases he : endsConn sd it
    · -- the loop goes on: a MITM CONNECT hands its context to the pending ones
      simp only [Bool.false_eq_true, if_false]
      have hn : nextOpen (base + i) opn it = if it.isMitm then (base + i) :: opn else opn := by cases it <;> rfl
      rw [ih, hn, not_hij_of_not_ends he]
      cases it.isMitm <;> simp [List.count_cons] <;> omega
    · rw [if_pos rfl, links_tail, unlinks_tail]
      -- a CONNECT with MITM ends the connection only by a hijack
      have : (it.hij || !it.isMitm) = true := by
        cases it <;> simp_all [Item.isMitm, Item.hij, Item.rq, Item.rs, endsConn]
      simp [this]

end

/-- `item_cases it then tac` splits `it` into its constructor and every value of its modifier
behaviours and origin outcome, unfolds `handleItem` by `simp` in each case and runs `tac` on what is left. -/
macro "item_cases " it:ident " then " tac:tactic : tactic => `(tactic|
      cases $it:ident with
      | x rc rq rs org =>
        cases rq <;> cases rs <;> cases org <;>
          (simp [handleItem, handleX, pre, stAfter, afterReq, rqErr, rqSkip, rsErr, countP, Item.rq, Item.rs, Item.hij,
            isRead, isReqmod, isResmod, isUpstream, isWrite, isWarnReq, isWarnRes, isWarnRt, isHijacked, *] <;> $tac)
      | connectMitm tls rq rs =>
        cases rq <;> cases rs <;> cases tls <;>
          (simp [handleItem, handleMitm, pre, stAfter, afterReq, rqErr, rqSkip, rsErr, countP, Item.rq, Item.rs, Item.hij,
            isRead, isReqmod, isResmod, isUpstream, isWrite, isWarnReq, isWarnRes, isWarnRt, isHijacked, *] <;> $tac)
      | connectBlind ok rq rs =>
        cases rq <;> cases rs <;> cases ok <;>
          (simp [handleItem, handleBlind, pre, stAfter, afterReq, rqErr, rqSkip, rsErr, countP, Item.rq, Item.rs, Item.hij,
            isRead, isReqmod, isResmod, isUpstream, isWrite, isWarnReq, isWarnRes, isWarnRt, isHijacked, *] <;> $tac)
      | connectMitmFail rq rs =>
        cases rq <;> cases rs <;>
          (simp [handleItem, handleMitmFail, pre, stAfter, afterReq, rqErr, rqSkip, rsErr, countP, Item.rq, Item.rs, Item.hij,
            isRead, isReqmod, isResmod, isUpstream, isWrite, isWarnReq, isWarnRes, isWarnRt, isHijacked, *] <;> $tac))

end Martian.Proxy
