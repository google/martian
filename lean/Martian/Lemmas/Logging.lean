import Martian.Model.Logging
namespace Martian.Logging
open Martian Martian.MessageView

theorem applyAll_flag (get : Flags → Bool) (sets : Mark → Bool)
    (h : ∀ f mk, get (f.apply mk) = (sets mk || get f)) (f : Flags) (ms : List Mark) :
    get (f.applyAll ms) = (get f || ms.any sets) := by
  induction ms generalizing f with
  | nil => simp [Flags.applyAll]
  | cons mk rest ih =>
    rw [Flags.applyAll, List.foldl_cons, ← Flags.applyAll, ih, h, List.any_cons,
      Bool.or_comm (sets mk), Bool.or_assoc]

theorem skipLogging_applyAll (f : Flags) (ms : List Mark) :
    (f.applyAll ms).skipLogging = true ↔ f.skipLogging = true ∨ ∃ mk ∈ ms, mk.setsSkipLogging = true := by
  rw [applyAll_flag (·.skipLogging) Mark.setsSkipLogging (fun _ mk => by cases mk <;> rfl), Bool.or_eq_true,
    List.any_eq_true]

theorem applyAll_append (f : Flags) (a b : List Mark) :
    f.applyAll (a ++ b) = (f.applyAll a).applyAll b :=
  List.foldl_append

/-- Every slot reads from an existing buffer. -/
def Valid (w : World) : Prop := ∀ (i : Nat) (s : Held), w.slots[i]? = some s → s.ref < w.heap.length

/-- Every slot of `w` still stands for the message it stood for in `w0`. -/
def Same (w0 w : World) : Prop :=
  ∀ (i : Nat) (s : Held), w.slots[i]? = some s →
    ∃ s0, w0.slots[i]? = some s0 ∧ deref w.heap s = deref w0.heap s0

theorem Same.refl (w : World) : Same w w := fun _ s h => ⟨s, h, rfl⟩

theorem install_fresh_slot (w : World) (i : Nat) (hv : Valid w) (j : Nat) (t : Held) :
    (install .fresh w i).slots[j]? = some t →
      t.ref < (install .fresh w i).heap.length ∧
        ∃ s, w.slots[j]? = some s ∧ deref (install .fresh w i).heap t = deref w.heap s := by
  unfold install
  cases hi : w.slots[i]? with
  | none => exact fun hj => ⟨hv j t hj, t, hj, rfl⟩
  | some s =>
    intro hj
    by_cases hij : i = j
    · subst hij
      rw [List.getElem?_set_self (List.getElem?_eq_some_iff.1 hi).1] at hj
      cases hj
      exact ⟨by simp, s, hi, by simp [deref]⟩
    · rw [List.getElem?_set_ne hij] at hj
      have hlt := hv j t hj
      exact ⟨by simp; omega, t, hj, by simp [deref, List.getElem?_append_left hlt]⟩

theorem install_fresh (w0 w : World) (i : Nat) (hv : Valid w) (hs : Same w0 w) :
    Valid (install .fresh w i) ∧ Same w0 (install .fresh w i) := by
  refine ⟨fun j t hj => (install_fresh_slot w i hv j t hj).1, fun j t hj => ?_⟩
  obtain ⟨_, s, hj', e⟩ := install_fresh_slot w i hv j t hj
  obtain ⟨s0, h0, e0⟩ := hs j s hj'
  exact ⟨s0, h0, e.trans e0⟩

theorem applyInstalls_fresh (w0 : World) (i : Nat) (steps : List Bool) (w : World)
    (h : Valid w ∧ Same w0 w) :
    Valid (applyInstalls .fresh w i steps) ∧ Same w0 (applyInstalls .fresh w i steps) := by
  induction steps generalizing w with
  | nil => exact h
  | cons b rest ih =>
    rw [applyInstalls, ite_self]
    exact ih _ (install_fresh w0 w i h.1 h.2)

theorem run_fresh (w0 : World) (evs : List Ev) (w : World) (h : Valid w ∧ Same w0 w) :
    ∀ p ∈ (run .fresh w evs).2, ∃ s0, w0.slots[p.1]? = some s0 ∧ p.2 = deref w0.heap s0 := by
  induction evs generalizing w with
  | nil => exact fun _ hp => nomatch hp
  | cons e rest ih =>
    cases e with
    | log i l skip =>
      rw [run]
      cases hi : w.slots[i]? with
      | none => exact ih w h
      | some s => exact ih _ (applyInstalls_fresh w0 i _ w h)
    | write i =>
      rw [run]
      cases hi : w.slots[i]? with
      | none => exact ih w h
      | some s =>
        intro p hp
        rcases List.mem_cons.1 hp with rfl | hp
        · exact h.2 i s hi
        · exact ih w h p hp

theorem ofMsgs_slot {ms : List Msg} {i : Nat} {s : Held} (hi : (World.ofMsgs ms).slots[i]? = some s) :
    s.ref < (World.ofMsgs ms).heap.length ∧ some (deref (World.ofMsgs ms).heap s) = ms[i]? := by
  simp only [World.ofMsgs, List.getElem?_map, List.getElem?_zipIdx, Option.map_eq_some_iff] at hi
  obtain ⟨_, ⟨a, ha, rfl⟩, rfl⟩ := hi
  rw [deref, World.ofMsgs, List.length_map, Nat.zero_add, List.getElem?_map, ha]
  refine ⟨(List.getElem?_eq_some_iff.1 ha).1, ?_⟩
  cases a
  rename_i body _
  cases body <;> rfl

theorem valid_ofMsgs (ms : List Msg) : Valid (World.ofMsgs ms) :=
  fun _ _ hi => (ofMsgs_slot hi).1

theorem logFaultK_body (keep : Bool) (t : Trusted) (l : Logger) (skip : Bool) (m : Msg) (b : FBody) :
    (logFaultK keep t l skip m b).body =
      if b.err && !(installs l skip { m with body := some b.data }).isEmpty
      then ⟨if keep then b.data else [], true⟩ else b :=
  apply_ite FOutcome.body _ _ _

end Martian.Logging
