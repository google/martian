import Martian.Model.Shape
/-! C18: the two binary searches, the stable sort, and what `parseShapes` / `configure` accept. -/
namespace Martian.Shape
open Martian Martian.Go

/-- On `[0, n)` the predicate is false up to some index and true from it on: what `sort.Search` assumes. -/
def Mono (f : Nat → Bool) (n : Nat) : Prop := ∀ a b, a ≤ b → b < n → f a = true → f b = true

theorem linSearch_spec (f : Nat → Bool) (k i : Nat) : i ≤ linSearch f k i ∧ linSearch f k i ≤ i + k ∧
    (∀ m, i ≤ m → m < linSearch f k i → f m = false) ∧
    (linSearch f k i < i + k → f (linSearch f k i) = true) := by
  fun_induction linSearch f k i with
  | case1 i => exact ⟨Nat.le_refl _, Nat.le_refl _, fun m h1 h2 => by omega, fun h => by omega⟩
  | case2 k i hf => exact ⟨Nat.le_refl _, by omega, fun m h1 h2 => by omega, fun _ => hf⟩
  | case3 k i hf ih =>
    obtain ⟨h1, h2, h3, h4⟩ := ih
    refine ⟨by omega, by omega, fun m hm1 hm2 => ?_, fun h => h4 (by omega)⟩
    by_cases hm : m = i
    · subst hm; simpa using hf
    · exact h3 m (by omega) hm2

theorem searchGo_spec (f : Nat → Bool) (n : Nat) (hm : Mono f n) (i j : Nat) (hij : i ≤ j) (hjn : j ≤ n)
    (hlo : ∀ m, m < i → f m = false) (hhi : ∀ m, j ≤ m → m < n → f m = true) :
    i ≤ searchGo f i j ∧ searchGo f i j ≤ j ∧
    (∀ m, m < searchGo f i j → f m = false) ∧ (∀ m, searchGo f i j ≤ m → m < n → f m = true) := by
  fun_induction searchGo f i j with
  | case1 i j hlt h hf ih =>
    have hff : f h = false := by simpa using hf
    have := ih (by omega) hjn (fun m hmlt => by
      cases hc : f m with
      | false => rfl
      | true => have := hm m h (by omega) (by omega) hc; rw [hff] at this; cases this) hhi
    exact ⟨by omega, this.2.1, this.2.2.1, this.2.2.2⟩
  | case2 i j hlt h hf ih =>
    have hft : f h = true := by simpa using hf
    have := ih (by omega) (by omega) hlo (fun m h1 h2 => hm _ m h1 h2 hft)
    exact ⟨this.1, by omega, this.2.2.1, this.2.2.2⟩
  | case3 i j hlt => exact ⟨Nat.le_refl _, hij, hlo, fun m h2 h3 => hhi m (by omega) h3⟩

theorem searchGo_bound (f : Nat → Bool) (n : Nat) (hm : Mono f n) :
    searchGo f 0 n ≤ n ∧ (∀ m, m < searchGo f 0 n → f m = false) ∧ (∀ m, searchGo f 0 n ≤ m → m < n → f m = true) :=
  (searchGo_spec f n hm 0 n (Nat.zero_le _) (Nat.le_refl _) (fun _ h => absurd h (Nat.not_lt_zero _))
    (fun _ h1 h2 => absurd h2 (Nat.not_lt.2 h1))).2

theorem searchGo_eq_linSearch (f : Nat → Bool) (n : Nat) (hm : Mono f n) :
    searchGo f 0 n = linSearch f n 0 := by
  obtain ⟨a1, a2, a3⟩ := searchGo_bound f n hm
  obtain ⟨_, b1, b2, b3⟩ := linSearch_spec f n 0
  by_cases h : searchGo f 0 n < linSearch f n 0
  · have := (b2 _ (Nat.zero_le _) h).symm.trans (a3 _ (Nat.le_refl _) (by omega)); cases this
  · by_cases h' : linSearch f n 0 < searchGo f 0 n
    · have := (a2 _ h').symm.trans (b3 (by omega)); cases this
    · omega

/-- Ascending in `key`, as `sort.SliceStable` in `parseShapes` leaves the throttles (by start) and the actions (by offset). -/
def SortedBy {α : Type} (key : α → Int) (l : List α) : Prop := l.Pairwise (fun a b => key a ≤ key b)

theorem mem_insertBy {α : Type} (key : α → Int) (x y : α) (l : List α) : y ∈ insertBy key x l ↔ y = x ∨ y ∈ l := by
  fun_induction insertBy key x l with
  | case1 => simp
  | case2 => simp
  | case3 z zs _ ih => simp [ih, or_left_comm]

theorem insertBy_sorted {α : Type} (key : α → Int) (x : α) (l : List α) (h : SortedBy key l) :
    SortedBy key (insertBy key x l) := by
  unfold SortedBy at h ⊢
  fun_induction insertBy key x l with
  | case1 => exact List.pairwise_singleton _ _
  | case2 y ys hle =>
    refine List.pairwise_cons.2 ⟨fun a ha => ?_, h⟩
    rcases List.mem_cons.1 ha with rfl | ha
    · exact hle
    · exact Int.le_trans hle ((List.pairwise_cons.1 h).1 a ha)
  | case3 y ys hnle ih =>
    rw [List.pairwise_cons] at h
    refine List.pairwise_cons.2 ⟨fun a ha => ?_, ih h.2⟩
    rcases (mem_insertBy key x a ys).1 ha with rfl | ha
    · omega
    · exact h.1 a ha

theorem stableSort_sorted {α : Type} (key : α → Int) (l : List α) : SortedBy key (stableSort key l) := by
  induction l with
  | nil => exact List.Pairwise.nil
  | cons x xs ih => exact insertBy_sorted key x (stableSort key xs) ih

theorem mem_stableSort {α : Type} (key : α → Int) (y : α) (l : List α) : y ∈ stableSort key l ↔ y ∈ l := by
  induction l with
  | nil => exact Iff.rfl
  | cons x xs ih => exact (mem_insertBy key x y (stableSort key xs)).trans (by rw [ih, List.mem_cons])

theorem sorted_getElem {α : Type} {key : α → Int} {l : List α} (h : SortedBy key l) {i j : Nat}
    (hij : i ≤ j) (hj : j < l.length) : key (l[i]'(by omega)) ≤ key l[j] := by
  by_cases he : i = j
  · subst he; exact Int.le_refl _
  · exact (List.pairwise_iff_getElem.1 h) i j (by omega) hj (by omega)

theorem byteAt_eq {acts : List Action} {i : Nat} (h : i < acts.length) : byteAt acts i = acts[i].byte := by
  simp [byteAt, h]

theorem startAt_eq {ts : List Throttle} {i : Nat} (h : i < ts.length) : startAt ts i = ts[i].start := by
  simp [startAt, h]

theorem mono_of_sorted {α : Type} {key : α → Int} {l : List α} (h : SortedBy key l) (p : Int → Bool)
    (hp : ∀ a b, a ≤ b → p a = true → p b = true) : Mono (fun i => p ((l[i]?.map key).getD 0)) l.length := by
  intro a b hab hb ha
  have := sorted_getElem h hab hb
  simp only [List.getElem?_eq_getElem hb, List.getElem?_eq_getElem (show a < l.length by omega), Option.map_some,
    Option.getD_some] at ha ⊢
  exact hp _ _ this ha

theorem mono_byte (acts : List Action) (h : SortedBy Action.byte acts) (start : Int) :
    Mono (fun i => decide (byteAt acts i ≥ start)) acts.length :=
  mono_of_sorted h (fun v => decide (v ≥ start)) fun a b hab ha => by
    simp only [decide_eq_true_eq] at ha ⊢; omega

theorem mono_start (ts : List Throttle) (h : SortedBy Throttle.start ts) (start : Int) :
    Mono (fun i => decide (startAt ts i > start)) ts.length :=
  mono_of_sorted h (fun v => decide (v > start)) fun a b hab ha => by
    simp only [decide_eq_true_eq] at ha ⊢; omega

/-- Index of the pending action (`NextActionInfo.Index`), or the length of the list when `ActionNext` is false. -/
def nidx (acts : List Action) : Option (Nat × Int) → Nat
  | some (i, _) => i
  | none => acts.length

/-- `n` is the first action at or after `i` whose count is not exhausted (`none`: there is none). -/
def NextOK (acts : List Action) (i : Nat) (n : Option (Nat × Int)) : Prop :=
  i ≤ nidx acts n ∧ nidx acts n ≤ acts.length ∧
  (∀ m a, i ≤ m → m < nidx acts n → acts[m]? = some a → a.count = 0) ∧
  ∀ j nb, n = some (j, nb) → ∃ h : j < acts.length, acts[j].byte = nb ∧ acts[j].count ≠ 0

theorem nextFromFuel_spec (acts : List Action) (d i : Nat) (hd : acts.length - i = d) (hi : i ≤ acts.length) :
    NextOK acts i (nextFromFuel acts d i) := by
  fun_induction nextFromFuel acts d i with
  | case1 i => exact ⟨hi, Nat.le_refl _, fun m a h1 h2 => by simp only [nidx] at h2; omega, nofun⟩
  | case2 k i hn => rw [List.getElem?_eq_none_iff] at hn; omega
  | case3 k i a ha hc ih =>
    obtain ⟨h1, h2, h3, h4⟩ := ih (by omega) (by omega)
    refine ⟨by omega, h2, fun m a' hm1 hm2 ha' => ?_, h4⟩
    by_cases hmi : m = i
    · subst hmi; rw [ha] at ha'; cases ha'; exact hc
    · exact h3 m a' (by omega) hm2 ha'
  | case4 k i a ha hc =>
    obtain ⟨hlt, rfl⟩ := List.getElem_of_getElem? ha
    exact ⟨Nat.le_refl _, Nat.le_of_lt hlt, fun m a h1 h2 => by simp only [nidx] at h2; omega,
      fun j nb h => by cases h; exact ⟨hlt, rfl, hc⟩⟩

theorem nextFromIndex_spec (acts : List Action) (i : Nat) (hi : i ≤ acts.length) :
    NextOK acts i (nextFromIndex acts i) :=
  nextFromFuel_spec acts _ i rfl hi

theorem nextFromByte_good (acts : List Action) (rs : Int) (ha : SortedBy Action.byte acts) (i : Nat) (nb : Int)
    (h : nextFromByte acts rs = some (i, nb)) : ∃ hi : i < acts.length, acts[i].byte = nb ∧ rs ≤ nb := by
  unfold nextFromByte at h
  have sp := searchGo_bound _ _ (mono_byte acts ha rs)
  obtain ⟨n1, _, _, n4⟩ := nextFromIndex_spec acts _ sp.1
  obtain ⟨h2, h3, _⟩ := n4 i nb h
  rw [h] at n1
  have := sp.2.2 i n1 h2
  simp only [decide_eq_true_eq] at this
  rw [byteAt_eq h2, h3] at this
  exact ⟨h2, h3, this⟩

/-- Consecutive throttles of the sorted list do not overlap, and only the last may be open-ended. -/
def NoOverlap : List Throttle → Prop
  | [] => True
  | [_] => True
  | t :: t2 :: rest => t.stop ≤ t2.start ∧ t.stop ≠ -1 ∧ NoOverlap (t2 :: rest)

theorem actionsFromThrottles_noOverlap (d : Int) : ∀ (ts : List Throttle) (as : List Action),
    actionsFromThrottles d ts = some as → NoOverlap ts
  | [], _, _ => trivial
  | [_], _, _ => trivial
  | t :: t2 :: rest, as, h => by
    unfold actionsFromThrottles at h
    split at h
    · cases h
    · rename_i hc
      cases hr : actionsFromThrottles d (t2 :: rest) with
      | none => simp [hr] at h
      | some as' =>
        exact ⟨by omega, by omega, actionsFromThrottles_noOverlap d (t2 :: rest) as' hr⟩

theorem noOverlap_get : ∀ (ts : List Throttle), NoOverlap ts → ∀ (j : Nat) (hj : j + 1 < ts.length),
    (ts[j]'(by omega)).stop ≤ (ts[j + 1]'hj).start ∧ (ts[j]'(by omega)).stop ≠ -1
  | [], _, j, hj => by simp only [List.length_nil] at hj; omega
  | [_], _, j, hj => by simp only [List.length_cons, List.length_nil] at hj; omega
  | t :: t2 :: rest, h, j, hj => by
    obtain ⟨h1, h2, h3⟩ := h
    cases j with
    | zero => exact ⟨h1, h2⟩
    | succ j =>
      have := noOverlap_get (t2 :: rest) h3 j (by simpa using hj)
      simpa using this

theorem throttleAt_eq_some {ts : List Throttle} {x bw : Int} {ind : Nat} :
    throttleAt ts x ind = some bw ↔
      ∃ t, ind ≠ 0 ∧ ts[ind - 1]? = some t ∧ t.bw = bw ∧ (t.stop > x ∨ (ind = ts.length ∧ t.stop = -1)) := by
  unfold throttleAt
  by_cases hi : ind = 0
  · rw [if_pos hi, ite_self]; exact ⟨nofun, fun ⟨_, h, _⟩ => absurd hi h⟩
  · rw [if_neg hi]
    cases ht : ts[ind - 1]? with
    | none => rw [ite_self]; exact ⟨nofun, fun ⟨_, _, h, _⟩ => nomatch h⟩
    | some t =>
      have h0 : ¬ ts.length = 0 := fun h => by rw [List.getElem?_eq_none (by omega)] at ht; cases ht
      rw [if_neg h0]
      simp only [Option.some.injEq, exists_eq_left', hi, ne_eq, not_false_eq_true, true_and]
      by_cases hl : ind = ts.length
      · rw [if_pos hl]
        by_cases hc : t.stop > x ∨ t.stop = -1
        · rw [if_pos hc]; exact ⟨fun h => ⟨Option.some.inj h, by omega⟩, fun h => congrArg some h.1⟩
        · rw [if_neg hc]; exact ⟨nofun, fun h => by omega⟩
      · rw [if_neg hl]
        by_cases hc : t.stop > x
        · rw [if_pos hc]; exact ⟨fun h => ⟨Option.some.inj h, Or.inl hc⟩, fun h => congrArg some h.1⟩
        · rw [if_neg hc]; exact ⟨nofun, fun h => by omega⟩

theorem parseShapes_ok_all (l : List (Option RawShape)) (i : Nat) (ps : List (Nat × Shape))
    (h : parseShapes i l = .ok ps) : ps.length = l.length ∧
    ∀ k (h : k < l.length), ∃ p, parseShape (i + k) l[k] = .ok p ∧ ps[k]? = some p := by
  fun_induction parseShapes i l generalizing ps with
  | case1 => cases h; exact ⟨rfl, nofun⟩
  | case4 i x xs p hp qs hr ih =>
    cases h
    obtain ⟨ih1, ih2⟩ := ih qs hr
    refine ⟨congrArg (· + 1) ih1, fun k hk => ?_⟩
    cases k with
    | zero => exact ⟨p, hp, rfl⟩
    | succ k =>
      obtain ⟨q, h1, h2⟩ := ih2 k (Nat.lt_of_succ_lt_succ hk)
      exact ⟨q, by rw [← h1, Nat.add_assoc, Nat.add_comm 1 k]; rfl, h2⟩
  | _ => cases h

theorem parseThrottles_ok {l : List (Option RawThrottle)} {si i : Nat} {ts : List Throttle}
    (h : parseThrottles si i l = .ok ts) :
    ∀ t ∈ l, ∃ rt, t = some rt ∧ rt.bw > 0 ∧ ∃ st en, parseThrottleBytes rt.bytes = some (st, en) := by
  fun_induction parseThrottles si i l generalizing ts with
  | case1 => exact List.forall_mem_nil _
  | case6 i t rest hbw st en hb ts' hr ih =>
    exact List.forall_mem_cons.2 ⟨⟨t, rfl, by omega, st, en, hb⟩, ih hr⟩
  | _ => cases h

theorem parseHalts_ok {l : List (Option RawHalt)} {si i : Nat} {as : List Action}
    (h : parseHalts si i l = .ok as) :
    (∀ h ∈ l, ∃ rh, h = some rh ∧ rh.byte ≥ 0 ∧ rh.dur ≥ 0 ∧ rh.count ≠ 0) ∧
    (∀ a ∈ as, a.byte ≥ 0 ∧ a.count ≠ 0) := by
  fun_induction parseHalts si i l generalizing as with
  | case1 =>
    cases h
    exact ⟨List.forall_mem_nil _, List.forall_mem_nil _⟩
  | case6 i t rest h1 h2 as' hr ih =>
    cases h
    have hb : t.byte ≥ 0 := by omega
    exact ⟨List.forall_mem_cons.2 ⟨⟨t, rfl, hb, by omega, h2⟩, (ih hr).1⟩,
      List.forall_mem_cons.2 ⟨⟨hb, h2⟩, (ih hr).2⟩⟩
  | _ => cases h

theorem parseCloses_ok {l : List (Option RawClose)} {si off i : Nat} {as : List Action}
    (h : parseCloses si off i l = .ok as) :
    (∀ h ∈ l, ∃ rc, h = some rc ∧ rc.byte ≥ 0 ∧ rc.count ≠ 0) ∧
    (∀ a ∈ as, a.byte ≥ 0 ∧ a.count ≠ 0) := by
  fun_induction parseCloses si off i l generalizing as with
  | case1 =>
    cases h
    exact ⟨List.forall_mem_nil _, List.forall_mem_nil _⟩
  | case6 i t rest h1 h2 as' hr ih =>
    cases h
    have hb : t.byte ≥ 0 := by omega
    exact ⟨List.forall_mem_cons.2 ⟨⟨t, rfl, hb, h2⟩, (ih hr).1⟩, List.forall_mem_cons.2 ⟨⟨hb, h2⟩, (ih hr).2⟩⟩
  | _ => cases h

/-- What the accepted shape `sh` for pattern `r` was compiled from: `ts`, `hs`, `cs` are the posted
throttles, halts and close actions as parsed, `tas` the bandwidth changes of the sorted throttles. -/
structure ShapeFrom (si : Nat) (rs : RawShape) (r : Nat) (sh : Shape) (ts : List Throttle) (hs cs tas : List Action) :
    Prop where
  regex : rs.regex = .valid r
  maxBwNonneg : 0 ≤ rs.maxBw
  posted : parseThrottles si 0 rs.throttles = .ok ts
  halts : parseHalts si 0 rs.halts = .ok hs
  closes : parseCloses si rs.halts.length 0 rs.closes = .ok cs
  maxBw : sh.maxBw = if rs.maxBw = 0 then defaultBw else rs.maxBw
  throttles : sh.throttles = stableSort Throttle.start ts
  bwActs : actionsFromThrottles sh.maxBw (stableSort Throttle.start ts) = some tas
  actions : sh.actions = stableSort Action.byte (hs ++ cs ++ tas)

theorem parseShape_ok {si : Nat} {x : Option RawShape} {r : Nat} {sh : Shape} (h : parseShape si x = .ok (r, sh)) :
    ∃ rs ts hs cs tas, x = some rs ∧ ShapeFrom si rs r sh ts hs cs tas := by
  revert h
  fun_cases parseShape si x with
  | case9 rs r' hr hmb _ ts ht hs hh cs hcl _ tas ha =>
    intro h; cases h
    exact ⟨rs, ts, hs, cs, tas, rfl, hr, by omega, ht, hh, hcl, rfl, rfl, ha, rfl⟩
  | _ => nofun

theorem configure_ok {l l' : Listener} {cfg : RawConfig} (h : configure l cfg = .ok l') :
    ∃ ps, parseShapes 0 cfg.shapes = .ok ps ∧ l'.shapes = ps.foldl (fun m p => mapSet p.1 p.2 m) [] ∧
      l'.lastMod = l.clock ∧ l'.clock = l.clock + 1 ∧
      ¬ ((cfg.defaults.getD ⟨0, 0, 0⟩).up < 0 ∨ (cfg.defaults.getD ⟨0, 0, 0⟩).down < 0 ∨ (cfg.defaults.getD ⟨0, 0, 0⟩).lat < 0) := by
  revert h
  fun_cases configure l cfg with
  | case3 _ hd ps hp => intro h; cases h; exact ⟨ps, hp, rfl, rfl, rfl, hd⟩
  | _ => nofun

theorem configure_stamp {l l' : Listener} {cfg : RawConfig} (h : configure l cfg = .ok l') :
    l'.lastMod = l.clock ∧ l'.clock = l.clock + 1 :=
  let ⟨_, _, _, hlm, hck, _⟩ := configure_ok h
  ⟨hlm, hck⟩

theorem configureSt_ok {l l' : Listener} {cfg : RawConfig} (h : configure l cfg = .ok l') : (configureSt l cfg).1 = l' := by
  unfold configureSt; rw [h]

/-- A configuration request looks at the listener only to read the clock. -/
theorem configure_eq (l : Listener) (cfg : RawConfig) :
    configure l cfg = (configure {} cfg).map fun l0 => { l0 with lastMod := l.clock, clock := l.clock + 1 } := by
  unfold configure
  simp only
  by_cases hd : (cfg.defaults.getD ⟨0, 0, 0⟩).up < 0 ∨ (cfg.defaults.getD ⟨0, 0, 0⟩).down < 0 ∨
      (cfg.defaults.getD ⟨0, 0, 0⟩).lat < 0
  · rw [if_pos hd, if_pos hd]; rfl
  · rw [if_neg hd, if_neg hd]
    cases parseShapes 0 cfg.shapes <;> rfl

end Martian.Shape
