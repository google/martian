import Martian.Lemmas.MessageView
/-!
Any chunking of a body decodes to the body: the chunked reader model `dechunk` (transcribed from
net/http/internal's chunked reader, see Model/MessageView.lean) applied to ANY sequence of
non-empty chunks followed by the last-chunk yields the concatenation of the chunks.
-/
namespace Martian.MessageView
open Martian

/-- A chunked body: each chunk as `size-in-hex CRLF data CRLF`, then the last-chunk `0 CRLF`. -/
def chunkStream : List Bytes → Bytes
  | [] => [48, 13, 10]
  | c :: cs => hexDigits c.length ++ 13 :: 10 :: (c ++ 13 :: 10 :: chunkStream cs)

theorem length_lt_chunkStream (cs : List Bytes) : cs.length < (chunkStream cs).length := by
  induction cs with
  | nil => simp [chunkStream]
  | cons c r ih => simp [chunkStream]; omega

theorem dechunkAux_stream (cs : List Bytes) (hne : ∀ c ∈ cs, c ≠ []) (rest acc : Bytes) (fuel : Nat)
    (hf : cs.length < fuel) :
    dechunkAux fuel (chunkStream cs ++ rest) acc = some (acc ++ cs.flatten) := by
  induction cs generalizing acc fuel with
  | nil =>
    obtain ⟨k, rfl⟩ : ∃ k, fuel = k + 1 := ⟨fuel - 1, by simp at hf; omega⟩
    simpa [chunkStream] using dechunkAux_last k rest acc
  | cons d r ih =>
    obtain ⟨k, rfl⟩ : ∃ k, fuel = k + 1 := ⟨fuel - 1, by simp at hf; omega⟩
    have hall := hexDigits_all_hex d.length
    obtain ⟨n, hn⟩ : ∃ n, d.length = n + 1 := ⟨d.length - 1, by
      have := List.length_pos_iff.mpr (hne d (by simp)); omega⟩
    have hrec := ih (fun c hc => hne c (by simp [hc])) (acc ++ d) k (by simp at hf; omega)
    simp only [chunkStream, List.append_assoc, List.cons_append]
    rw [dechunkAux]
    simp only [splitLine_hex _ _ hall, trimRightWs_hex _ hall, removeChunkExt_hex _ hall, parseHexUint_hexDigits]
    rw [hn]
    -- the data and its CRLF are there; `take` and `drop` give the data, the CRLF and what follows
    have h1 : ¬ (d ++ 13 :: 10 :: (chunkStream r ++ rest)).length < n + 1 + 2 := by simp; omega
    have h2 : ((d ++ 13 :: 10 :: (chunkStream r ++ rest)).drop (n + 1)).take 2 = crlf := by
      rw [List.drop_left' hn]; rfl
    have h3 : (d ++ 13 :: 10 :: (chunkStream r ++ rest)).drop (n + 1 + 2) = chunkStream r ++ rest := by
      rw [← List.drop_drop, List.drop_left' hn]; rfl
    have h4 : (d ++ 13 :: 10 :: (chunkStream r ++ rest)).take (n + 1) = d := List.take_left' hn
    simp only [h1, if_false, h2, bne_self_eq_false, Bool.false_eq_true, h3, h4, hrec, List.flatten_cons,
      List.append_assoc]

theorem dechunk_chunkStream (cs : List Bytes) (hne : ∀ c ∈ cs, c ≠ []) (rest : Bytes) :
    dechunk (chunkStream cs ++ rest) = some cs.flatten := by
  unfold dechunk
  have := dechunkAux_stream cs hne rest [] ((chunkStream cs ++ rest).length + 1) (by
    have := length_lt_chunkStream cs
    simp; omega)
  simpa using this

theorem rechunking_preserves_body (cs cs' : List Bytes) (h : cs.flatten = cs'.flatten)
    (hne : ∀ c ∈ cs, c ≠ []) (hne' : ∀ c ∈ cs', c ≠ []) (rest rest' : Bytes) :
    dechunk (chunkStream cs ++ rest) = dechunk (chunkStream cs' ++ rest') := by
  rw [dechunk_chunkStream cs hne, dechunk_chunkStream cs' hne', h]

end Martian.MessageView
