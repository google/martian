import Martian.Model.Mitm
import Martian.Lemmas.Ascii
import Martian.Lemmas.Strings
/-!
Helper lemmas for the concrete `VerifyHostname` model of C06: ASCII lower-casing,
`split` on dots, `TrimSuffix(".")`, `validHostname`, and the three matching functions.
-/
namespace Martian.Mitm
open Martian Martian.Go

/-- Lower-casing fixes, and never produces, a byte outside `A`–`Z`/`a`–`z`. -/
theorem toLowerB_eq_iff {c x : UInt8} (hx : ¬ (65 ≤ x.toNat ∧ x.toNat ≤ 90)) (hx' : ¬ (97 ≤ x.toNat ∧ x.toNat ≤ 122)) :
    toLowerB c = x ↔ c = x := by
  have := toLowerB_toNat c
  rw [← UInt8.toNat_inj, ← UInt8.toNat_inj (a := c)]
  omega

theorem beq_congr {α β : Type} [BEq α] [LawfulBEq α] [BEq β] [LawfulBEq β] {a b : α} {c d : β}
    (h : a = b ↔ c = d) : (a == b) = (c == d) := by
  rw [Bool.eq_iff_iff, beq_iff_eq, beq_iff_eq]; exact h

theorem beq_toLowerB {c x : UInt8} (hx : ¬ (65 ≤ x.toNat ∧ x.toNat ≤ 90)) (hx' : ¬ (97 ≤ x.toNat ∧ x.toNat ≤ 122)) :
    (toLowerB c == x) = (c == x) :=
  beq_congr (toLowerB_eq_iff hx hx')

theorem isAlnum_toLowerB (c : UInt8) : isAlnum (toLowerB c) = isAlnum c := by
  rcases toLowerB_toNat c with ⟨h1, h2, h3⟩ | ⟨_, h⟩
  · rw [Bool.eq_iff_iff]
    simp [isAlnum, isDigit, UInt8.le_iff_toNat_le, h3]
    omega
  · rw [UInt8.toNat_inj.mp h]

theorem toLower_idem (s : Bytes) : toLower (toLower s) = toLower s := by
  simp [toLower, List.map_map, Function.comp_def, toLowerB_idem]

@[simp] theorem toLower_nil : toLower [] = [] := rfl
@[simp] theorem toLower_cons (c : UInt8) (s : Bytes) : toLower (c :: s) = toLowerB c :: toLower s := rfl
@[simp] theorem toLower_length (s : Bytes) : (toLower s).length = s.length := by simp [toLower]

theorem toLower_eq_nil {s : Bytes} : toLower s = [] ↔ s = [] := by simp [toLower]

theorem toLower_isEmpty (s : Bytes) : (toLower s).isEmpty = s.isEmpty := by cases s <;> rfl

theorem toLower_eq_single {s : Bytes} {x : UInt8} (hx : ¬ (65 ≤ x.toNat ∧ x.toNat ≤ 90)) (hx' : ¬ (97 ≤ x.toNat ∧ x.toNat ≤ 122)) :
    toLower s = [x] ↔ s = [x] := by
  simp [toLower, List.map_eq_singleton_iff, toLowerB_eq_iff hx hx']

theorem toLower_beq_single {x : UInt8} (hx : ¬ (65 ≤ x.toNat ∧ x.toNat ≤ 90)) (hx' : ¬ (97 ≤ x.toNat ∧ x.toNat ≤ 122)) (s : Bytes) :
    (toLower s == [x]) = (s == [x]) :=
  beq_congr (toLower_eq_single hx hx')

theorem toLower_append (a b : Bytes) : toLower (a ++ b) = toLower a ++ toLower b := by simp [toLower]

theorem mem_toLower_iff {s : Bytes} {x : UInt8} (hx : ¬ (65 ≤ x.toNat ∧ x.toNat ≤ 90)) (hx' : ¬ (97 ≤ x.toNat ∧ x.toNat ≤ 122)) :
    x ∈ toLower s ↔ x ∈ s := by
  simp [toLower, toLowerB_eq_iff hx hx']

theorem getLast?_toLower_dot {s : Bytes} : (toLower s).getLast? = some dot ↔ s.getLast? = some dot := by
  simp [toLower, List.getLast?_map, toLowerB_eq_iff (x := dot) (by decide) (by decide)]

theorem trimDot_toLower (s : Bytes) : trimDot (toLower s) = toLower (trimDot s) := by
  simp only [trimDot, getLast?_toLower_dot]
  split
  · simp [toLower, List.dropLast_eq_take]
  · rfl

theorem trimDot_of_no_trailing {s : Bytes} (h : s.getLast? ≠ some dot) : trimDot s = s := by
  simp [trimDot, h]

theorem trimDot_append_dot (a : Bytes) : trimDot (a ++ [dot]) = a := by
  simp [trimDot]

theorem trimDot_cases (s : Bytes) : (s.getLast? ≠ some dot ∧ trimDot s = s) ∨ s = trimDot s ++ [dot] := by
  by_cases h : s.getLast? = some dot
  · obtain ⟨a, rfl⟩ := List.getLast?_eq_some_iff.mp h
    exact .inr (by rw [trimDot_append_dot])
  · exact .inl ⟨h, trimDot_of_no_trailing h⟩

theorem flatMap_splitAux (sep : UInt8) (s cur : Bytes) :
    (splitAux sep s cur).flatMap (sep :: ·) = sep :: (cur.reverse ++ s) := by
  induction s generalizing cur with
  | nil => simp [splitAux]
  | cons c r ih =>
    simp only [splitAux]
    split
    · rename_i hc
      simp [ih [], (beq_iff_eq.mp hc : c = sep)]
    · simp [ih (c :: cur)]

theorem flatMap_split (s : Bytes) (sep : UInt8) : (split s sep).flatMap (sep :: ·) = sep :: s :=
  flatMap_splitAux sep s []

theorem split_inj {a b : Bytes} {sep : UInt8} (h : split a sep = split b sep) : a = b := by
  have := flatMap_split a sep
  rw [h, flatMap_split] at this
  exact (List.cons.inj this).2.symm

theorem mem_of_mem_split {s : Bytes} {sep : UInt8} {p : Bytes} (hp : p ∈ split s sep) {x : UInt8} (hx : x ∈ p) : x ∈ s := by
  have : x ∈ sep :: s := flatMap_split s sep ▸ List.mem_flatMap.mpr ⟨p, hp, List.mem_cons_of_mem _ hx⟩
  exact (List.mem_cons.mp this).resolve_left fun e => split_no_sep s sep p hp (e ▸ hx)

theorem mem_split_cases {s : Bytes} {sep x : UInt8} (hx : x ∈ s) : x = sep ∨ ∃ p ∈ split s sep, x ∈ p := by
  have : x ∈ (split s sep).flatMap (sep :: ·) := flatMap_split s sep ▸ List.mem_cons_of_mem _ hx
  obtain ⟨p, hp, hm⟩ := List.mem_flatMap.mp this
  exact (List.mem_cons.mp hm).imp_right fun e => ⟨p, hp, e⟩

theorem head_split_ne_star {s p : Bytes} {ps : List Bytes} (hs : split s dot = p :: ps) (hstar : star ∉ s) :
    p ≠ [star] := by
  rintro rfl
  exact hstar (mem_of_mem_split (hs ▸ List.mem_cons_self) (List.mem_singleton.mpr rfl))

theorem splitAux_map (f : UInt8 → UInt8) (sep : UInt8) (hf : ∀ c, (f c == sep) = (c == sep)) (s cur : Bytes) :
    splitAux sep (s.map f) (cur.map f) = (splitAux sep s cur).map (List.map f) := by
  induction s generalizing cur with
  | nil => simp [splitAux]
  | cons c r ih =>
    simp only [List.map_cons, splitAux, hf]
    split
    · have := ih []
      simp only [List.map_nil] at this
      simp [this]
    · have := ih (c :: cur)
      simpa using this

theorem split_toLower (s : Bytes) : split (toLower s) dot = (split s dot).map toLower :=
  splitAux_map toLowerB dot (fun _ => beq_toLowerB (x := dot) (by decide) (by decide)) s []

theorem validLabel_toLower (p : Bytes) : validLabel (toLower p) = validLabel p := by
  cases p with
  | nil => rfl
  | cons c r =>
    rw [toLower_cons]
    simp only [validLabel, toLower, List.all_map, Function.comp_def, isAlnum_toLowerB,
      beq_toLowerB (x := underscore) (by decide) (by decide), beq_toLowerB (x := hyphen) (by decide) (by decide)]

theorem validLabel_ne_nil {p : Bytes} (h : validLabel p = true) : p ≠ [] := by
  intro e; subst e; simp [validLabel] at h

theorem validLabel_no_star {p : Bytes} (h : validLabel p = true) : star ∉ p := by
  cases p with
  | nil => simp
  | cons c r =>
    simp only [validLabel, Bool.and_eq_true, List.all_eq_true] at h
    intro hm
    rcases List.mem_cons.mp hm with e | e
    · rw [← e] at h; exact absurd h.1 (by decide)
    · exact absurd (h.2 star e) (by decide)

theorem validHostname_toLower (h : Bytes) (b : Bool) : validHostname (toLower h) b = validHostname h b := by
  unfold validHostname
  have e1 : (if b = true then toLower h else trimDot (toLower h)) = toLower (if b = true then h else trimDot h) := by
    split <;> simp [trimDot_toLower]
  simp only [e1, toLower_isEmpty, toLower_beq_single (x := star) (by decide) (by decide), split_toLower]
  generalize (if b = true then h else trimDot h) = g
  cases split g dot with
  | nil => rfl
  | cons p ps =>
    simp only [List.map_cons, List.all_map, Function.comp_def, validLabel_toLower, toLower_beq_single (x := star) (by decide) (by decide)]

theorem validHostname_parts {host : Bytes} {b : Bool} (h : validHostname host b = true) :
    let g := if b then host else trimDot host
    g ≠ [] ∧ g ≠ [star] ∧ ∃ p ps, split g dot = p :: ps ∧ ((b = true ∧ p = [star]) ∨ validLabel p = true) ∧
      ∀ q ∈ ps, validLabel q = true := by
  unfold validHostname at h
  simp only at h ⊢
  generalize (if b = true then host else trimDot host) = g at h ⊢
  cases hs : split g dot with
  | nil => exact absurd hs (split_ne_nil g dot)
  | cons p ps =>
    simp only [hs, Bool.if_false_left, Bool.and_eq_true, Bool.not_eq_true', decide_eq_false_iff_not, List.isEmpty_iff,
      beq_iff_eq, Bool.or_eq_true, List.all_eq_true] at h
    exact ⟨h.1, h.2.1, p, ps, rfl, h.2.2.1, h.2.2.2⟩

theorem validPattern_no_trailing_dot {k : Bytes} (h : validHostname k true = true) : k.getLast? ≠ some dot := by
  intro hl
  obtain ⟨_, _, p, ps, hs, hp, hps⟩ := validHostname_parts h
  simp only [if_true] at hs
  obtain ⟨a, rfl⟩ := List.getLast?_eq_some_iff.mp hl
  have hm : [] ∈ split (a ++ [dot]) dot := by rw [split_append_sep]; simp [split, splitAux]
  rw [hs] at hm
  rcases List.mem_cons.mp hm with e | e
  · rcases hp with ⟨_, hp⟩ | hp
    · rw [hp] at e; cases e
    · exact validLabel_ne_nil hp e.symm
  · exact validLabel_ne_nil (hps _ e) rfl

theorem validPattern_ne_nil {k : Bytes} (h : validHostname k true = true) : k ≠ [] := by
  simpa using (validHostname_parts h).1

theorem matchHostnames_self_lower {k cand : Bytes} (hk : k ≠ []) (he : toLower (trimDot cand) = toLower k) :
    matchHostnames k cand = true := by
  unfold matchHostnames
  simp only [he]
  have hne : (toLower k).isEmpty = false := by rw [toLower_isEmpty]; exact List.isEmpty_eq_false_iff.mpr hk
  simp only [hne, Bool.or_self, Bool.false_eq_true, if_false, ne_eq, not_true_eq_false]
  cases hs : split (toLower k) dot with
  | nil => exact absurd hs (split_ne_nil _ _)
  | cons p ps => simp

theorem matchHostnames_no_star {k cand : Bytes} (hstar : star ∉ k) (h : matchHostnames k cand = true) :
    toLower (trimDot cand) = toLower k := by
  unfold matchHostnames at h
  simp only at h
  cases hs : split (toLower k) dot with
  | nil => exact absurd hs (split_ne_nil _ _)
  | cons p ps =>
    cases hs' : split (toLower (trimDot cand)) dot with
    | nil => exact absurd hs' (split_ne_nil _ _)
    | cons q qs =>
      simp only [hs, hs', Bool.if_false_left, Bool.and_eq_true, Bool.or_eq_true, beq_iff_eq] at h
      obtain ⟨_, _, hpq, hps⟩ := h
      have hp : p ≠ [star] := head_split_ne_star hs fun hm => hstar ((mem_toLower_iff (x := star) (by decide) (by decide)).mp hm)
      apply split_inj (sep := dot)
      rw [hs, hs', hpq.resolve_left hp, hps]

theorem matchExactly_iff {a b : Bytes} :
    matchExactly a b = true ↔ a ≠ [] ∧ a ≠ [dot] ∧ b ≠ [] ∧ b ≠ [dot] ∧ toLower a = toLower b := by
  simp only [matchExactly, Bool.if_false_left, Bool.and_eq_true, Bool.not_eq_true', decide_eq_false_iff_not,
    Bool.or_eq_true, List.isEmpty_iff, beq_iff_eq, not_or, and_assoc]

theorem matchExactly_toLower_iff {a b : Bytes} :
    matchExactly a (toLower b) = true ↔ a ≠ [] ∧ a ≠ [dot] ∧ toLower a = toLower b := by
  rw [matchExactly_iff, toLower_idem]
  refine ⟨fun ⟨h1, h2, _, _, he⟩ => ⟨h1, h2, he⟩, fun ⟨h1, h2, he⟩ => ⟨h1, h2, ?_, ?_, he⟩⟩
  · rw [← he]; exact mt toLower_eq_nil.mp h1
  · rw [← he]; exact mt (toLower_eq_single (x := dot) (by decide) (by decide)).mp h2

theorem matchDNS_self {k : Bytes} (h1 : k ≠ []) (h2 : k ≠ [dot]) : matchDNS k (toLower k) = true := by
  unfold matchDNS
  split
  · rename_i hv
    simp only [Bool.and_eq_true] at hv
    apply matchHostnames_self_lower h1
    rw [trimDot_toLower, trimDot_of_no_trailing (validPattern_no_trailing_dot hv.2), toLower_idem]
  · exact matchExactly_toLower_iff.mpr ⟨h1, h2, rfl⟩

theorem validHostname_input_eq_pattern {h : Bytes} (hstar : star ∉ trimDot h) :
    validHostname h false = validHostname (trimDot h) true := by
  unfold validHostname
  simp only [Bool.false_eq_true, if_false, if_true, Bool.false_and, Bool.false_or, Bool.true_and]
  cases hp : split (trimDot h) dot with
  | nil => rfl
  | cons p ps =>
    simp only [beq_eq_false_iff_ne.mpr (head_split_ne_star hp hstar), Bool.false_or]

end Martian.Mitm
