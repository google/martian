import Martian.Model.Http1
import Martian.Lemmas.Chunked
import Martian.Lemmas.Strings
/-!
Lemmas about the HTTP/1 reader model, layer by layer: `cut` / lines, one field line, the header
section, decimal and hexadecimal numbers, the chunked body, the trailer.
-/
namespace Martian.Http1
open Martian Martian.Go Martian.MessageView

theorem cut_append (sep : UInt8) (a b : Bytes) (h : ∀ c ∈ a, c ≠ sep) :
    cut sep (a ++ sep :: b) = some (a, b) := by
  induction a with
  | nil => simp [cut]
  | cons c r ih =>
    have hc : (c == sep) = false := by simpa using h c (by simp)
    simp [cut, hc, ih (fun x hx => h x (by simp [hx]))]

theorem cut_none (sep : UInt8) (a : Bytes) (h : ∀ c ∈ a, c ≠ sep) : cut sep a = none := by
  induction a with
  | nil => simp [cut]
  | cons c r ih =>
    have hc : (c == sep) = false := by simpa using h c (by simp)
    simp [cut, hc, ih (fun x hx => h x (by simp [hx]))]

theorem cut_eq_some (sep : UInt8) (s a b : Bytes) (h : cut sep s = some (a, b)) :
    s = a ++ sep :: b ∧ ∀ c ∈ a, c ≠ sep := by
  revert h
  fun_induction cut sep s generalizing a with
  | case1 => intro h; cases h
  | case2 c r hc =>
    intro h; cases h
    simp [beq_iff_eq.mp hc]
  | case3 c r hc a' b' hr ih =>
    intro h; cases h
    obtain ⟨h1, h2⟩ := ih a' hr
    exact ⟨by rw [h1]; rfl, List.forall_mem_cons.mpr ⟨by simpa using hc, h2⟩⟩
  | case4 c r hc hr ih => intro h; cases h

theorem cut_eq_none (sep : UInt8) (s : Bytes) (h : cut sep s = none) : ∀ c ∈ s, c ≠ sep := by
  revert h
  fun_induction cut sep s with
  | case1 => simp
  | case2 c r hc => intro h; cases h
  | case3 c r hc a b hr ih => intro h; cases h
  | case4 c r hc hr ih =>
    intro _
    exact List.forall_mem_cons.mpr ⟨by simpa using hc, ih hr⟩

theorem stripCR_append_cr (l : Bytes) : stripCR (l ++ [13]) = l := by
  simp [stripCR]

theorem readLine_crlf (l rest : Bytes) (h : ∀ c ∈ l, c ≠ 10) :
    readLine (l ++ crlf ++ rest) = some (l, rest) := by
  have h' : ∀ c ∈ l ++ [13], c ≠ 10 := by
    intro c hc
    rcases List.mem_append.mp hc with hc | hc
    · exact h c hc
    · simp at hc; simp [hc]
  have : l ++ crlf ++ rest = (l ++ [13]) ++ 10 :: rest := by simp [crlf]
  rw [this]
  unfold readLine
  rw [cut_append 10 _ rest h']
  simp [stripCR_append_cr]

def keyOK (k : Bytes) : Bool := !k.isEmpty && k.all isTokenByte && canonLoop true k == k
def valueOK (v : Bytes) : Bool := v.all validValueByte && trimOWS v == v
/-- A field as a well-behaved sender writes it: canonical token name; value of HT / SP / VCHAR /
obs-text bytes without optional white space at either end. -/
def ValidKV (kv : KV) : Bool := keyOK kv.1 && valueOK kv.2

theorem ne_of_class {p : UInt8 → Bool} {c d : UInt8} (hc : p c = true) (hd : p d = false) : c ≠ d :=
  fun e => by rw [e, hd] at hc; cases hc

theorem trimOWS_cons_sp (v : Bytes) : trimOWS (32 :: v) = trimOWS v := by
  simp [trimOWS, List.dropWhile, isOWS]

theorem parseFieldLine_field (k v : Bytes) (h : ValidKV (k, v) = true) :
    parseFieldLine (k ++ colonSp ++ v) = .field k v := by
  simp only [ValidKV, keyOK, valueOK, Bool.and_eq_true, Bool.not_eq_true', beq_iff_eq] at h
  obtain ⟨⟨⟨h1, h2⟩, h3⟩, h4, h5⟩ := h
  have hk : ∀ c ∈ k, c ≠ 58 := fun c hc => ne_of_class (List.all_eq_true.mp h2 c hc) (by decide)
  have : k ++ colonSp ++ v = k ++ 58 :: (32 :: v) := by simp [colonSp]
  rw [this]
  unfold parseFieldLine
  rw [cut_append 58 k _ hk]
  have hv : (32 :: v).all validValueByte = true := by
    simp only [List.all_cons, h4, Bool.and_true]; decide
  simp only [h1, h2, hv, if_true, trimOWS_cons_sp, h3, h5]
  simp

theorem validKV_head (k v : Bytes) (h : ValidKV (k, v) = true) : ∃ c k', k = c :: k' ∧ isTokenByte c = true := by
  simp only [ValidKV, keyOK, Bool.and_eq_true, Bool.not_eq_true'] at h
  cases k with
  | nil => simp at h
  | cons c k' => exact ⟨c, k', rfl, (List.all_eq_true.mp h.1.1.2 c (by simp))⟩

theorem fieldLine_no_lf (k v : Bytes) (h : ValidKV (k, v) = true) : ∀ c ∈ k ++ colonSp ++ v, c ≠ 10 := by
  simp only [ValidKV, keyOK, valueOK, Bool.and_eq_true, Bool.not_eq_true', beq_iff_eq] at h
  obtain ⟨⟨⟨_, h2⟩, _⟩, h4, _⟩ := h
  intro c hc
  simp only [List.mem_append, colonSp] at hc
  rcases hc with (hc | hc) | hc
  · exact ne_of_class (List.all_eq_true.mp h2 c hc) (by decide)
  · simp at hc; rcases hc with rfl | rfl <;> decide
  · exact ne_of_class (List.all_eq_true.mp h4 c hc) (by decide)

theorem fields_cons (kv : KV) (l : List KV) : fields (kv :: l) = field kv ++ fields l := by
  simp [fields]

theorem fields_append (a b : List KV) : fields (a ++ b) = fields a ++ fields b := by
  simp [fields]

theorem readHeaderLines_fields (hs : List KV) (hv : ∀ kv ∈ hs, ValidKV kv = true) (rest : Bytes)
    (fuel : Nat) (first : Bool) (hf : hs.length < fuel) :
    readHeaderLines fuel first (fields hs ++ crlf ++ rest) = .complete hs rest := by
  induction hs generalizing fuel first with
  | nil =>
    obtain ⟨f, rfl⟩ : ∃ f, fuel = f + 1 := ⟨fuel - 1, by omega⟩
    have := readLine_crlf [] rest (by simp)
    simp only [List.nil_append] at this
    simp [readHeaderLines, fields, this]
  | cons kv r ih =>
    obtain ⟨f, rfl⟩ : ∃ f, fuel = f + 1 := ⟨fuel - 1, by omega⟩
    rw [List.length_cons] at hf
    obtain ⟨k, v⟩ := kv
    have hkv : ValidKV (k, v) = true := hv (k, v) (by simp)
    have hform : fields ((k, v) :: r) ++ crlf ++ rest
        = (k ++ colonSp ++ v) ++ crlf ++ (fields r ++ crlf ++ rest) := by
      simp [fields_cons, field]
    rw [hform]
    unfold readHeaderLines
    rw [readLine_crlf _ _ (fieldLine_no_lf k v hkv)]
    obtain ⟨c, k', rfl, hct⟩ := validKV_head k v hkv
    have hc : isOWS c = false := by
      simp [isOWS, ne_of_class hct (d := 32) (by decide), ne_of_class hct (d := 9) (by decide)]
    have hp := parseFieldLine_field (c :: k') v hkv
    simp only [List.cons_append] at hp ⊢
    simp only [hc, Bool.false_eq_true, if_false, hp]
    rw [ih (fun kv hkv => hv kv (by simp [hkv])) f false (by omega)]

theorem length_le_fields (hs : List KV) : hs.length ≤ (fields hs).length := by
  induction hs with
  | nil => exact Nat.zero_le _
  | cons kv r ih => simp [fields_cons, field, crlf]; omega

/-- The header section a sender writes - valid fields in any order, then the blank line - is read
back as exactly that list, in order, and nothing after the blank line is consumed. -/
theorem readHeader_fields (hs : List KV) (hv : ∀ kv ∈ hs, ValidKV kv = true) (rest : Bytes) :
    readHeader (fields hs ++ crlf ++ rest) = .complete hs rest :=
  readHeaderLines_fields hs hv rest _ true (by have := length_le_fields hs; simp; omega)

theorem isDigit_toNat {c : UInt8} (h : isDigit c = true) : 48 ≤ c.toNat ∧ c.toNat ≤ 57 := by
  simpa [isDigit, UInt8.le_iff_toNat_le] using h

theorem isLineWs_of_isDigit {c : UInt8} (h : isDigit c = true) : isLineWs c = false := by
  have := isDigit_toNat h
  simp [isLineWs, ← UInt8.toNat_inj]; omega

theorem isOWS_of_isDigit {c : UInt8} (h : isDigit c = true) : isOWS c = false := by
  have := isDigit_toNat h
  simp [isOWS, ← UInt8.toNat_inj]; omega

theorem validValueByte_of_isDigit {c : UInt8} (h : isDigit c = true) : validValueByte c = true := by
  have := isDigit_toNat h
  simp [validValueByte, UInt8.le_iff_toNat_le, ← UInt8.toNat_inj]; omega

theorem trim_eq_self (p : UInt8 → Bool) (l : Bytes) (h : ∀ c ∈ l, p c = false) :
    ((l.dropWhile p).reverse.dropWhile p).reverse = l := by
  rw [dropWhile_of_all_not p l h, dropWhile_of_all_not p l.reverse (fun c hc => h c (List.mem_reverse.mp hc)),
    List.reverse_reverse]

theorem trimLWS_digits (l : Bytes) (h : l.all isDigit = true) : trimLWS l = l :=
  trim_eq_self _ l fun c hc => isLineWs_of_isDigit (List.all_eq_true.mp h c hc)

theorem trimOWS_digits (l : Bytes) (h : l.all isDigit = true) : trimOWS l = l :=
  trim_eq_self _ l fun c hc => isOWS_of_isDigit (List.all_eq_true.mp h c hc)

theorem parseCL_natDigits (n : Nat) (h : n < 2 ^ 63) : parseCL (natDigits n) = some n := by
  unfold parseCL
  rw [trimLWS_digits _ (natDigits_spec n).1, atoiUnsigned_natDigits]
  simp [h]

theorem trimLWS_ne_of_parseCL (v : Bytes) (n : Nat) (h : parseCL v = some n) : (trimLWS v).isEmpty = false := by
  cases ht : trimLWS v with
  | nil => simp [parseCL, ht, atoiUnsigned] at h
  | cons c r => rfl

@[simp] theorem vals_nil (k : Bytes) : vals [] k = [] := rfl
@[simp] theorem has_nil (k : Bytes) : has [] k = false := rfl
@[simp] theorem del_nil (k : Bytes) : del [] k = [] := rfl

theorem vals_append (a b : List KV) (k : Bytes) : vals (a ++ b) k = vals a k ++ vals b k := by
  simp [vals]

theorem has_append (a b : List KV) (k : Bytes) : has (a ++ b) k = (has a k || has b k) := by
  simp [has]

theorem del_append (a b : List KV) (k : Bytes) : del (a ++ b) k = del a k ++ del b k := by
  simp [del]

theorem vals_cons (kv : KV) (l : List KV) (k : Bytes) :
    vals (kv :: l) k = if kv.1 == k then kv.2 :: vals l k else vals l k := by
  simp only [vals, List.filter_cons]; split <;> simp

theorem del_cons (kv : KV) (l : List KV) (k : Bytes) :
    del (kv :: l) k = if kv.1 == k then del l k else kv :: del l k := by
  simp only [del, List.filter_cons]; split <;> simp_all

theorem has_cons (kv : KV) (l : List KV) (k : Bytes) : has (kv :: l) k = (kv.1 == k || has l k) := by
  simp [has]

theorem has_eq_false_iff (l : List KV) (k : Bytes) : has l k = false ↔ ∀ kv ∈ l, (kv.1 == k) = false := by
  simp [has]

theorem has_eq_vals (l : List KV) (k : Bytes) : has l k = !(vals l k).isEmpty := by
  simp only [has, vals, List.isEmpty_map]
  induction l with
  | nil => rfl
  | cons a r ih => simp only [List.any_cons, List.filter_cons, ih]; split <;> simp [*]

theorem vals_eq_nil_of_has (l : List KV) (k : Bytes) (h : has l k = false) : vals l k = [] := by
  simpa [has_eq_vals] using h

theorem has_of_vals_nil (l : List KV) (k : Bytes) (h : vals l k = []) : has l k = false := by
  simp [has_eq_vals, h]

theorem del_eq_self_of_has (l : List KV) (k : Bytes) (h : has l k = false) : del l k = l := by
  rw [has_eq_false_iff] at h
  simp only [del, List.filter_eq_self]
  intro kv hkv; simp [h kv hkv]

theorem has_del_self (l : List KV) (k : Bytes) : has (del l k) k = false := by
  rw [has_eq_false_iff]; intro kv hkv; simp [del] at hkv; simp [hkv.2]

theorem has_del_of_has (l : List KV) (k k' : Bytes) (h : has l k = false) : has (del l k') k = false := by
  rw [has_eq_false_iff] at h ⊢
  intro kv hkv; simp only [del, List.mem_filter] at hkv; exact h kv hkv.1

theorem vals_filter_notin (l : List KV) (ex : List Bytes) (k : Bytes) (hk : ex.contains k = false) :
    vals (l.filter fun kv => !ex.contains kv.1) k = vals l k := by
  simp only [vals, List.filter_filter]
  congr 1
  apply List.filter_congr
  intro kv _
  cases hq : kv.1 == k with
  | false => simp
  | true =>
    have : kv.1 = k := by simpa using hq
    simp only [this]
    simpa using hk

theorem vals_del_ne (l : List KV) (k k' : Bytes) (h : (k' == k) = false) : vals (del l k') k = vals l k := by
  have := vals_filter_notin l [k'] k (by simpa [BEq.comm] using h)
  simpa only [del, List.contains_cons, List.contains_nil, Bool.or_false] using this

theorem del_comm (l : List KV) (k k' : Bytes) : del (del l k) k' = del (del l k') k := by
  simp only [del, List.filter_filter]; congr 1; funext kv; exact Bool.and_comm _ _

theorem bytesLt_irrefl (a : Bytes) : bytesLt a a = false := by
  induction a with
  | nil => rfl
  | cons c r ih => simp [bytesLt, ih]

theorem filter_insertKV (x : KV) (l : List KV) (k : Bytes) :
    (insertKV x l).filter (fun kv => kv.1 == k) = (x :: l).filter (fun kv => kv.1 == k) := by
  induction l with
  | nil => rfl
  | cons y ys ih =>
    unfold insertKV
    split
    · rename_i hlt
      simp only [List.filter_cons, ih]
      by_cases hy : y.1 == k <;> by_cases hx : x.1 == k <;> simp [hy, hx]
      -- both of name `k`: then `y.1 = x.1`, which `bytesLt` excludes
      have e : y.1 = x.1 := by rw [beq_iff_eq.mp hy, beq_iff_eq.mp hx]
      rw [e, bytesLt_irrefl] at hlt; cases hlt
    · rfl

theorem vals_sortKV (l : List KV) (k : Bytes) : vals (sortKV l) k = vals l k := by
  induction l with
  | nil => rfl
  | cons x r ih =>
    simp only [vals] at ih ⊢
    rw [show sortKV (x :: r) = insertKV x (sortKV r) from rfl, filter_insertKV, List.filter_cons, List.filter_cons]
    split <;> simp [ih]

theorem has_sortKV (l : List KV) (k : Bytes) : has (sortKV l) k = has l k := by
  rw [has_eq_vals, has_eq_vals, vals_sortKV]

theorem bodyAllowed_of_status (code : Nat) (hst : (code / 100 == 1 || code == 204 || code == 304) = false) :
    bodyAllowedForStatus code = true := by
  simp only [Bool.or_eq_false_iff, beq_eq_false_iff_ne] at hst
  simp only [bodyAllowedForStatus, Bool.not_eq_true', Bool.or_eq_false_iff, Bool.and_eq_false_iff,
    decide_eq_false_iff_not, beq_eq_false_iff_ne]
  omega

/-- A `Content-Length` field and no `Transfer-Encoding`. An answer to HEAD reports the length and has no
body whatever the status; otherwise the status must allow one (for a request `code = 200`). -/
theorem readTransfer_cl (isResp : Bool) (meth : Bytes) (code maj min : Nat) (c0 : Bool) (hs : List KV)
    (v : Bytes) (n : Nat) (hte : has hs teKey = false) (hcl : vals hs clKey = [v]) (hp : parseCL v = some n)
    (hst : (isResp && meth == headTok) = false → (code / 100 == 1 || code == 204 || code == 304) = false) :
    readTransfer isResp meth code maj min c0 hs =
      .ok { hdr := hs, chunked := false, cl := n, close := c0, decl := none,
            body := if (isResp && meth == headTok) = true ∨ n = 0 then .none else .len n } := by
  unfold readTransfer
  simp only [vals_eq_nil_of_has hs teKey hte, del_eq_self_of_has hs teKey hte, hcl, trimLWS_ne_of_parseCL v n hp, hp]
  cases hh : (isResp && meth == headTok)
  · by_cases h0 : n = 0
    · subst h0; simp [hst hh]
    · have h2 : ¬ ((n : Int) = -1) := by omega
      simp [hst hh, h0, h2]
  · simp

theorem readTransfer_none (isResp : Bool) (meth : Bytes) (code maj min : Nat) (c0 : Bool) (hs : List KV)
    (hte : has hs teKey = false) (hcl : has hs clKey = false)
    (hst : (isResp && meth == headTok) = false → (code / 100 == 1 || code == 204 || code == 304) = false) :
    readTransfer isResp meth code maj min c0 hs =
      .ok { hdr := hs, chunked := false, cl := if isResp then -1 else 0,
            close := c0 || (isResp && !(meth == headTok)), decl := none,
            body := if isResp && !(meth == headTok) then .eof else .none } := by
  unfold readTransfer
  simp only [vals_eq_nil_of_has hs teKey hte, del_eq_self_of_has hs teKey hte, vals_eq_nil_of_has hs clKey hcl]
  cases isResp
  · simp [hst rfl]
  · cases hm : meth == headTok
    · have := hst (by simp [hm])
      simp [this, bodyAllowed_of_status code this]
    · simp
theorem readTransfer_chunked (isResp : Bool) (meth : Bytes) (code maj min : Nat) (c0 : Bool) (hs : List KV)
    (v : Bytes) (hte : vals hs teKey = [v]) (hv : toLower v = chunkedTok)
    (h11 : ((maj == 0 && min == 0) || decide (maj > 1) || (maj == 1 && decide (min ≥ 1))) = true)
    (hcl : has (del hs teKey) clKey = false) (htr : has (del hs teKey) trailerKey = false)
    (hhead : (isResp && meth == headTok) = false)
    (hst : (code / 100 == 1 || code == 204 || code == 304) = false) :
    readTransfer isResp meth code maj min c0 hs =
      .ok { hdr := del hs teKey, chunked := true, cl := -1, close := c0, decl := none, body := .chunked } := by
  unfold readTransfer
  simp only [hte, hv, h11, vals_eq_nil_of_has _ clKey hcl,
    del_eq_self_of_has _ clKey hcl, hhead, hst, bodyAllowed_of_status code hst]
  simp [htr]

theorem hexDigits_length_le (n : Nat) : ∀ k, n < 16 ^ (k + 1) → (hexDigits n).length ≤ k + 1 := by
  fun_induction hexDigits n with
  | case1 n h => intro k _; simp
  | case2 n h ih =>
    intro k hk
    cases k with
    | zero => simp at hk; omega
    | succ k =>
      have hk' : n / 16 < 16 ^ (k + 1) := by
        rw [Nat.pow_succ] at hk
        exact Nat.div_lt_of_lt_mul (by rw [Nat.mul_comm]; exact hk)
      have := ih k hk'
      simp; omega

theorem hexDigits_length_16 (n : Nat) (h : n < 2 ^ 62) : (hexDigits n).length ≤ 16 :=
  hexDigits_length_le n 15 (by
    have : (2:Nat) ^ 62 < 16 ^ 16 := by decide
    omega)

theorem chunkSize_hexDigits (n : Nat) (h : n < 2 ^ 62) : chunkSize (hexDigits n) = some n := by
  have := hexDigits_length_16 n h
  unfold chunkSize
  simp [parseHexUint_hexDigits, show ¬ (hexDigits n).length > 16 by omega]

theorem isHex_ne_lf (c : UInt8) (h : IsHex c) : c ≠ 10 := by
  obtain ⟨d, hd, rfl⟩ := h
  have := hexDigitB_ne_lf d hd
  simpa using this

theorem chunkLine_ext (inp l r e : Bytes) (h : chunkLine inp = .complete l r) :
    chunkLine (inp ++ e) = .complete l (r ++ e) := by
  unfold chunkLine at h
  cases hc : cut 10 (inp.take bufSize) with
  | none => simp only [hc] at h; split at h <;> simp at h
  | some p =>
    obtain ⟨a, b⟩ := p
    simp only [hc] at h
    by_cases hlen : a.length + 2 ≤ bufSize
    · simp only [hlen, if_true, R.complete.injEq] at h
      obtain ⟨rfl, hr⟩ := h
      obtain ⟨h1, h2⟩ := cut_eq_some 10 _ _ _ hc
      have hl : a.length + 1 ≤ inp.length := by
        have := congrArg List.length h1
        simp only [List.length_take, List.length_append, List.length_cons] at this; omega
      -- the window over the longer input starts with the same line
      unfold chunkLine
      rw [List.take_append, h1, List.append_assoc, List.cons_append, cut_append 10 a _ h2]
      simp only [hlen, if_true, ← hr, List.drop_append_of_le_length hl]
    · simp [hlen] at h

theorem chunkLine_hex (n : Nat) (h : n < 2 ^ 62) (X : Bytes) :
    chunkLine (hexDigits n ++ 13 :: 10 :: X) = .complete (hexDigits n ++ [13]) X := by
  have hlen := hexDigits_length_16 n h
  have hnolf : ∀ c ∈ hexDigits n ++ [13], c ≠ 10 := by
    intro c hc
    rcases List.mem_append.mp hc with hc | hc
    · exact isHex_ne_lf c (hexDigits_all_hex n c hc)
    · simp at hc; simp [hc]
  -- the line alone fits the window; what follows it does not matter
  have hline : chunkLine ((hexDigits n ++ [13]) ++ [10]) = .complete (hexDigits n ++ [13]) [] := by
    have hfit : ((hexDigits n ++ [13]) ++ [10]).length ≤ bufSize := by simp [bufSize]; omega
    unfold chunkLine
    rw [List.take_of_length_le hfit, cut_append 10 _ _ hnolf]
    have h3 : (hexDigits n ++ [13]).length + 2 ≤ bufSize := by simp [bufSize]; omega
    simp only [h3, if_true]; simp
  simpa using chunkLine_ext _ _ _ X hline

/-- The chunked reader charges a size line its length + 2 and credits `16 + 2 * n` for the `n` data
bytes it announces: a line of at most 16 hex digits and CR costs at most 20, which `n ≥ 2` repays;
for `n = 1` the line is two bytes. So the serialiser's own size lines never build up excess. -/
theorem nextExcess_hex (n : Nat) (h : n < 2 ^ 62) (hn : 0 < n) :
    nextExcess 0 (hexDigits n ++ [13]).length n = 0 := by
  have hlen := hexDigits_length_16 n h
  have h1 : (hexDigits 1).length = 1 := by rw [hexDigits]; simp
  unfold nextExcess
  simp only [List.length_append, List.length_singleton]
  split
  · rfl
  · by_cases hn1 : n = 1
    · subst hn1; omega
    · omega

/-- Every chunking of a body (non-empty chunks below 2^62 bytes) is read back as the body, and
nothing after the last-chunk line is consumed. -/
theorem readChunks_stream (cs : List Bytes) (hne : ∀ c ∈ cs, c ≠ [] ∧ c.length < 2 ^ 62) (rest : Bytes)
    (fuel : Nat) (hf : cs.length < fuel) :
    readChunks fuel (chunkStream cs ++ rest) 0 = .complete cs.flatten rest := by
  induction cs generalizing fuel with
  | nil =>
    obtain ⟨f, rfl⟩ : ∃ f, fuel = f + 1 := ⟨fuel - 1, by simp at hf; omega⟩
    have hl := chunkLine_hex 0 (by decide) rest
    have h0 : hexDigits 0 = [48] := by rw [hexDigits]; simp [hexDigitB]
    rw [h0] at hl
    have hcs : chunkSize (removeChunkExt (trimRightWs [48, 13])) = some 0 := by decide
    simp only [chunkStream, List.cons_append, List.nil_append] at hl ⊢
    unfold readChunks
    simp [hl, hcs]
  | cons d r ih =>
    obtain ⟨f, rfl⟩ : ∃ f, fuel = f + 1 := ⟨fuel - 1, by simp at hf; omega⟩
    have ⟨hd, hdl⟩ := hne d (by simp)
    have hall := hexDigits_all_hex d.length
    have hpos : 0 < d.length := List.length_pos_iff.mpr hd
    have hrec := ih (fun c hc => hne c (by simp [hc])) f (by simp at hf; omega)
    simp only [chunkStream, List.append_assoc, List.cons_append]
    unfold readChunks
    rw [chunkLine_hex d.length hdl]
    simp only [trimRightWs_hex _ hall, removeChunkExt_hex _ hall, chunkSize_hexDigits _ hdl,
      nextExcess_hex _ hdl hpos]
    have hn62 : ¬ d.length ≥ 2 ^ 62 := by omega
    have hn0 : (d.length == 0) = false := by simp; omega
    -- the buffer holds the whole chunk: `take` and `drop` give the data and what follows it
    have h1 : ¬ (d ++ 13 :: 10 :: (chunkStream r ++ rest)).length < d.length := by simp
    have h2 : (d ++ 13 :: 10 :: (chunkStream r ++ rest)).drop d.length = 13 :: 10 :: (chunkStream r ++ rest) := by
      simp
    have h3 : (d ++ 13 :: 10 :: (chunkStream r ++ rest)).take d.length = d := by simp
    -- and the CRLF after the data is there
    have h4 : ¬ ((13 : UInt8) :: 10 :: (chunkStream r ++ rest)).length < 2 := by simp
    have h5 : (((13 : UInt8) :: 10 :: (chunkStream r ++ rest)).take 2 != crlf) = false := by simp [crlf]
    have h6 : ((13 : UInt8) :: 10 :: (chunkStream r ++ rest)).drop 2 = chunkStream r ++ rest := rfl
    simp only [hn62, hn0, h1, h2, h3, h4, h5, h6, hrec, if_false, Bool.false_eq_true, List.flatten_cons]
    exact if_neg (by omega)

theorem readTrailer_none (decl : Option (List Bytes)) (rest : Bytes) :
    readTrailer decl (crlf ++ rest) = .complete (decl.map fun _ => []) rest := by
  simp [readTrailer, crlf]

theorem hasDoubleCRLF_append (A B : Bytes) : hasDoubleCRLF (A ++ 13 :: 10 :: 13 :: 10 :: B) = true := by
  induction A with
  | nil => simp [hasDoubleCRLF]
  | cons c r ih =>
    simp only [List.cons_append]
    unfold hasDoubleCRLF
    split
    · rfl
    · rename_i heq; simp only [List.cons.injEq] at heq; rw [← heq.2]; exact ih
    · rename_i heq; simp at heq

theorem hasDoubleCRLF_split (l : Bytes) (h : hasDoubleCRLF l = true) :
    ∃ A B, l = A ++ 13 :: 10 :: 13 :: 10 :: B := by
  fun_induction hasDoubleCRLF l with
  | case1 B => exact ⟨[], B, rfl⟩
  | case2 c r _ ih => obtain ⟨A, B, rfl⟩ := ih h; exact ⟨c :: A, B, rfl⟩
  | case3 => cases h

theorem hasDoubleCRLF_mono (a b : Bytes) (h : hasDoubleCRLF a = true) : hasDoubleCRLF (a ++ b) = true := by
  obtain ⟨A, B, rfl⟩ := hasDoubleCRLF_split a h
  exact List.append_assoc A _ b ▸ hasDoubleCRLF_append A (B ++ b)

theorem fields_ends_crlf (t : List KV) (h : t ≠ []) : ∃ A, fields t = A ++ crlf := by
  induction t with
  | nil => exact absurd rfl h
  | cons kv r ih =>
    by_cases hr : r = []
    · subst hr; exact ⟨kv.1 ++ colonSp ++ kv.2, by simp [fields, field]⟩
    · obtain ⟨A, hA⟩ := ih hr
      exact ⟨field kv ++ A, by rw [fields_cons, hA]; simp⟩

theorem readTrailer_fields (decl : Option (List Bytes)) (t : List KV) (ht : t ≠ [])
    (hv : ∀ kv ∈ t, ValidKV kv = true) (hlen : (fields t).length + 2 ≤ bufSize) (rest : Bytes) :
    readTrailer decl (fields t ++ crlf ++ rest) = .complete (some (sortKV t)) rest := by
  obtain ⟨A, hA⟩ := fields_ends_crlf t ht
  have h1 : ((fields t ++ crlf ++ rest).take 2 == crlf) = false := by
    obtain ⟨⟨k, v⟩, r, rfl⟩ := List.exists_cons_of_ne_nil ht
    obtain ⟨c, k', rfl, hc⟩ := validKV_head k v (hv _ (by simp))
    simp only [fields_cons, field, crlf, List.cons_append, List.take_succ_cons, beq_eq_false_iff_ne]
    intro h; exact ne_of_class hc (by decide) (List.cons.inj h).1
  have h2 : ¬ (fields t ++ crlf ++ rest).length < 2 := by simp [crlf]; omega
  have h3 : hasDoubleCRLF ((fields t ++ crlf ++ rest).take bufSize) = true := by
    have hfit : (fields t ++ crlf).length ≤ bufSize := by simp [crlf]; omega
    rw [List.take_append, List.take_of_length_le hfit, hA]
    exact hasDoubleCRLF_mono _ _ (by simpa [crlf] using hasDoubleCRLF_append A [])
  unfold readTrailer
  simp only [h1, Bool.false_eq_true, if_false, h2, h3, Bool.not_true, readHeader_fields t hv rest]

theorem readBody_len (b rest : Bytes) :
    readBody (.len b.length) none (b ++ rest) = .complete (b, none) rest := by
  simp [readBody]

theorem readBody_cl (b rest : Bytes) :
    readBody (if b.length = 0 then .none else .len b.length) none (b ++ rest) = .complete (b, none) rest := by
  split
  · rename_i h; cases List.eq_nil_of_length_eq_zero h; rfl
  · exact readBody_len b rest

theorem readBody_none (decl : Option (List Bytes)) (rest : Bytes) :
    readBody .none decl rest = .complete ([], decl.map fun _ => []) rest := rfl

theorem readBody_eof (b : Bytes) : readBody .eof none b = .complete (b, none) [] := rfl

theorem readBody_chunked (cs : List Bytes) (hne : ∀ c ∈ cs, c ≠ [] ∧ c.length < 2 ^ 62)
    (tr : Bytes) (trv : Option (List KV)) (rest : Bytes)
    (htr : readTrailer none (tr ++ rest) = .complete trv rest) :
    readBody .chunked none (chunkStream cs ++ tr ++ rest) = .complete (cs.flatten, trv) rest := by
  unfold readBody
  have := readChunks_stream cs hne (tr ++ rest) ((chunkStream cs ++ tr ++ rest).length + 1) (by
    have := length_lt_chunkStream cs
    simp; omega)
  simp only [List.append_assoc] at this ⊢
  rw [this]
  simp only [htr]

end Martian.Http1
