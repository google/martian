import Martian.Lemmas.Http1
/-!
Extension stability of the reader: once a length-delimited message has been read completely from
an input, appending more bytes to the input changes nothing but the unread rest. Consequence: a
strict prefix of a length-delimited message is never read as a complete message.
-/
namespace Martian.Http1
open Martian Martian.Go Martian.MessageView

theorem cut_ext (sep : UInt8) (s a b e : Bytes) (h : cut sep s = some (a, b)) :
    cut sep (s ++ e) = some (a, b ++ e) := by
  obtain ⟨h1, h2⟩ := cut_eq_some sep s a b h
  rw [h1, List.append_assoc, List.cons_append]; exact cut_append sep a _ h2

/-- A line that ended with LF is the same line on a longer input. -/
theorem readLine_ext (inp l r e : Bytes) (h : readLine inp = some (l, r)) (hlf : cut 10 inp ≠ none) :
    readLine (inp ++ e) = some (l, r ++ e) := by
  unfold readLine at h ⊢
  cases hc : cut 10 inp with
  | none => exact absurd hc hlf
  | some p =>
    obtain ⟨a, b⟩ := p
    simp only [hc, Option.some.injEq, Prod.mk.injEq] at h
    rw [cut_ext 10 inp a b e hc]
    simp [h.1, h.2]

/-- A line taken from an input without LF leaves nothing. -/
theorem readLine_nolf (inp l r : Bytes) (h : readLine inp = some (l, r)) (hlf : cut 10 inp = none) :
    r = [] ∧ l = inp ∧ inp ≠ [] := by
  unfold readLine at h
  simp only [hlf] at h
  split at h
  · cases h
  · rename_i hne
    simp only [Option.some.injEq, Prod.mk.injEq] at h
    exact ⟨h.2.symm, h.1.symm, fun e => by simp [e] at hne⟩

/-- Only the last bytes of an input are returned as a line without LF: a line that is blank or
leaves something unread ended with one. -/
theorem readLine_lf (inp l r : Bytes) (h : readLine inp = some (l, r)) (hl : l = [] ∨ r ≠ []) : cut 10 inp ≠ none := by
  intro hc
  obtain ⟨hr, hli, hne⟩ := readLine_nolf inp l r h hc
  rcases hl with hl | hl
  · exact hne (hli ▸ hl)
  · exact hl hr

theorem readHeader_nil : readHeader [] = .incomplete := by
  simp [readHeader, readHeaderLines, readLine, cut]

theorem readHeaderLines_nil (fuel : Nat) (first : Bool) (hs : List KV) (r : Bytes) :
    readHeaderLines fuel first [] ≠ .complete hs r := by
  cases fuel with
  | zero => simp [readHeaderLines]
  | succ f => simp [readHeaderLines, readLine, cut]

theorem readHeaderLines_ext (fuel : Nat) (first : Bool) (inp : Bytes) (hs : List KV) (r : Bytes)
    (h : readHeaderLines fuel first inp = .complete hs r) (e : Bytes) (fuel' : Nat) (hf : fuel ≤ fuel') :
    readHeaderLines fuel' first (inp ++ e) = .complete hs (r ++ e) := by
  revert h
  fun_induction readHeaderLines fuel first inp generalizing hs r fuel' with
  | case3 fuel first inp v hl =>
    -- the blank line that ends the section
    intro h; cases h
    obtain ⟨f', rfl⟩ : ∃ f', fuel' = f' + 1 := ⟨fuel' - 1, by omega⟩
    unfold readHeaderLines
    simp only [readLine_ext _ [] _ e hl (readLine_lf _ _ _ hl (.inl rfl))]
  | case6 fuel first inp v c l hc hl hp =>
    intro h
    simp only [hp] at h
    cases h
  | case7 fuel first inp v c l hc hl hp =>
    intro h
    simp only [hp] at h
    cases h
  | case8 fuel first inp v c l hc k val hs' r' hr hl hp ih =>
    -- a field line, and the rest of the section is complete
    intro h
    simp only [hp, hr, R.complete.injEq] at h
    obtain ⟨rfl, rfl⟩ := h
    obtain ⟨f', rfl⟩ : ∃ f', fuel' = f' + 1 := ⟨fuel' - 1, by omega⟩
    have hlf := readLine_lf _ _ _ hl (.inr fun h0 => readHeaderLines_nil _ false hs' r' (h0 ▸ hr))
    unfold readHeaderLines
    simp only [readLine_ext _ _ _ e hl hlf, hp, ih hs' r' f' (by omega) hr, hc, Bool.false_eq_true, if_false]
  | case9 fuel first inp v c l hc k val hl hp hnc ih =>
    -- a field line, and the rest of the section is not complete
    intro h
    simp only [hp] at h
    exact (hnc _ _ h).elim
  | _ => intro h; cases h

theorem readHeader_ext (inp : Bytes) (hs : List KV) (r e : Bytes) (h : readHeader inp = .complete hs r) :
    readHeader (inp ++ e) = .complete hs (r ++ e) :=
  readHeaderLines_ext _ true inp hs r h e _ (by simp)

theorem readChunks_ext (fuel : Nat) (inp : Bytes) (ex : Int) (b r : Bytes)
    (h : readChunks fuel inp ex = .complete b r) (e : Bytes) (fuel' : Nat) (hf : fuel ≤ fuel') :
    readChunks fuel' (inp ++ e) ex = .complete b (r ++ e) := by
  revert h
  -- of the reader's branches only the last chunk and a chunk followed by a complete rest return a body
  fun_induction readChunks fuel inp ex generalizing b r fuel' with
  | case7 fuel inp ex line rest hl n hn h62 h0 =>
    -- the last chunk
    intro h; cases h
    obtain ⟨f', rfl⟩ : ∃ f', fuel' = f' + 1 := ⟨fuel' - 1, by omega⟩
    unfold readChunks
    simp only [chunkLine_ext inp line rest e hl, hn, h62, h0, if_true, if_false]
  | case12 fuel inp ex line rest hl n hn h62 ex2 h0 hex hlen r2 h2 hcr b' r' hr ih =>
    -- a chunk of `n` bytes with its CRLF, and the rest of the body is complete
    intro h; cases h
    obtain ⟨f', rfl⟩ : ∃ f', fuel' = f' + 1 := ⟨fuel' - 1, by omega⟩
    simp only [ex2, r2] at *
    have hlen' : ¬ (rest ++ e).length < n := by simp at hlen ⊢; omega
    have h2' : ¬ (rest.drop n ++ e).length < 2 := by simp at h2 ⊢; omega
    unfold readChunks
    simp only [chunkLine_ext inp line rest e hl, hn, h62, h0, hex, hlen', if_false, Bool.false_eq_true,
      List.drop_append_of_le_length (show n ≤ rest.length by omega),
      List.take_append_of_le_length (show n ≤ rest.length by omega), h2',
      List.take_append_of_le_length (show 2 ≤ (rest.drop n).length by omega),
      List.drop_append_of_le_length (show 2 ≤ (rest.drop n).length by omega), hcr,
      ih _ _ f' (by omega) hr]
  | case13 fuel inp ex line rest hl n hn h62 ex2 h0 hex hlen r2 h2 hcr hnc ih =>
    -- such a chunk, and the rest of the body is not complete
    intro h
    exact (hnc b r h).elim
  | _ => intro h; cases h

theorem readTrailer_ext (decl : Option (List Bytes)) (inp : Bytes) (t : Option (List KV)) (r e : Bytes)
    (h : readTrailer decl inp = .complete t r) : readTrailer decl (inp ++ e) = .complete t (r ++ e) := by
  revert h
  fun_cases readTrailer decl inp with
  | case1 h1 =>
    intro h; cases h
    have hl : 2 ≤ inp.length := by
      have := congrArg List.length (show inp.take 2 = crlf by simpa using h1)
      simp [crlf] at this; omega
    unfold readTrailer
    simp only [List.take_append_of_le_length hl, h1, if_true, List.drop_append_of_le_length hl]
  | case4 h1 h2 h3 hs rest hh =>
    intro h; cases h
    have h2' : ¬ (inp ++ e).length < 2 := by simp; omega
    have h3' : hasDoubleCRLF ((inp ++ e).take bufSize) = true := by
      rw [List.take_append]; exact hasDoubleCRLF_mono _ _ (by simpa using h3)
    unfold readTrailer
    simp only [List.take_append_of_le_length (show 2 ≤ inp.length by omega), h1, h2', h3',
      readHeader_ext inp hs _ e hh, if_false, Bool.not_true, Bool.false_eq_true]
  | _ => intro h; cases h

theorem readBody_ext (kind : BodyKind) (decl : Option (List Bytes)) (inp : Bytes)
    (x : Bytes × Option (List KV)) (r e : Bytes) (hk : kind ≠ .eof)
    (h : readBody kind decl inp = .complete x r) : readBody kind decl (inp ++ e) = .complete x (r ++ e) := by
  revert h
  fun_cases readBody kind decl inp with
  | case1 => intro h; cases h; rfl
  | case3 n hl =>
    intro h; cases h
    have : ¬ (inp ++ e).length < n := by simp; omega
    simp only [readBody, this, if_false, List.take_append_of_le_length (show n ≤ inp.length by omega),
      List.drop_append_of_le_length (show n ≤ inp.length by omega)]
  | case4 => exact absurd rfl hk
  | case5 b rest hc t r' ht =>
    intro h; cases h
    simp only [readBody, readChunks_ext _ inp 0 b rest hc e ((inp ++ e).length + 1) (by simp),
      readTrailer_ext decl rest t _ e ht]
  | _ => intro h; cases h

theorem finishBody_ext (m : Msg) (t : Transfer) (inp : Bytes) (p : Parsed) (r e : Bytes) (hk : t.body ≠ .eof)
    (h : finishBody m t inp = .complete p r) : finishBody m t (inp ++ e) = .complete p (r ++ e) := by
  revert h
  fun_cases finishBody m t inp <;> intro h <;> cases h
  rename_i b tr hb
  simp only [finishBody, readBody_ext t.body t.decl inp (b, tr) r e hk hb]

theorem head_lines_ext (inp line r1 : Bytes) (hs : List KV) (r2 e : Bytes)
    (hl : readLine inp = some (line, r1)) (hh : readHeader r1 = .complete hs r2) :
    readLine (inp ++ e) = some (line, r1 ++ e) ∧ readHeader (r1 ++ e) = .complete hs (r2 ++ e) :=
  ⟨readLine_ext inp line r1 e hl (readLine_lf _ _ _ hl (.inr fun h0 => by rw [h0, readHeader_nil] at hh; cases hh)),
    readHeader_ext r1 hs r2 e hh⟩

theorem liftE_complete_ext {α β} (x : E α) (k : α → β) (r e : Bytes) (y : β) (r' : Bytes)
    (h : liftE x (fun t => R.complete (k t) r) = .complete y r') :
    liftE x (fun t => R.complete (k t) (r ++ e)) = .complete y (r' ++ e) := by
  cases x with
  | ok a => simp only [liftE, R.complete.injEq] at h ⊢; simp [h.1, h.2]
  | malformed => simp [liftE] at h
  | outOfModel => simp [liftE] at h

/-- A head reader whose complete results survive any extension of the input. -/
def HeadExt (H : Bytes → R (Msg × Transfer)) : Prop :=
  ∀ inp x r e, H inp = .complete x r → H (inp ++ e) = .complete x (r ++ e)

theorem readResponseHead_ext (meth : Bytes) : HeadExt (readResponseHead meth) := by
  intro inp x r e h
  revert h
  -- every branch but the last returns no head; in that one the status line and the header section are
  -- read again from the longer input, and the branch hypotheses decide every test on them as before
  fun_cases readResponseHead meth inp <;> intro h <;> try cases h
  obtain ⟨hl', hh'⟩ := head_lines_ext inp _ _ _ _ e ‹readLine inp = some _› ‹readHeader _ = .complete _ _›
  unfold readResponseHead
  simp +zetaDelta only [*, if_false, Bool.false_eq_true]
  exact liftE_complete_ext _ _ _ e x r h

theorem readRequestHead_ext : HeadExt readRequestHead := by
  intro inp x r e h
  revert h
  fun_cases readRequestHead inp <;> intro h <;> try cases h
  obtain ⟨hl', hh'⟩ := head_lines_ext inp _ _ _ _ e ‹readLine inp = some _› ‹readHeader _ = .complete _ _›
  unfold readRequestHead
  simp +zetaDelta only [*, if_false, Bool.false_eq_true]
  exact liftE_complete_ext _ _ _ e x r h

/-- `readRequest` and `readResponse meth` are their head readers followed by this. -/
def thenBody : R (Msg × Transfer) → R Parsed
  | .complete (m, t) r => finishBody m t r
  | .incomplete => .incomplete
  | .malformed => .malformed
  | .outOfModel => .outOfModel

theorem readRequest_eq_thenBody (w : Bytes) : readRequest w = thenBody (readRequestHead w) := rfl
theorem readResponse_eq_thenBody (meth w : Bytes) : readResponse meth w = thenBody (readResponseHead meth w) := rfl

/-- A length-delimited message read completely from `inp` is read identically from every
extension of `inp`; only the unread rest grows. -/
theorem thenBody_ext (H : Bytes → R (Msg × Transfer)) (hH : HeadExt H) (inp : Bytes) (m0 : Msg) (t : Transfer)
    (r0 : Bytes) (p : Parsed) (r e : Bytes) (hh : H inp = .complete (m0, t) r0) (hk : t.body ≠ .eof)
    (h : thenBody (H inp) = .complete p r) : thenBody (H (inp ++ e)) = .complete p (r ++ e) := by
  rw [hH inp _ r0 e hh]
  rw [hh] at h
  exact finishBody_ext m0 t r0 p r e hk h

theorem readResponse_ext (meth inp : Bytes) (m0 : Msg) (t : Transfer) (r0 : Bytes) (p : Parsed) (r e : Bytes)
    (hh : readResponseHead meth inp = .complete (m0, t) r0) (hk : t.body ≠ .eof)
    (h : readResponse meth inp = .complete p r) :
    readResponse meth (inp ++ e) = .complete p (r ++ e) :=
  thenBody_ext _ (readResponseHead_ext meth) inp m0 t r0 p r e hh hk h

theorem readRequest_ext (inp : Bytes) (m0 : Msg) (t : Transfer) (r0 : Bytes) (p : Parsed) (r e : Bytes)
    (hh : readRequestHead inp = .complete (m0, t) r0) (hk : t.body ≠ .eof)
    (h : readRequest inp = .complete p r) :
    readRequest (inp ++ e) = .complete p (r ++ e) :=
  thenBody_ext _ readRequestHead_ext inp m0 t r0 p r e hh hk h

theorem thenBody_complete (h : R (Msg × Transfer)) (p : Parsed) (r : Bytes) (hc : thenBody h = .complete p r) :
    ∃ m0 t r0, h = .complete (m0, t) r0 ∧ finishBody m0 t r0 = .complete p r := by
  cases h with
  | complete x r0 => exact ⟨x.1, x.2, r0, rfl, hc⟩
  | incomplete => cases hc
  | malformed => cases hc
  | outOfModel => cases hc

/-- If a byte string `w` is read as one complete message with nothing left, and one more byte
after it is left untouched (so the message is delimited by its length, not by the end of the
input), then NO strict prefix of `w` is read as a complete message. -/
theorem prefix_never_complete (H : Bytes → R (Msg × Transfer)) (hH : HeadExt H) (w : Bytes) (p : Parsed)
    (h0 : thenBody (H w) = .complete p []) (h1 : thenBody (H (w ++ [0])) = .complete p [0]) :
    ∀ k, k < w.length → (thenBody (H (w.take k))).isComplete = false := by
  intro k hk
  obtain ⟨m0, t, r0, hh, -⟩ := thenBody_complete _ p [] h0
  -- the body is not delimited by the close: that would have consumed the extra byte
  have hne : t.body ≠ .eof := by
    intro he
    rw [hH w _ r0 [0] hh] at h1
    simp only [thenBody, finishBody, he, readBody, R.complete.injEq] at h1
    cases h1.2
  cases hp : thenBody (H (w.take k)) with
  | incomplete => rfl
  | malformed => rfl
  | outOfModel => rfl
  | complete p' r' =>
    exfalso
    obtain ⟨m0', t', r0', hh', hf'⟩ := thenBody_complete _ p' r' hp
    -- read on from the prefix: the same head, hence the same message, with `w.drop k` left over
    have hhw := hH (w.take k) _ r0' (w.drop k) hh'
    rw [List.take_append_drop, hh] at hhw
    simp only [R.complete.injEq, Prod.mk.injEq] at hhw
    obtain ⟨⟨rfl, rfl⟩, rfl⟩ := hhw
    have hw := thenBody_ext H hH (w.take k) m0 t r0' p' r' (w.drop k) hh' hne hp
    rw [List.take_append_drop, h0] at hw
    simp only [R.complete.injEq, List.nil_eq, List.append_eq_nil_iff] at hw
    have := congrArg List.length hw.2.2
    simp at this; omega

theorem response_prefix_never_complete (meth w : Bytes) (p : Parsed)
    (h0 : readResponse meth w = .complete p [])
    (h1 : readResponse meth (w ++ [0]) = .complete p [0]) :
    ∀ k, k < w.length → (readResponse meth (w.take k)).isComplete = false := by
  simp only [readResponse_eq_thenBody] at h0 h1 ⊢
  exact prefix_never_complete (readResponseHead meth) (readResponseHead_ext meth) w p h0 h1

theorem request_prefix_never_complete (w : Bytes) (p : Parsed)
    (h0 : readRequest w = .complete p [])
    (h1 : readRequest (w ++ [0]) = .complete p [0]) :
    ∀ k, k < w.length → (readRequest (w.take k)).isComplete = false := by
  simp only [readRequest_eq_thenBody] at h0 h1 ⊢
  exact prefix_never_complete readRequestHead readRequestHead_ext w p h0 h1

end Martian.Http1
