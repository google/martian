import Martian.Lemmas.ShapeLoop
/-! Interleaved histories of C18: one round of a pending call (`roundStep`), one step of the world,
the invariant of the world, and what stays fixed for a connection older than the shapes (it performs
no action and is not cut, in any history). -/
namespace Martian.Shape
open Martian Martian.Go

theorem beginWrite_spec (c : Conn) (b : Bytes) :
    (∃ hw, (beginWrite c b).1 = { c with ctx := { c.ctx with headerWritten := hw } }) ∧
    (beginWrite c b).2.delivered ++ (beginWrite c b).2.rest = b ∧ (beginWrite c b).2.evs = [] := by
  fun_cases beginWrite c b with
  | case1 => exact ⟨⟨_, rfl⟩, List.take_append_drop _ _, rfl⟩
  | case2 => exact ⟨⟨_, rfl⟩, rfl, rfl⟩

theorem applyCap_ctx (c : Conn) (r : Nat) (x : Option Int) :
    (applyCap c r x).established = c.established ∧ ∃ f, (applyCap c r x).ctx = { c.ctx with fast := f } := by
  fun_cases applyCap c r x <;> exact ⟨rfl, _, rfl⟩

theorem setShapeActions_lastMod (l : Listener) (r : Nat) (acts : List Action) :
    (setShapeActions l r acts).lastMod = l.lastMod ∧ (setShapeActions l r acts).clock = l.clock := by
  fun_cases setShapeActions l r acts <;> exact ⟨rfl, rfl⟩

theorem validShape_old (l : Listener) (c : Conn) (h : c.established ≤ l.lastMod) (r : Nat) : validShape l c r = none :=
  if_neg (Nat.not_lt.2 h)

theorem validShape_congr (l : Listener) (c c' : Conn) (h : c'.established = c.established) (r : Nat) :
    validShape l c' r = validShape l c r := by
  unfold validShape; rw [h]

theorem mapGet_of_validShape {l : Listener} {c : Conn} {r : Nat} {sh : Shape} (h : validShape l c r = some sh) :
    l.lastMod < c.established ∧ mapGet r l.shapes = some sh := by
  revert h
  fun_cases validShape l c r with
  | case1 hlt => exact fun h => ⟨hlt, h⟩
  | case2 => nofun

theorem mapGet_mapSet {β : Type} (k k' : Nat) (v : β) (m : List (Nat × β)) :
    mapGet k (mapSet k' v m) = if k = k' then some v else mapGet k m := by
  fun_induction mapSet k' v m with
  | case1 => rfl
  | case2 v2 rest => simp only [mapGet]; split <;> rfl
  | case3 k2 v2 rest hne hlt => rfl
  | case4 k2 v2 rest hne hnlt ih =>
    simp only [mapGet, ih]
    by_cases h : k = k2
    · rw [if_pos h, if_neg (by omega), if_pos h]
    · rw [if_neg h, if_neg h]

/-- The pending action is not behind the write position; otherwise `amountToWrite` is negative and
`b[:max]` panics.  This half of `CtxOK` needs no valid shape. -/
def AheadOK (off : Int) (next : Option (Nat × Int)) : Prop := ∀ i nb, next = some (i, nb) → off ≤ nb

theorem stepLoop_ahead (cap : Nat) (s : Loop) (b : Bytes) (h : AheadOK s.off s.next) :
    AheadOK (stepLoop false cap s b).loop.off (stepLoop false cap s b).loop.next ∧
    ((stepLoop false cap s b).status? = none ∨ (stepLoop false cap s b).status? = some .ok) := by
  apply stepLoop_cases (P := fun r => AheadOK r.loop.off r.loop.next ∧ (r.status? = none ∨ r.status? = some .ok))
  case neg =>
    intro ind nb hn hlt; have := h ind nb hn; omega
  case free =>
    intro m hn _
    exact ⟨fun i nb h' => absurd (hn.symm.trans h') nofun, Or.inl rfl⟩
  case short =>
    intro m ind nb hc hlt
    refine ⟨fun i nb' h' => ?_, Or.inl rfl⟩
    cases hc.next.symm.trans h'
    exact Int.le_of_lt hlt
  case fallback =>
    intro m ind nb hc _
    refine ⟨fun i nb' h' => ?_, Or.inr rfl⟩
    cases hc.next.symm.trans h'
    exact Int.le_of_eq hc.reach
  -- the other cases need a valid shape
  all_goals intros; contradiction

/-- The action list a round works on: `Shape.Actions` of the shape that is valid for the
connection, nothing without one. -/
def shapeActs (l : Listener) (c : Conn) (r : Nat) : List Action :=
  match validShape l c r with
  | some sh => sh.actions
  | none => []

/-- The loop state a round of a pending call starts from (the local `s` of `roundStep`): offset and
pending action from the connection's context, bytes and events of the call so far. -/
def roundLoop (c : Conn) (pd : Pending) (acts : List Action) : Loop :=
  { off := c.ctx.off, next := c.ctx.next, acts := acts, delivered := pd.delivered, evs := pd.evs }

/-- What `roundStep` writes back when the `stepLoop` of the round returned `res`. -/
def writeBack (l : Listener) (c : Conn) (pd : Pending) (r : Nat) (valid : Bool) (res : StepRes) :
    Listener × Conn × Pending × Option Status :=
  (if valid then setShapeActions l r res.loop.acts else l,
   applyCap { c with ctx := { c.ctx with off := res.loop.off, next := res.loop.next, shaping := res.loop.shaping } } r res.loop.cap,
   { rest := res.rest, delivered := res.loop.delivered, evs := res.loop.evs, round := pd.round + 1 }, res.status?)

theorem roundStep_cases (cap : Nat) (l : Listener) (c : Conn) (pd : Pending) :
    (∃ pd', roundStep cap l c pd = (l, c, pd', some .ok) ∧ (pd.rest = [] ∨ c.ctx.shaping = false ∨ c.ctx.regex = none) ∧
      pd'.delivered = pd.delivered ++ pd.rest ∧ pd'.evs = pd.evs) ∨
    (∃ r, pd.rest ≠ [] ∧ c.ctx.shaping = true ∧ c.ctx.regex = some r ∧
      roundStep cap l c pd = writeBack l c pd r (validShape l c r).isSome
        (stepLoop (validShape l c r).isSome cap (roundLoop c pd (shapeActs l c r)) pd.rest)) := by
  fun_cases roundStep cap l c pd with
  | case1 he => exact Or.inl ⟨pd, rfl, Or.inl (List.isEmpty_iff.1 he), by rw [List.isEmpty_iff.1 he, List.append_nil], rfl⟩
  | case2 _ _ hs => exact Or.inl ⟨_, rfl, Or.inr (Or.inl (by simpa using hs)), rfl, rfl⟩
  | case3 _ _ _ hr => exact Or.inl ⟨_, rfl, Or.inr (Or.inr hr), rfl, rfl⟩
  | case4 he hs r hr _ _ _ _ _ _ hst | case5 he hs r hr _ _ _ _ _ _ hst =>
    exact Or.inr ⟨r, fun h => he (by rw [h]; rfl), by simpa using hs, hr, (congrArg (writeBack l c pd r _) hst).symm⟩

/-- `parseShapes` sorts the actions of every shape by offset, and rounds only change counts. -/
def ShapesSorted (l : Listener) : Prop := ∀ r sh, mapGet r l.shapes = some sh → SortedBy Action.byte sh.actions

/-- The context of a connection fits the listener: the pending action is not behind the write
position, and with a valid shape the invariant `CtxOK` of the `Write` calls holds. -/
def CtxGood (l : Listener) (c : Conn) : Prop :=
  AheadOK c.ctx.off c.ctx.next ∧ ∀ r sh, c.ctx.regex = some r → validShape l c r = some sh → CtxOK c.ctx sh.actions

theorem ctxGood_of_next_none (l : Listener) (c : Conn) (hL : ShapesSorted l) (h : c.ctx.next = none) : CtxGood l c :=
  ⟨fun _ _ hn => absurd (h.symm.trans hn) nofun,
    fun r sh _ hv => ⟨hL r sh (mapGet_of_validShape hv).2, fun _ _ hn => absurd (h.symm.trans hn) nofun⟩⟩

/-- `l'` has the same time stamps and the same shapes as `l` up to the counts of the actions. -/
def SameShapes (l l' : Listener) : Prop :=
  l'.lastMod = l.lastMod ∧ l'.clock = l.clock ∧
  ∀ r, (mapGet r l'.shapes).map (fun sh => bytesOf sh.actions) = (mapGet r l.shapes).map (fun sh => bytesOf sh.actions)

theorem SameShapes.refl (l : Listener) : SameShapes l l := ⟨rfl, rfl, fun _ => rfl⟩

theorem SameShapes.get {l l' : Listener} (h : SameShapes l l') {r : Nat} {sh' : Shape} (hg : mapGet r l'.shapes = some sh') :
    ∃ sh, mapGet r l.shapes = some sh ∧ bytesOf sh'.actions = bytesOf sh.actions := by
  have := h.2.2 r
  rw [hg] at this
  cases hl : mapGet r l.shapes with
  | none => rw [hl] at this; cases this
  | some sh => rw [hl] at this; exact ⟨sh, rfl, Option.some.inj this⟩

theorem ctxOK_of_bytes {a b : List Action} (h : bytesOf a = bytesOf b) {c : Ctx} (hc : CtxOK c b) : CtxOK c a := by
  refine ⟨sorted_of_bytes h hc.1, fun i nb hn => ?_⟩
  obtain ⟨hi, hb, hoff⟩ := hc.2 i nb hn
  have h1 : (bytesOf a)[i]? = some nb := by rw [h, bytesOf, List.getElem?_map, List.getElem?_eq_getElem hi]; exact congrArg some hb
  rw [bytesOf, List.getElem?_map] at h1
  cases ha : a[i]? with
  | none => rw [ha] at h1; cases h1
  | some x =>
    obtain ⟨hi', rfl⟩ := List.getElem_of_getElem? ha
    rw [ha] at h1
    exact ⟨hi', Option.some.inj h1, hoff⟩

theorem SameShapes.sorted {l l' : Listener} (h : SameShapes l l') (hs : ShapesSorted l) : ShapesSorted l' := by
  intro r sh' hg
  obtain ⟨sh, hl, hb⟩ := h.get hg
  exact sorted_of_bytes hb (hs r sh hl)

theorem SameShapes.ctx {l l' : Listener} (h : SameShapes l l') {c : Conn} (hc : CtxGood l c) : CtxGood l' c := by
  refine ⟨hc.1, fun r sh' hr hv => ?_⟩
  obtain ⟨hlt, hg⟩ := mapGet_of_validShape hv
  obtain ⟨sh, hl, hb⟩ := h.get hg
  exact ctxOK_of_bytes hb (hc.2 r sh hr (by unfold validShape; rw [if_pos (h.1 ▸ hlt)]; exact hl))

theorem mapGet_setShapeActions {l : Listener} {r : Nat} {sh : Shape} (acts : List Action)
    (hg : mapGet r l.shapes = some sh) (r' : Nat) :
    mapGet r' (setShapeActions l r acts).shapes =
      if r' = r then some { sh with actions := acts } else mapGet r' l.shapes := by
  unfold setShapeActions
  rw [hg]
  exact mapGet_mapSet r' r _ l.shapes

theorem validShape_setShapeActions {l : Listener} (c c' : Conn) {r : Nat} {sh : Shape} (acts : List Action)
    (he : c'.established = c.established) (hv : validShape l c r = some sh) :
    validShape (setShapeActions l r acts) c' r = some { sh with actions := acts } := by
  obtain ⟨hlt, hg⟩ := mapGet_of_validShape hv
  unfold validShape
  rw [(setShapeActions_lastMod l r acts).1, he, if_pos hlt, mapGet_setShapeActions acts hg, if_pos rfl]

theorem setShapeActions_same {l : Listener} {r : Nat} {sh : Shape} (acts : List Action)
    (hg : mapGet r l.shapes = some sh) (hb : bytesOf acts = bytesOf sh.actions) :
    SameShapes l (setShapeActions l r acts) := by
  refine ⟨(setShapeActions_lastMod l r acts).1, (setShapeActions_lastMod l r acts).2, fun r' => ?_⟩
  rw [mapGet_setShapeActions acts hg]
  by_cases hr : r' = r
  · rw [if_pos hr, hr, hg]; exact congrArg some hb
  · rw [if_neg hr]

theorem ctxGood_applyCap {l : Listener} {c : Conn} {r : Nat} {x : Option Int} (h : CtxGood l c) :
    CtxGood l (applyCap c r x) := by
  obtain ⟨he, f, hf⟩ := applyCap_ctx c r x
  unfold CtxGood
  rw [hf]
  exact ⟨h.1, fun r' sh hr hv => h.2 r' sh hr (by rw [← validShape_congr l c _ he]; exact hv)⟩

structure RoundOK (l : Listener) (c : Conn) (pd : Pending) (l' : Listener) (c' : Conn) (pd' : Pending)
    (st : Option Status) : Prop where
  deliv : ∃ m, m ≤ pd.rest.length ∧ pd'.delivered = pd.delivered ++ pd.rest.take m ∧
    (st = none → pd'.rest = pd.rest.drop m) ∧ (st = some .ok → m = pd.rest.length)
  est : c'.established = c.established
  same : SameShapes l l'
  stale : (∀ x, validShape l c x = none) → l' = l ∧ pd'.evs = pd.evs ∧
    (AheadOK c.ctx.off c.ctx.next → st = none ∨ st = some .ok)
  safe : ShapesSorted l → CtxGood l c → (st ≠ some .closed → CtxGood l' c') ∧ st ≠ some .panic

theorem roundStep_ok {cap : Nat} {l l' : Listener} {c c' : Conn} {pd pd' : Pending} {st : Option Status}
    (h : roundStep cap l c pd = (l', c', pd', st)) : RoundOK l c pd l' c' pd' st := by
  rcases roundStep_cases cap l c pd with ⟨pd1, heq, _, hd, he⟩ | ⟨r, hne, _, hreg, heq⟩
  · cases heq.symm.trans h
    exact ⟨⟨pd.rest.length, Nat.le_refl _, by rw [List.take_length]; exact hd, nofun, fun _ => rfl⟩, rfl, .refl l,
      fun _ => ⟨rfl, he, fun _ => Or.inr rfl⟩, fun _ hC => ⟨fun _ => hC, nofun⟩⟩
  cases hv : validShape l c r with
  | none =>
    simp only [shapeActs, hv, Option.isSome_none] at heq
    rw [heq, writeBack] at h
    have F := stepLoop_frame false cap (roundLoop c pd []) pd.rest
    have A := stepLoop_ahead cap (roundLoop c pd []) pd.rest
    generalize stepLoop false cap (roundLoop c pd []) pd.rest = res at F A h
    cases h
    refine ⟨F.deliv, (applyCap_ctx _ r _).1, .refl l, fun _ => ⟨rfl, (F.invalid rfl).1, fun ha => (A ha).2⟩,
      fun _ hC => ⟨fun _ => ctxGood_applyCap ⟨(A hC.1).1, fun r' sh' hr' hv' => ?_⟩, fun h => ?_⟩⟩
    · rw [show r' = r from Option.some.inj (hr'.symm.trans hreg)] at hv'
      exact absurd (hv'.symm.trans hv) nofun
    · rcases (A hC.1).2 with h' | h' <;> exact absurd (h'.symm.trans h) nofun
  | some sh =>
    simp only [shapeActs, hv, Option.isSome_some] at heq
    rw [heq, writeBack] at h
    have F := stepLoop_frame true cap (roundLoop c pd sh.actions) pd.rest
    have hg := (mapGet_of_validShape hv).2
    have sc := fun hC : CtxGood l c => stepLoop_ok true cap (roundLoop c pd sh.actions) pd.rest
      (let ok := hC.2 r sh hreg hv; ⟨ok.1, ok.2⟩) hne
    generalize stepLoop true cap (roundLoop c pd sh.actions) pd.rest = res at F sc h
    cases h
    have hsame := setShapeActions_same res.loop.acts hg F.bytes
    refine ⟨F.deliv, (applyCap_ctx _ r _).1, hsame, fun h => absurd ((h r).symm.trans hv) nofun, fun _ hC => ?_⟩
    replace sc := sc hC
    cases res with
    | cont s' b' =>
      refine ⟨fun _ => ctxGood_applyCap ⟨fun i nb hn => (sc.inv.next i nb hn).2.2, fun r' sh' hr' hv' => ?_⟩, nofun⟩
      rw [show r' = r from Option.some.inj (hr'.symm.trans hreg)] at hv'
      replace hv' : validShape (setShapeActions l r s'.acts) c r = some sh' := hv'
      rw [validShape_setShapeActions c c s'.acts rfl hv] at hv'
      cases hv'
      exact ⟨sc.inv.sorted, sc.inv.next⟩
    | done s' st =>
      rcases sc with ⟨_, hinv, _⟩ | ⟨hst, _⟩
      · cases hinv
      · rw [hst]; exact ⟨fun h => absurd rfl h, nofun⟩

theorem foldl_mapSet_all {Q : Shape → Prop} : ∀ (ps : List (Nat × Shape)) (m : List (Nat × Shape)),
    (∀ p ∈ ps, Q p.2) → (∀ r v, mapGet r m = some v → Q v) →
    ∀ r v, mapGet r (ps.foldl (fun m p => mapSet p.1 p.2 m) m) = some v → Q v
  | [], m, _, hm => hm
  | p :: rest, m, hp, hm => by
    apply foldl_mapSet_all rest (mapSet p.1 p.2 m) (fun q hq => hp q (List.mem_cons_of_mem _ hq))
    intro r v hg
    rw [mapGet_mapSet] at hg
    split at hg
    · cases hg; exact hp p (List.mem_cons_self ..)
    · exact hm r v hg

theorem configure_sorted {l l' : Listener} {cfg : RawConfig} (h : configure l cfg = .ok l') : ShapesSorted l' := by
  obtain ⟨ps, hp, hs, _⟩ := configure_ok h
  intro r sh hg
  rw [hs] at hg
  refine foldl_mapSet_all (Q := fun s => SortedBy Action.byte s.actions) ps [] ?_ nofun r sh hg
  intro p hpm
  obtain ⟨k, hk, rfl⟩ := List.mem_iff_getElem.1 hpm
  obtain ⟨hlen, hall⟩ := parseShapes_ok_all cfg.shapes 0 ps hp
  obtain ⟨q, hq1, hq2⟩ := hall k (by omega)
  rw [List.getElem?_eq_getElem hk] at hq2
  cases hq2
  obtain ⟨_, _, _, _, _, _, src⟩ := parseShape_ok hq1
  exact src.actions ▸ stableSort_sorted _ _

theorem setContext_shape (l : Listener) (c : Conn) (u : Option Nat) (rs hl : Int) (f : Option Int) :
    (setContext l c u rs hl f).established = c.established ∧
    ((setContext l c u rs hl f).ctx.next = none ∨
     ∃ r s, (setContext l c u rs hl f).ctx.regex = some r ∧ validShape l c r = some s ∧
       (setContext l c u rs hl f).ctx.off = rs ∧ (setContext l c u rs hl f).ctx.next = nextFromByte s.actions rs) := by
  fun_cases setContext l c u rs hl f with
  | case3 r _ _ _ sh next =>
    cases hv : validShape l c r with
    | none => exact ⟨rfl, Or.inl (by simp only [next, sh, hv])⟩
    | some s => exact ⟨rfl, Or.inr ⟨r, s, rfl, hv, rfl, by simp only [next, sh, hv]⟩⟩
  | _ => exact ⟨rfl, Or.inl rfl⟩

theorem setContext_good (l : Listener) (c : Conn) (u : Option Nat) (rs hl : Int) (f : Option Int)
    (hL : ShapesSorted l) : CtxGood l (setContext l c u rs hl f) := by
  obtain ⟨he, hn | ⟨r, s, hr, hv, hoff, hnx⟩⟩ := setContext_shape l c u rs hl f
  · exact ctxGood_of_next_none _ _ hL hn
  · have good := nextFromByte_good s.actions rs (hL r s (mapGet_of_validShape hv).2)
    refine ⟨fun i nb h => ?_, fun r' sh hr' hv' => ?_⟩
    · rw [hnx] at h; rw [hoff]; exact (good i nb h).2.2
    · rw [hr] at hr'; cases hr'
      rw [validShape_congr l c _ he, hv] at hv'; cases hv'
      exact ⟨hL r s (mapGet_of_validShape hv).2, fun i nb h => by rw [hnx] at h; rw [hoff]; exact good i nb h⟩

/-- What a step does to the connection it concerns (and, in a round, to the listener). -/
inductive ConnStep (l : Listener) (ic : IConn) : Listener → IConn → Prop
  | setCtx (u : Option Nat) (rs hl : Int) (f : Option Int) : ¬ (ic.dead ∨ ic.pend.isSome) →
      ConnStep l ic l { ic with c := setContext l ic.c u rs hl f }
  | begin (b : Bytes) : ¬ (ic.dead ∨ ic.pend.isSome) →
      ConnStep l ic l { ic with c := (beginWrite ic.c b).1, pend := some (beginWrite ic.c b).2, written := ic.written ++ b }
  | cont (pd : Pending) (l' : Listener) (c' : Conn) (pd' : Pending) : ic.pend = some pd →
      RoundOK l ic.c pd l' c' pd' none → ConnStep l ic l' { ic with c := c', pend := some pd' }
  | done (pd : Pending) (l' : Listener) (c' : Conn) (pd' : Pending) (st : Status) : ic.pend = some pd →
      RoundOK l ic.c pd l' c' pd' (some st) →
      ConnStep l ic l' { ic with c := c', pend := none, out := ic.out ++ pd'.delivered, evs := ic.evs ++ pd'.evs,
                                  dead := ic.dead || decide (st ≠ .ok), panicked := ic.panicked || decide (st = .panic) }

theorem World.step_cases (w : World) (st : Step) {P : World → Prop} (same : P w)
    (cfg : ∀ cfg l', configure w.l cfg = .ok l' → P { w with l := l' })
    (acc : P { l := (accept w.l).1, conns := w.conns ++ [{ c := (accept w.l).2 }] })
    (conn : ∀ i ic l' ic', w.conns[i]? = some ic → ConnStep w.l ic l' ic' → P { l := l', conns := w.conns.set i ic' }) :
    P (w.step st) := by
  fun_cases World.step w st with
  | case1 c =>
    cases hc : configure w.l c with
    | error e => unfold configureSt; rw [hc]; exact same
    | ok l' => rw [configureSt_ok hc]; exact cfg c l' hc
  | case2 => exact acc
  | case5 i u rs hl f ic hi hc => exact conn i ic _ _ hi (.setCtx u rs hl f hc)
  | case8 i b ic hi hc => exact conn i ic _ _ hi (.begin b hc)
  | case11 i cap ic hi pd hp l' c' pd' hr => exact conn i ic _ _ hi (.cont pd l' c' pd' hp (roundStep_ok hr))
  | case12 i cap ic hi pd hp l' c' pd' st hr => exact conn i ic _ _ hi (.done pd l' c' pd' st hp (roundStep_ok hr))
  | _ => exact same

/-- Invariant of a connection of a world with listener `l`.  `est`: it was accepted in the past, so a
configuration accepted from here on (stamped `lastMod := clock`) is not valid for it.  `pre`, `all`:
what the client received is a prefix of what was written, and with the pending rest it is all of it
unless a call was cut.  `pend`: a cut connection has no `Write` in progress. -/
structure ConnInv (l : Listener) (ic : IConn) : Prop where
  est : ic.c.established < l.clock
  pre : ic.delivered <+: ic.written
  all : ic.dead = false → ic.delivered ++ ic.rest = ic.written
  pend : ic.pend.isSome = true → ic.dead = false
  nopanic : ic.panicked = false
  ctx : ic.dead = false → CtxGood l ic.c

/-- `stamp`: the shapes were stamped in the past (`configure` sets `lastMod := clock` and advances the
clock), so `lastMod` never decreases and a connection accepted next is newer than the shapes. -/
structure WorldOK (w : World) : Prop where
  sorted : ShapesSorted w.l
  stamp : w.l.lastMod < w.l.clock
  conns : ∀ ic ∈ w.conns, ConnInv w.l ic

theorem ConnInv.of_sameShapes {l l' : Listener} {ic : IConn} (h : SameShapes l l') (hI : ConnInv l ic) : ConnInv l' ic :=
  { hI with est := h.2.1 ▸ hI.est, ctx := fun hd => h.ctx (hI.ctx hd) }

theorem idle_guard {ic : IConn} (h : ¬ (ic.dead ∨ ic.pend.isSome)) : ic.dead = false ∧ ic.pend = none := by
  cases hd : ic.dead <;> cases hp : ic.pend <;> simp_all

theorem ConnStep.inv {l l' : Listener} {ic ic' : IConn} (h : ConnStep l ic l' ic') (hL : ShapesSorted l)
    (hI : ConnInv l ic) : SameShapes l l' ∧ ConnInv l' ic' := by
  cases h with
  | setCtx u rs hl f hc =>
    exact ⟨.refl l, { hI with
      est := (setContext_shape l ic.c u rs hl f).1 ▸ hI.est, ctx := fun _ => setContext_good l ic.c u rs hl f hL }⟩
  | «begin» b hc =>
    obtain ⟨hd, hp⟩ := idle_guard hc
    have hw : ic.out = ic.written := by
      have := hI.all hd; simpa [IConn.delivered, IConn.rest, hp] using this
    obtain ⟨⟨_, he⟩, sp, _⟩ := beginWrite_spec ic.c b
    -- `CtxGood` does not read `headerWritten`, the only field of the connection that `beginWrite` changes
    refine ⟨.refl l, (congrArg Conn.established he) ▸ hI.est, ⟨(beginWrite ic.c b).2.rest, ?_⟩, fun _ => ?_, fun _ => hd,
      hI.nopanic, fun _ => he ▸ hI.ctx hd⟩ <;>
    simp only [IConn.delivered, IConn.rest, List.append_assoc, sp, hw]
  | cont pd l' c' pd' hp R =>
    have hd : ic.dead = false := hI.pend (by rw [hp]; rfl)
    obtain ⟨m, _, hm2, hm3, _⟩ := R.deliv
    have hall := hI.all hd
    simp only [IConn.delivered, IConn.rest, hp, List.append_assoc] at hall
    refine ⟨R.same, R.est ▸ R.same.2.1 ▸ hI.est, ⟨pd.rest.drop m, ?_⟩, fun _ => ?_, fun _ => hd, hI.nopanic,
      fun _ => (R.safe hL (hI.ctx hd)).1 nofun⟩ <;>
    simp only [IConn.delivered, IConn.rest, hm2, hm3 rfl, List.append_assoc, List.take_append_drop, hall]
  | done pd l' c' pd' st hp R =>
    have hd : ic.dead = false := hI.pend (by rw [hp]; rfl)
    obtain ⟨m, _, hm2, _, hm4⟩ := R.deliv
    have hall := hI.all hd
    simp only [IConn.delivered, IConn.rest, hp, List.append_assoc] at hall
    have hS := R.safe hL (hI.ctx hd)
    refine ⟨R.same, R.est ▸ R.same.2.1 ▸ hI.est, ⟨pd.rest.drop m, ?_⟩, fun hdead => ?_, nofun, ?_, fun hdead => ?_⟩
    · simp only [IConn.delivered, hm2, List.append_assoc, List.append_nil, List.take_append_drop, hall]
    · simp only [hd, Bool.false_or, decide_eq_false_iff_not, Decidable.not_not] at hdead
      simp only [IConn.delivered, IConn.rest, hm2, hm4 (congrArg some hdead), List.append_nil, List.take_length, hall]
    · simp only [hI.nopanic, Bool.false_or, decide_eq_false_iff_not]
      exact fun hp => hS.2 (congrArg some hp)
    · simp only [hd, Bool.false_or, decide_eq_false_iff_not, Decidable.not_not] at hdead
      exact hS.1 (by rw [hdead]; nofun)

theorem worldOK_init : WorldOK {} :=
  ⟨fun _ _ h => by (cases h), by decide, fun _ h => by (cases h)⟩

theorem step_worldOK (w : World) (st : Step) (h : WorldOK w) : WorldOK (w.step st) := by
  apply World.step_cases w st h
  · intro cfg l' hc
    obtain ⟨hlm, hck⟩ := configure_stamp hc
    refine ⟨configure_sorted hc, by show l'.lastMod < l'.clock; omega, fun ic hic => ?_⟩
    have h0 := h.conns ic hic
    have := h0.est
    exact { h0 with
      est := by show _ < l'.clock; omega
      ctx := fun hd => ⟨(h0.ctx hd).1, fun r sh _ hv =>
        absurd ((validShape_old l' ic.c (by show _ ≤ l'.lastMod; omega) r).symm.trans hv) nofun⟩ }
  · refine ⟨h.sorted, Nat.lt_succ_of_lt h.stamp, fun ic hic => ?_⟩
    rcases List.mem_append.1 hic with hic | hic
    · have h0 := h.conns ic hic
      exact { h0 with est := Nat.lt_succ_of_lt h0.est }
    · cases List.mem_singleton.1 hic
      exact {
        est := Nat.lt_succ_self _
        pre := ⟨[], rfl⟩
        all := fun _ => rfl
        pend := nofun
        nopanic := rfl
        ctx := fun _ => ctxGood_of_next_none _ _ h.sorted rfl }
  · intro i ic l' ic' hi hs
    obtain ⟨hsame, hI'⟩ := hs.inv h.sorted (h.conns ic (List.mem_of_getElem? hi))
    refine ⟨hsame.sorted h.sorted, hsame.1 ▸ hsame.2.1 ▸ h.stamp, fun x hx => ?_⟩
    rcases List.mem_or_eq_of_mem_set hx with hx | rfl
    · exact (h.conns x hx).of_sameShapes hsame
    · exact hI'

theorem run_worldOK : ∀ (steps : List Step) (w : World), WorldOK w → WorldOK (w.run steps)
  | [], _, h => h
  | s :: rest, w, h => run_worldOK rest (w.step s) (step_worldOK w s h)

/-- Connection `i`, accepted at `e`, with events `evs` and `dead` flag `d`, is older than the shapes. -/
def OldAt (w : World) (i e : Nat) (evs : List Ev) (d : Bool) : Prop :=
  ∃ ic, w.conns[i]? = some ic ∧ ic.c.established = e ∧ ic.events = evs ∧ ic.dead = d ∧ e ≤ w.l.lastMod

theorem ConnStep.old {l l' : Listener} {ic ic' : IConn} (h : ConnStep l ic l' ic') (hI : ConnInv l ic)
    (ho : ic.c.established ≤ l.lastMod) :
    l' = l ∧ ic'.c.established = ic.c.established ∧ ic'.events = ic.events ∧ ic'.dead = ic.dead := by
  cases h with
  | setCtx u rs hl f hc => exact ⟨rfl, (setContext_shape l ic.c u rs hl f).1, rfl, rfl⟩
  | «begin» b hc =>
    obtain ⟨⟨hw, he⟩, _, hev⟩ := beginWrite_spec ic.c b
    refine ⟨rfl, (congrArg Conn.established he :), ?_, rfl⟩
    simp only [IConn.events, (idle_guard hc).2, hev]
  | cont pd l' c' pd' hp R =>
    obtain ⟨h1, h2, _⟩ := R.stale (validShape_old l ic.c ho)
    exact ⟨h1, R.est, by simp only [IConn.events, hp, h2], rfl⟩
  | done pd l' c' pd' st hp R =>
    obtain ⟨h1, h2, h3⟩ := R.stale (validShape_old l ic.c ho)
    refine ⟨h1, R.est, by simp only [IConn.events, hp, h2, List.append_nil], ?_⟩
    rcases h3 (hI.ctx (hI.pend (by rw [hp]; rfl))).1 with h | h
    · cases h
    · cases h; simp

theorem step_oldAt (w : World) (st : Step) (hw : WorldOK w) (i e : Nat) (evs : List Ev) (d : Bool)
    (h : OldAt w i e evs d) : OldAt (w.step st) i e evs d := by
  have ⟨ic, hget, hest, hev, hdead, hle⟩ := h
  apply World.step_cases w st (P := fun w' => OldAt w' i e evs d) h
  · intro cfg l' hc
    refine ⟨ic, hget, hest, hev, hdead, Nat.le_trans hle ?_⟩
    rw [(configure_stamp hc).1]; exact Nat.le_of_lt hw.stamp
  · exact ⟨ic, by rw [List.getElem?_append_left (List.getElem_of_getElem? hget).1]; exact hget, hest, hev, hdead, hle⟩
  · intro j ic0 l' ic' hj hs
    have hI := hw.conns ic0 (List.mem_of_getElem? hj)
    by_cases hji : j = i
    · subst hji
      cases hj.symm.trans hget
      obtain ⟨h1, h2, h3, h4⟩ := hs.old hI (hest ▸ hle)
      exact ⟨ic', List.getElem?_set_self (List.getElem_of_getElem? hget).1, h2.trans hest, h3.trans hev, h4.trans hdead,
        h1 ▸ hle⟩
    · exact ⟨ic, by rw [List.getElem?_set_ne hji]; exact hget, hest, hev, hdead, (hs.inv hw.sorted hI).1.1 ▸ hle⟩

theorem run_oldAt : ∀ (steps : List Step) (w : World), WorldOK w → ∀ (i e : Nat) (evs : List Ev) (d : Bool),
    OldAt w i e evs d → OldAt (w.run steps) i e evs d
  | [], _, _, _, _, _, _, h => h
  | s :: rest, w, hw, i, e, evs, d, h =>
    run_oldAt rest (w.step s) (step_worldOK w s hw) i e evs d (step_oldAt w s hw i e evs d h)

theorem oldAt_after_configure (pre post : List Step) (cfg : RawConfig) (l' : Listener)
    (h : configure (World.run {} pre).l cfg = .ok l') (i : Nat) (ic : IConn)
    (hi : (World.run {} pre).conns[i]? = some ic) :
    OldAt (World.run ((World.run {} pre).step (.configure cfg)) post) i ic.c.established ic.events ic.dead := by
  have hw := run_worldOK pre {} worldOK_init
  refine run_oldAt post _ (step_worldOK _ _ hw) i _ _ _ ⟨ic, hi, rfl, rfl, rfl, ?_⟩
  show _ ≤ (configureSt _ cfg).1.lastMod
  rw [configureSt_ok h, (configure_stamp h).1]
  exact Nat.le_of_lt (hw.conns ic (List.mem_of_getElem? hi)).est

end Martian.Shape
