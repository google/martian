import Martian.Model.Shutdown
/-!
The steps of the C07 model as transition relations: `HStep` has one constructor per `some` of `hstep`, with guard
and updated handler as `hstep` writes them; `PcEdge` is its projection to program counters with every conditional
target resolved into an edge of its own; `Step` is `step`.
-/
namespace Martian.Shutdown

theorem Pc.readable_iff {p : Pc} : p.readable = true ↔ p = .idleRead ∨ p = .midHead := by
  cases p <;> simp [Pc.readable]

inductive HStep (closing mu returned : Bool) (h : Handler) : HL → Handler → Prop
  | spawn : h.pc = .accepted → HStep closing mu returned h .spawn { h with pc := .spawned }
  | add : h.pc = .spawned ∧ mu = false → HStep closing mu returned h .add { h with pc := .added }
  | checkClosing : h.pc = .added →
      HStep closing mu returned h .checkClosing
        { h with pc := if closing then .closingConn else .idleRead, entered := !closing }
  | firstByte : h.pc = .idleRead → HStep closing mu returned h .firstByte { h with pc := .midHead }
  | gotReq (rc : Bool) : h.pc.readable = true →
      HStep closing mu returned h (.gotReq rc)
        { h with pc := .haveReq, reqClose := rc, resClose := false, conn := .no, reqs := h.reqs + 1,
                 bodyOpen := false, servedAfterMark := h.servedAfterMark || anyMarked h.marks }
  | gotReqOpen (rc : Bool) : h.pc.readable = true →
      HStep closing mu returned h (.gotReqOpen rc)
        { h with pc := .haveReq, reqClose := rc, resClose := false, conn := .no, reqs := h.reqs + 1,
                 bodyOpen := true, servedAfterMark := h.servedAfterMark || anyMarked h.marks }
  | bodyDone (b : Bool) : h.pc = .drainBody b →
      HStep closing mu returned h .bodyDone
        { h with pc := if b then .closingConn else .idleRead, bodyOpen := false }
  | gotConnect : h.pc.readable = true →
      HStep closing mu returned h .gotConnect
        { h with pc := .haveReq, reqClose := false, resClose := false, conn := .pending, reqs := h.reqs + 1,
                 bodyOpen := false, servedAfterMark := h.servedAfterMark || anyMarked h.marks }
  | closingSeen : h.pc.readable = true ∧ closing = true →
      HStep closing mu returned h .closingSeen { h with pc := .closingConn }
  | readErr : h.pc.readable = true → HStep closing mu returned h .readErr { h with pc := .closingConn }
  | reqmodStart : h.pc = .haveReq →
      HStep closing mu returned h .reqmodStart
        { h with pc := .inReqmod, started := h.started + 1,
                 startedAfterReturn := h.startedAfterReturn || returned }
  | reqmodEnd : h.pc = .inReqmod → HStep closing mu returned h .reqmodEnd { h with pc := .postReqmod }
  | rtStart : h.pc = .postReqmod ∧ h.conn = .no →
      HStep closing mu returned h .rtStart { h with pc := .inRoundTrip }
  | hijack : h.pc = .inReqmod ∨ h.pc = .inResmod →
      HStep closing mu returned h .hijack { h with pc := .closingConn, hijacked := h.hijacked + 1 }
  | dialStart : h.pc = .postReqmod ∧ h.conn ≠ .no →
      HStep closing mu returned h .dialStart { h with pc := .dialing }
  | dialEnd (ok : Bool) : h.pc = .dialing →
      HStep closing mu returned h (.dialEnd ok)
        { h with pc := .postRoundTrip, conn := if ok then .dialOk else .dialFail }
  | mitmAccept : h.pc = .postReqmod ∧ h.conn ≠ .no →
      HStep closing mu returned h .mitmAccept { h with pc := .postRoundTrip, conn := .mitm }
  | cwriteStart : h.pc = .postResmod ∧ h.conn ≠ .no →
      HStep closing mu returned h .cwriteStart { h with pc := .cwriting }
  | cwriteEnd : h.pc = .cwriting →
      HStep closing mu returned h .cwriteEnd
        { h with pc := (match h.conn with
                        | .dialOk => .tunnel
                        | .mitm => .mitmPeek
                        | _ => .idleRead),
                 completed := h.completed + 1, cresps := h.cresps + 1 }
  | writeErr (b : Bool) : h.pc = .writing b →
      HStep closing mu returned h .writeErr { h with pc := .closingConn, aborted := h.aborted + 1 }
  | cwriteErr : h.pc = .cwriting →
      HStep closing mu returned h .writeErr { h with pc := .closingConn, aborted := h.aborted + 1 }
  | tunnelEnd : h.pc = .tunnel → HStep closing mu returned h .tunnelEnd { h with pc := .closingConn }
  | peeked (tls : Bool) : h.pc = .mitmPeek →
      HStep closing mu returned h (.peeked tls) { h with pc := if tls then .mitmHandshake else .idleRead }
  | handshakeEnd (r : Hs) : h.pc = .mitmHandshake →
      HStep closing mu returned h (.handshakeEnd r)
        { h with pc := (match r with | .h2 => .h2session | _ => .idleRead),
                 secure := (match r with | .h1 => true | _ => h.secure) }
  | h2Stop : h.pc = .h2session ∧ closing = true →
      HStep closing mu returned h .h2Stop { h with pc := .idleRead }
  | h2PeerEnd : h.pc = .h2session → HStep closing mu returned h .h2PeerEnd { h with pc := .idleRead }
  | rtEnd (rc : Bool) : h.pc = .inRoundTrip →
      HStep closing mu returned h (.rtEnd rc) { h with pc := .postRoundTrip, resClose := rc }
  | rtFail : h.pc = .inRoundTrip →
      HStep closing mu returned h .rtFail
        { h with pc := .postRoundTrip, resClose := false, rtFailed := h.rtFailed + 1 }
  | resmodStart : h.pc = .postRoundTrip → HStep closing mu returned h .resmodStart { h with pc := .inResmod }
  | resmodEnd : h.pc = .inResmod → HStep closing mu returned h .resmodEnd { h with pc := .postResmod }
  | decide : h.pc = .postResmod ∧ h.conn = .no →
      HStep closing mu returned h .decide
        { h with pc := .decided (h.reqClose || h.resClose || closing), obsAtDecision := closing }
  | writeStart (b : Bool) : h.pc = .decided b →
      HStep closing mu returned h .writeStart { h with pc := .writing b }
  | writeEnd (b : Bool) : h.pc = .writing b →
      HStep closing mu returned h .writeEnd
        { h with pc := if h.bodyOpen then .drainBody b else if b then .closingConn else .idleRead,
                 completed := h.completed + 1,
                 marks := h.marks ++ [(h.obsAtDecision, h.reqClose || h.resClose, b)] }
  | closeConn : h.pc = .closingConn → HStep closing mu returned h .closeConn { h with pc := .closed }
  | finish : h.pc = .closed → HStep closing mu returned h .finish { h with pc := .done }

theorem hstep_eq_some_iff {c mu r : Bool} {h h' : Handler} {l : HL} :
    hstep c mu r h l = some h' ↔ HStep c mu r h l h' := by
  constructor
  · intro hs
    cases l
    case bodyDone | writeStart | writeEnd =>
      simp only [hstep] at hs
      split at hs <;> cases hs <;> constructor <;> assumption
    case writeErr =>
      simp only [hstep] at hs
      split at hs <;> cases hs
      · exact .writeErr _ ‹_›
      · exact .cwriteErr ‹_›
    all_goals
      -- the other labels are a single `if guard then some _ else none`
      obtain ⟨hg, hs⟩ := Option.ite_none_right_eq_some.mp hs
      cases hs
      constructor; exact hg
  · intro st
    cases st
    case bodyDone hp | writeErr hp | cwriteErr hp | writeStart hp | writeEnd hp => simp only [hstep, hp]
    all_goals exact if_pos ‹_›

inductive PcEdge : Pc → HL → Pc → Prop
  | spawn : PcEdge .accepted .spawn .spawned
  | add : PcEdge .spawned .add .added
  | checkClosingOpen : PcEdge .added .checkClosing .idleRead
  | checkClosingShut : PcEdge .added .checkClosing .closingConn
  | firstByte : PcEdge .idleRead .firstByte .midHead
  | gotReqIdle (rc : Bool) : PcEdge .idleRead (.gotReq rc) .haveReq
  | gotReqMid (rc : Bool) : PcEdge .midHead (.gotReq rc) .haveReq
  | gotReqOpenIdle (rc : Bool) : PcEdge .idleRead (.gotReqOpen rc) .haveReq
  | gotReqOpenMid (rc : Bool) : PcEdge .midHead (.gotReqOpen rc) .haveReq
  | bodyDoneClose : PcEdge (.drainBody true) .bodyDone .closingConn
  | bodyDoneKeep : PcEdge (.drainBody false) .bodyDone .idleRead
  | gotConnectIdle : PcEdge .idleRead .gotConnect .haveReq
  | gotConnectMid : PcEdge .midHead .gotConnect .haveReq
  | closingSeenIdle : PcEdge .idleRead .closingSeen .closingConn
  | closingSeenMid : PcEdge .midHead .closingSeen .closingConn
  | readErrIdle : PcEdge .idleRead .readErr .closingConn
  | readErrMid : PcEdge .midHead .readErr .closingConn
  | reqmodStart : PcEdge .haveReq .reqmodStart .inReqmod
  | reqmodEnd : PcEdge .inReqmod .reqmodEnd .postReqmod
  | rtStart : PcEdge .postReqmod .rtStart .inRoundTrip
  | hijackReq : PcEdge .inReqmod .hijack .closingConn
  | hijackRes : PcEdge .inResmod .hijack .closingConn
  | dialStart : PcEdge .postReqmod .dialStart .dialing
  | dialEnd (ok : Bool) : PcEdge .dialing (.dialEnd ok) .postRoundTrip
  | mitmAccept : PcEdge .postReqmod .mitmAccept .postRoundTrip
  | cwriteStart : PcEdge .postResmod .cwriteStart .cwriting
  | cwriteEndTunnel : PcEdge .cwriting .cwriteEnd .tunnel
  | cwriteEndMitm : PcEdge .cwriting .cwriteEnd .mitmPeek
  | cwriteEndRefused : PcEdge .cwriting .cwriteEnd .idleRead
  | writeErr (b : Bool) : PcEdge (.writing b) .writeErr .closingConn
  | cwriteErr : PcEdge .cwriting .writeErr .closingConn
  | tunnelEnd : PcEdge .tunnel .tunnelEnd .closingConn
  | peekedTls : PcEdge .mitmPeek (.peeked true) .mitmHandshake
  | peekedPlain : PcEdge .mitmPeek (.peeked false) .idleRead
  | handshakeFail : PcEdge .mitmHandshake (.handshakeEnd .fail) .idleRead
  | handshakeH1 : PcEdge .mitmHandshake (.handshakeEnd .h1) .idleRead
  | handshakeH2 : PcEdge .mitmHandshake (.handshakeEnd .h2) .h2session
  | h2Stop : PcEdge .h2session .h2Stop .idleRead
  | h2PeerEnd : PcEdge .h2session .h2PeerEnd .idleRead
  | rtEnd (rc : Bool) : PcEdge .inRoundTrip (.rtEnd rc) .postRoundTrip
  | rtFail : PcEdge .inRoundTrip .rtFail .postRoundTrip
  | resmodStart : PcEdge .postRoundTrip .resmodStart .inResmod
  | resmodEnd : PcEdge .inResmod .resmodEnd .postResmod
  | decide (b : Bool) : PcEdge .postResmod .decide (.decided b)
  | writeStart (b : Bool) : PcEdge (.decided b) .writeStart (.writing b)
  | writeEndDrain (b : Bool) : PcEdge (.writing b) .writeEnd (.drainBody b)
  | writeEndClose : PcEdge (.writing true) .writeEnd .closingConn
  | writeEndKeep : PcEdge (.writing false) .writeEnd .idleRead
  | closeConn : PcEdge .closingConn .closeConn .closed
  | finish : PcEdge .closed .finish .done

theorem HStep.edge {c mu r : Bool} {h h' : Handler} {l : HL} (st : HStep c mu r h l h') :
    PcEdge h.pc l h'.pc := by
  cases st
  case gotReq hp | gotReqOpen hp | gotConnect hp | readErr hp =>
    rcases Pc.readable_iff.mp hp with hp | hp <;> rw [hp] <;> constructor
  case closingSeen hp => rcases Pc.readable_iff.mp hp.1 with hp | hp <;> rw [hp] <;> constructor
  case hijack hp => rcases hp with hp | hp <;> rw [hp] <;> constructor
  case add hp | rtStart hp | dialStart hp | mitmAccept hp | cwriteStart hp | h2Stop hp | decide hp =>
    rw [hp.1]; constructor
  case checkClosing hp => rw [hp]; cases c <;> constructor
  case bodyDone b hp => rw [hp]; cases b <;> constructor
  case cwriteEnd hp => rw [hp]; cases h.conn <;> constructor
  case peeked tls hp => rw [hp]; cases tls <;> constructor
  case handshakeEnd r hp => rw [hp]; cases r <;> constructor
  case writeEnd b hp => rw [hp]; cases h.bodyOpen <;> cases b <;> constructor
  all_goals (rename_i hp; rw [hp]; constructor)

theorem HStep.edge_from {c mu r : Bool} {h h' : Handler} {l : HL} {p : Pc} (st : HStep c mu r h l h')
    (hp : h.pc = p) : ∃ p', PcEdge p l p' :=
  ⟨_, hp ▸ st.edge⟩

inductive Step (s : Sys) : Label → Sys → Prop
  | serveCheck : s.acc = .top →
      Step s .serveCheck { s with acc := if s.closing then .stopped else .accepting }
  | accept : s.acc = .accepting →
      Step s .accept
        { s with acc := .holding s.hs.length, hs := s.hs ++ [{ pc := .accepted, late := s.closing }] }
  | h {k : Nat} {l : HL} {h h' : Handler} : s.hs[k]? = some h → (l = .spawn → s.acc = .holding k) →
      HStep s.closing s.cpc.holdsMu (s.cpc = .returned) h l h' →
      Step s (.h k l)
        { s with hs := s.hs.set k h', wg := l.wgAfter s.wg, acc := if l = .spawn then .top else s.acc }
  | closeCall : s.cpc = .idle → Step s .closeCall { s with cpc := .called }
  | closeChan : s.cpc = .called → Step s .closeChan { s with cpc := .chanClosed, closing := true }
  | lock : s.cpc = .chanClosed → Step s .lock { s with cpc := .locked }
  | waitZero : s.cpc = .locked ∧ s.wg = 0 → Step s .waitZero { s with cpc := .zeroSeen }
  | ret : s.cpc = .zeroSeen →
      Step s .ret { s with cpc := .returned, returnedEarly := s.hs.any (fun h => h.pc != .done) }
  | closeCall2 : Step s .closeCall2 { s with extra := s.extra + 1, calls2 := s.calls2 + 1 }
  | closeChan2 : 0 < s.extra ∧ s.closing = true →
      Step s .closeChan2 { s with extra := s.extra - 1, panics := s.panics + 1 }

theorem step_eq_some_iff {s s' : Sys} {l : Label} : step s l = some s' ↔ Step s l s' := by
  constructor
  · intro hs
    cases l <;> simp only [step] at hs
    case h k l =>
      split at hs
      · cases hs
      · split at hs
        · cases hs
        · rename_i hsp
          split at hs <;> cases hs
          exact .h ‹_› (fun e => Decidable.not_not.mp fun hne => hsp ⟨e, hne⟩) (hstep_eq_some_iff.mp ‹_›)
    case closeCall2 => cases hs; exact .closeCall2
    all_goals split at hs <;> cases hs <;> constructor <;> assumption
  · intro st
    cases st <;> simp only [step]
    case h hk hsp st =>
      rw [hk]; simp only [hstep_eq_some_iff.mpr st]
      exact if_neg fun x => x.2 (hsp x.1)
    all_goals exact if_pos ‹_›

end Martian.Shutdown
