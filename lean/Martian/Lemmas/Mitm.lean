import Martian.Lemmas.MitmHost
/-!
Helper lemmas for C06: second-truncation arithmetic, the port-stripped host has
no `[`, a freshly issued certificate matches its host, the three ways through `Config.cert`
(`certS_cases`), the cache invariant and its preservation by `cert`, by histories and by the two-step
concurrent semantics.
-/
namespace Martian.Mitm
open Martian Martian.Go

theorem floorSec_le (x : Int) : floorSec x ≤ x := by
  unfold floorSec
  have := Int.emod_nonneg x (b := 1000) (by decide)
  omega

theorem lt_floorSec_add (x : Int) : x < floorSec x + 1000 := by
  unfold floorSec
  have := Int.emod_lt_of_pos x (b := 1000) (by decide)
  omega

theorem inWindow_issue (cfg : Config) (host : Bytes) (now : Int) (n : Nat)
    (hv : 1000 ≤ cfg.validity) : inWindow (issue cfg host now n) now = true := by
  have h1 := floorSec_le (now - cfg.validity)
  have h2 := lt_floorSec_add (now + cfg.validity)
  have h3 : floorSec (now - cfg.validity) ≤ now := by omega
  have h4 : now ≤ floorSec (now + cfg.validity) := by omega
  simp [inWindow, issue, h3, h4]

theorem goVerify_of_expired {c : Cert} {host : Bytes} {now : Int} (h : c.notAfter < now) :
    goVerify c host now = false := by
  have : ¬ now ≤ c.notAfter := by omega
  simp [goVerify, inWindow, this]

theorem splitHostPort_no_lbr {h a p : Bytes} (hs : splitHostPort h = some (a, p)) : lbr ∉ a := by
  unfold splitHostPort at hs
  cases hi : lastIndexOf h colon with
  | none => rw [hi] at hs; cases hs
  | some i =>
    rw [hi] at hs
    -- every test but the one for a leading `[` ends in `none`, so success is a conjunction
    by_cases hb : h.head? = some lbr
    · cases he : indexOf h rbr with
      | none => simp only [he, if_pos hb] at hs; cases hs
      | some e =>
        simp only [he, if_pos hb, Option.ite_none_left_eq_some, Option.ite_none_right_eq_some, Option.some.injEq,
          Prod.mk.injEq] at hs
        obtain ⟨_, _, hno, _, rfl, _⟩ := hs
        exact fun hm => hno (List.contains_iff_mem.mpr (List.mem_of_mem_take hm))
    · simp only [if_neg hb, Option.ite_none_left_eq_some, Option.some.injEq, Prod.mk.injEq] at hs
      obtain ⟨_, hno, _, rfl, _⟩ := hs
      exact fun hm => hno (List.contains_iff_mem.mpr (List.mem_of_mem_take hm))

/-- Hosts for which `Config.cert` can be expected to produce a verifying certificate: after port
stripping the host is not empty, not ".", and does not start with `[`. Exactly the spellings
`[v6]` **without** a port (and garbage starting with `[`) are excluded; see `normalise_portForm`. -/
def Servable (hostname : Bytes) : Prop :=
  normalise hostname ≠ [] ∧ normalise hostname ≠ [dot] ∧ (normalise hostname).head? ≠ some lbr

instance (h : Bytes) : Decidable (Servable h) := by unfold Servable; exact inferInstance

/-- Every spelling with a port (`host:port`, `[v6]:port`) is stripped to a host without `[`. -/
theorem normalise_portForm {h a p : Bytes} (hs : splitHostPort h = some (a, p)) :
    normalise h = a ∧ (normalise h).head? ≠ some lbr := by
  have hn : normalise h = a := by simp [normalise, hs]
  exact ⟨hn, hn ▸ mt List.mem_of_mem_head? (splitHostPort_no_lbr hs)⟩

theorem servable_portForm {h a p : Bytes} (hs : splitHostPort h = some (a, p)) (h1 : a ≠ []) (h2 : a ≠ [dot]) :
    Servable h := by
  obtain ⟨hn, hb⟩ := normalise_portForm hs
  exact ⟨hn ▸ h1, hn ▸ h2, hb⟩

theorem normalise_bare {h : Bytes} (hs : splitHostPort h = none) : normalise h = h := by
  simp [normalise, hs]

theorem stripBrackets_of_head {h : Bytes} (hh : h.head? ≠ some lbr) : stripBrackets h = h := by
  unfold stripBrackets
  split
  · rename_i hc
    simp only [Bool.and_eq_true, beq_iff_eq] at hc
    exact absurd hc.1.2 hh
  · rfl

theorem sanFor_of_none {k : Bytes} (hk : parseIP k = none) : sanFor k = ([k], []) := by
  simp [sanFor, hk]

theorem sanFor_of_some {k : Bytes} {ip : IP} (hk : parseIP k = some ip) : sanFor k = ([], [ip]) := by
  simp [sanFor, hk]

theorem verifyHostname_of_san {c : Cert} {host : Bytes} (hsan : (c.names, c.ips) = sanFor host)
    (h1 : host ≠ []) (h2 : host ≠ [dot]) (h3 : host.head? ≠ some lbr) :
    verifyHostname c host = true := by
  unfold verifyHostname
  rw [stripBrackets_of_head h3]
  cases hp : parseIP host with
  | some ip => simp [(Prod.mk.inj (hsan.trans (sanFor_of_some hp))).2]
  | none => simp [(Prod.mk.inj (hsan.trans (sanFor_of_none hp))).1, matchDNS_self h1 h2]

theorem verifiesFor_iff {c : Cert} {host : Bytes} {now : Int} :
    verifiesFor c host now = true ↔
      host ≠ [] ∧ verifyHostname c host = true ∧ inWindow c now = true ∧ c.signedByCA = true := by
  cases host <;> simp [verifiesFor, and_assoc]

/-- `hs` is `Servable hostname` when `host` is `normalise hostname`. -/
theorem verifiesFor_issue (cfg : Config) {host : Bytes} (now : Int) (n : Nat)
    (hv : 1000 ≤ cfg.validity) (hs : host ≠ [] ∧ host ≠ [dot] ∧ host.head? ≠ some lbr) :
    verifiesFor (issue cfg host now n) host now = true :=
  verifiesFor_iff.mpr ⟨hs.1, verifyHostname_of_san (by simp [issue]) hs.1 hs.2.1 hs.2.2, inWindow_issue cfg _ now n hv, rfl⟩

theorem verifiesFor_of_goVerify {c : Cert} {host : Bytes} {now : Int}
    (h1 : host ≠ []) (hg : goVerify c host now = true) : verifiesFor c host now = true := by
  cases host with
  | nil => exact absurd rfl h1
  | cons x xs => simpa [goVerify, verifiesFor] using hg

theorem mem_of_lookup {k : Bytes} {c : Cert} {l : Cache} (h : l.lookup k = some c) : (k, c) ∈ l := by
  obtain ⟨l₁, l₂, rfl, _⟩ := List.lookup_eq_some_iff.mp h
  simp

/-- A well-formed certificate for cache key `k`: the SAN is the one the template builds for `k`,
it is signed by the CA and backed by the proxy's key. -/
def GoodFor (k : Bytes) (c : Cert) : Prop :=
  (c.names, c.ips) = sanFor k ∧ c.signedByCA = true ∧ c.keyHeld = true

/-- Every entry is keyed by the host it was issued for, serials are below `next`. -/
def CacheInv (s : State) : Prop :=
  ∀ k c, (k, c) ∈ s.cache → GoodFor k c ∧ c.serial < s.next

theorem verifyHostname_dns_key {k : Bytes} {c : Cert} (hg : GoodFor k c) (hk : parseIP k = none) (h : Bytes) :
    verifyHostname c h = true ↔ parseIP (stripBrackets h) = none ∧ matchDNS k (toLower h) = true := by
  have hs := Prod.mk.inj (hg.1.trans (sanFor_of_none hk))
  unfold verifyHostname
  cases hph : parseIP (stripBrackets h) with
  | some a => simp [hs.2]
  | none => simp [hs.1]

theorem goodFor_issue (cfg : Config) (host : Bytes) (now : Int) (n : Nat) : GoodFor host (issue cfg host now n) := by
  simp [GoodFor, issue]

theorem cacheInv_init : CacheInv {} := by
  intro k c h; simp at h

theorem cacheInv_store {s : State} {cfg : Config} (host : Bytes) (now : Int) (hi : CacheInv s) :
    CacheInv (store s host (issue cfg host now s.next)) := by
  intro k c hm
  simp only [store, List.mem_cons, Prod.mk.injEq] at hm
  cases hm with
  | inl h =>
    obtain ⟨rfl, rfl⟩ := h
    exact ⟨goodFor_issue cfg k now s.next, by simp [issue, store]⟩
  | inr h =>
    have := hi k c h
    exact ⟨this.1, by simp only [store]; omega⟩

theorem cert_eq_certS (cfg : Config) (hostname : Bytes) (now : Int) (s : State) :
    cert cfg hostname now s = certS cfg hostname now true s := by
  unfold certS cert certFor
  by_cases he : (normalise hostname).isEmpty = true
  · simp [he]
  · cases hl : s.cache.lookup (normalise hostname) <;> simp [he]

/-- The three ways a call for `hostname` at `now` in state `s` can end in `r`: refused, a cached certificate
that verifies, or `onMiss` (no entry, or one that does not verify). -/
def CertCases (hostname : Bytes) (now : Int) (s : State) (r onMiss : State × Outcome) : Prop :=
  (normalise hostname = [] ∧ r = (s, .refused)) ∨
  (normalise hostname ≠ [] ∧ ∃ c, s.cache.lookup (normalise hostname) = some c ∧
    goVerify c (normalise hostname) now = true ∧ r = (s, .served c false)) ∨
  (normalise hostname ≠ [] ∧
    (∀ c, s.cache.lookup (normalise hostname) = some c → goVerify c (normalise hostname) now = false) ∧ r = onMiss)

theorem certS_cases (cfg : Config) (hostname : Bytes) (now : Int) (ok : Bool) (s : State) :
    CertCases hostname now s (certS cfg hostname now ok s)
      (if ok then issueAndStore cfg (normalise hostname) now s else (s, .refused)) := by
  unfold CertCases certS
  generalize normalise hostname = k
  cases k with
  | nil => exact .inl ⟨rfl, rfl⟩
  | cons x xs =>
    cases hl : s.cache.lookup (x :: xs) with
    | none => exact .inr (.inr ⟨nofun, nofun, by simp [hl]⟩)
    | some c =>
      cases hg : goVerify c (x :: xs) now with
      | true => exact .inr (.inl ⟨nofun, c, rfl, hg, by simp [hl, hg]⟩)
      | false => exact .inr (.inr ⟨nofun, fun _ e => Option.some.inj e ▸ hg, by simp [hl, hg]⟩)

theorem cert_cases (cfg : Config) (hostname : Bytes) (now : Int) (s : State) :
    CertCases hostname now s (cert cfg hostname now s) (issueAndStore cfg (normalise hostname) now s) := by
  rw [cert_eq_certS]
  exact certS_cases cfg hostname now true s

theorem serve_eq_cert (cfg : Config) (r : Req) (s : State) : serve cfg r s = cert cfg r.host r.time s := by
  cases r with
  | tls sni t =>
    cases sni with
    | nil => rfl  -- no SNI: the empty host, which `cert` refuses as well
    | cons _ _ => rfl
  | forHost fb sni t => rfl

theorem cacheInv_cert {s : State} (cfg : Config) (hostname : Bytes) (now : Int) (hi : CacheInv s) :
    CacheInv (cert cfg hostname now s).1 := by
  rcases cert_cases cfg hostname now s with ⟨_, e⟩ | ⟨_, _, _, _, e⟩ | ⟨_, _, e⟩ <;> rw [e]
  · exact hi
  · exact hi
  · exact cacheInv_store _ now hi

theorem cacheInv_run (cfg : Config) : ∀ (rs : List Req) {s : State}, CacheInv s → CacheInv (run cfg rs s)
  | [], _, hi => hi
  | r :: rs, _, hi => cacheInv_run cfg rs (serve_eq_cert cfg r _ ▸ cacheInv_cert cfg _ _ hi)

theorem entries_run {cfg : Config} {P : Bytes → Cert → Prop} (hP : ∀ k now n, P k (issue cfg k now n)) :
    ∀ (rs : List Req) {s : State}, (∀ k c, (k, c) ∈ s.cache → P k c) →
      ∀ k c, (k, c) ∈ (run cfg rs s).cache → P k c
  | [], _, hs => hs
  | r :: rs, s, hs => by
    refine entries_run hP rs ?_
    rw [serve_eq_cert]
    rcases cert_cases cfg r.host r.time s with ⟨_, e⟩ | ⟨_, _, _, _, e⟩ | ⟨_, _, e⟩
    · rw [e]; exact hs
    · rw [e]; exact hs
    · rw [e]
      intro k c hm
      rcases List.mem_cons.mp hm with e' | hm
      · cases e'; exact hP ..
      · exact hs k c hm

theorem certFor_never_refuses (cfg : Config) (host : Bytes) (now : Int) (s : State) :
    (certFor cfg host now s).2 ≠ .refused := by
  unfold certFor
  split
  · split <;> simp [issueAndStore]
  · simp [issueAndStore]

/-- What may be said of requester `hostname` at each program point. -/
def PcGood (cfg : Config) (hostname : Bytes) : Pc → Prop
  | .start h => h = hostname
  | .issuing k => k = normalise hostname ∧ k ≠ []
  | .done .refused _ => normalise hostname = []
  | .done (.served c _) t => normalise hostname ≠ [] ∧ GoodFor (normalise hostname) c ∧
      (1000 ≤ cfg.validity → Servable hostname → verifiesFor c (normalise hostname) t = true)

def SysInv (cfg : Config) (hosts : List Bytes) (sys : Sys) : Prop :=
  CacheInv sys.st ∧ ∀ (i : Nat) (pc : Pc), sys.threads[i]? = some pc → ∃ h, hosts[i]? = some h ∧ PcGood cfg h pc

theorem getElem?_set_rel {α β : Type} {R : β → α → Prop} {hosts : List β} {l : List α} {i : Nat} {old new : α}
    (hall : ∀ (j : Nat) (x : α), l[j]? = some x → ∃ h, hosts[j]? = some h ∧ R h x)
    (hi : l[i]? = some old) (hstep : ∀ h, R h old → R h new) :
    ∀ (j : Nat) (x : α), (l.set i new)[j]? = some x → ∃ h, hosts[j]? = some h ∧ R h x := by
  intro j x hj
  by_cases hij : i = j
  · subst hij
    obtain ⟨hlt, _⟩ := List.getElem?_eq_some_iff.mp hi
    rw [List.getElem?_set_self hlt] at hj
    cases hj
    exact (hall i old hi).imp fun h hh => ⟨hh.1, hstep h hh.2⟩
  · rw [List.getElem?_set_ne hij] at hj
    exact hall j x hj

theorem getElem?_map_rel {α β : Type} {R : β → α → Prop} {f : β → α} (hf : ∀ h, R h (f h)) (hosts : List β) :
    ∀ (j : Nat) (x : α), (hosts.map f)[j]? = some x → ∃ h, hosts[j]? = some h ∧ R h x := by
  intro j x hx
  simp only [List.getElem?_map, Option.map_eq_some_iff] at hx
  obtain ⟨h, hh, rfl⟩ := hx
  exact ⟨h, hh, hf h⟩

theorem sysInv_step {cfg : Config} {hosts : List Bytes} {sys : Sys} (i : Nat) (now : Int)
    (hi : SysInv cfg hosts sys) : SysInv cfg hosts (stepThread cfg sys i now) := by
  obtain ⟨hc, ht⟩ := hi
  fun_cases stepThread cfg sys i now with
  | case1 | case7 => exact ⟨hc, ht⟩   -- no such thread, or it has returned
  | case2 hostname hti _ hem =>         -- `.start`, the normalised name is empty: refused
    refine ⟨hc, getElem?_set_rel ht hti fun h hg => ?_⟩
    cases (hg : hostname = h)
    simpa [PcGood] using hem
  | case3 hostname hti _ hne c hl hv =>  -- `.start`, hit that verifies: served
    refine ⟨hc, getElem?_set_rel ht hti fun h hg => ?_⟩
    cases (hg : hostname = h)
    have hne' := mt List.isEmpty_iff.mpr hne
    exact ⟨hne', (hc _ _ (mem_of_lookup hl)).1, fun _ _ => verifiesFor_of_goVerify hne' hv⟩
  | case4 hostname hti _ hne | case5 hostname hti _ hne =>  -- `.start`, stale hit or miss: goes on to issue
    refine ⟨hc, getElem?_set_rel ht hti fun h hg => ?_⟩
    cases (hg : hostname = h)
    exact ⟨rfl, mt List.isEmpty_iff.mpr hne⟩
  | case6 k hti =>                       -- `.issuing`: issue, store, served
    refine ⟨cacheInv_store _ now hc, getElem?_set_rel ht hti fun h hg => ?_⟩
    obtain ⟨rfl, hkne⟩ := hg
    exact ⟨hkne, goodFor_issue .., verifiesFor_issue cfg now _⟩

theorem sysInv_run {cfg : Config} {hosts : List Bytes} :
    ∀ (sched : List (Nat × Int)) {sys : Sys}, SysInv cfg hosts sys → SysInv cfg hosts (runSched cfg sched sys)
  | [], _, hi => hi
  | (i, t) :: rest, _, hi => sysInv_run rest (sysInv_step i t hi)

theorem sysInv_start {cfg : Config} {hosts : List Bytes} {s : State} (hc : CacheInv s) :
    SysInv cfg hosts { st := s, threads := hosts.map Pc.start } :=
  ⟨hc, getElem?_map_rel (R := PcGood cfg) (f := Pc.start) (fun _ => rfl) hosts⟩

end Martian.Mitm
