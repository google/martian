import Martian.Model.Tunnel
/-! Lemmas about the relay loops and pumps of `Model/Tunnel.lean` (core Lean only). -/
namespace Martian.Tunnel
open Martian

theorem chunks_flatten (k : Nat) (bs : Bytes) : (chunks k bs).flatten = bs := by
  fun_induction chunks k bs with
  | case1 bs h => cases bs <;> simp_all
  | case2 bs h ih => simp [ih]

theorem chunks_nonempty (k : Nat) (bs : Bytes) : ∀ c ∈ chunks k bs, c ≠ [] := by
  fun_induction chunks k bs with
  | case1 bs h => simp
  | case2 bs h ih =>
    refine List.forall_mem_cons.2 ⟨?_, ih⟩
    cases bs with
    | nil => simp at h
    | cons b t => simp

@[simp] theorem bytesOf_append (a b : List Act) : bytesOf (a ++ b) = bytesOf a ++ bytesOf b := by
  induction a with
  | nil => simp [bytesOf]
  | cons x xs ih => cases x <;> simp [bytesOf, ih]

@[simp] theorem bytesOf_writes (cs : List Bytes) : bytesOf (cs.map .write) = cs.flatten := by
  induction cs <;> simp [bytesOf, *]

/-- The write log of a relay loop: what each event makes it write, up to and including the event
that ends it. -/
def writesOf (l : Loop) : List Ev → List Bytes
  | [] => []
  | e :: es =>
    let ws := chunks (l.pred e.accepted.length) e.accepted
    match e.ending with
    | none => ws ++ writesOf l es
    | some _ => ws

theorem writesOf_flatten (l : Loop) (evs : List Ev) : (writesOf l evs).flatten = sentBy evs := by
  induction evs with
  | nil => simp [writesOf, sentBy]
  | cons e es ih =>
    cases h : e.ending <;> simp [writesOf, sentBy, h, chunks_flatten, ih]

theorem writesOf_nonempty (l : Loop) (evs : List Ev) : ∀ c ∈ writesOf l evs, c ≠ [] := by
  fun_induction writesOf l evs
  case case1 => nofun
  case case2 ih => exact List.forall_mem_append.2 ⟨chunks_nonempty _ _, ih⟩
  case case3 => exact chunks_nonempty _ _

theorem closes_cons (e : Ev) (es : List Ev) :
    closes (e :: es) = (e.ending.isSome || closes es) := by
  cases h : e.ending <;> simp [closes, endOf, h]

theorem closes_append (a b : List Ev) : closes (a ++ b) = (closes a || closes b) := by
  induction a with
  | nil => rfl
  | cons e es ih => simp [closes_cons, ih, Bool.or_assoc]

theorem closes_iff_exists_ending (evs : List Ev) :
    closes evs = true ↔ ∃ e ∈ evs, e.ending.isSome = true := by
  induction evs with
  | nil => simp [closes, endOf]
  | cons e es ih => simp [closes_cons, ih]

theorem mem_eof_closes (evs : List Ev) (h : Ev.eof ∈ evs) : closes evs = true :=
  (closes_iff_exists_ending evs).2 ⟨.eof, h, rfl⟩

theorem mem_rerr_closes (evs : List Ev) (h : Ev.rerr ∈ evs) : closes evs = true :=
  (closes_iff_exists_ending evs).2 ⟨.rerr, h, rfl⟩

theorem closes_iff_mem_eof_of_clean (evs : List Ev)
    (hc : ∀ e ∈ evs, e.ending = none ∨ e = .eof) : closes evs = true ↔ Ev.eof ∈ evs := by
  constructor
  · intro h
    obtain ⟨e, he, hs⟩ := (closes_iff_exists_ending evs).1 h
    rcases hc e he with h0 | h0
    · simp [h0] at hs
    · exact h0 ▸ he
  · exact mem_eof_closes evs

theorem runFrom_finished (l : Loop) (p : Pump) (h : p.finished = true) (evs : List Ev) :
    Pump.runFrom l p evs = (p, []) := by
  induction evs <;> simp [Pump.runFrom, Pump.step, *]

/-- What a pump does after its copy has ended: `closeWrite(dst)`, once. -/
def closeActs : Bool → List Act
  | true => [.closeWrite]
  | false => []

/-- Shape of everything a running pump does: the writes, then — iff something ended the copy,
whatever it was — one `closeWrite`; and the pump records that reason. -/
theorem runFrom_shape (l : Loop) (held : Bytes) (evs : List Ev) :
    Pump.runFrom l ⟨held, none⟩ evs =
      (⟨held, endOf evs⟩, (writesOf l evs).map .write ++ closeActs (closes evs)) := by
  induction evs with
  | nil => simp [Pump.runFrom, closes, endOf, writesOf, closeActs]
  | cons e es ih =>
    cases h : e.ending with
    | none =>
      simp [Pump.runFrom, Pump.step, Pump.finished, h, ih, closes, endOf, writesOf]
    | some r =>
      simp only [Pump.runFrom, Pump.step, Pump.finished, h, closes, endOf, writesOf, Option.isSome]
      rw [runFrom_finished l _ (by simp [Pump.finished])]
      simp [closeActs]

theorem run_shape (l : Loop) (early : Bytes) (evs : List Ev) :
    Pump.run l (.fresh early) evs =
      (⟨[], endOf evs⟩, optWrite early ++ ((writesOf l evs).map .write ++ closeActs (closes evs))) := by
  unfold Pump.run Pump.start Pump.fresh
  cases early <;> simp [runFrom_shape, optWrite]

@[simp] theorem bytesOf_optWrite (b : Bytes) : bytesOf (optWrite b) = b := by
  cases b <;> simp [bytesOf, optWrite]

@[simp] theorem bytesOf_closeActs (c : Bool) : bytesOf (closeActs c) = [] := by
  cases c <;> simp [bytesOf, closeActs]

@[simp] theorem bytesOf_releaseActs (r : Bool) (k : CloseKind) : bytesOf (releaseActs r k) = [] := by
  cases r <;> simp [bytesOf, releaseActs]

theorem run_bytes (l : Loop) (early : Bytes) (evs : List Ev) :
    bytesOf (Pump.run l (.fresh early) evs).2 = early ++ sentBy evs := by
  simp [run_shape, writesOf_flatten]

theorem run_finished (l : Loop) (early : Bytes) (evs : List Ev) :
    (Pump.run l (.fresh early) evs).1.finished = closes evs := by
  simp [run_shape, Pump.finished, closes]

theorem run_of_closes (l : Loop) (held : Bytes) (evs : List Ev) (h : closes evs = true) :
    ∃ ws : List Bytes, (Pump.run l (.fresh held) evs).2 = ws.map .write ++ [.closeWrite] ∧
      ws.flatten = held ++ sentBy evs := by
  obtain ⟨c, hc, hf⟩ : ∃ c : List Bytes, optWrite held = c.map .write ∧ c.flatten = held := by
    cases held with
    | nil => exact ⟨[], rfl, rfl⟩
    | cons b bs => exact ⟨[b :: bs], rfl, List.append_nil _⟩
  exact ⟨c ++ writesOf l evs, by simp [run_shape, hc, h, closeActs], by simp [hf, writesOf_flatten]⟩

theorem sentBy_append (a b : List Ev) :
    sentBy (a ++ b) = sentBy a ++ if closes a then [] else sentBy b := by
  induction a with
  | nil => rfl
  | cons e es ih => cases he : e.ending <;> simp [sentBy, closes_cons, he, ih]

theorem runFrom_append (l : Loop) (p : Pump) (a b : List Ev) :
    Pump.runFrom l p (a ++ b) =
      ((Pump.runFrom l (Pump.runFrom l p a).1 b).1,
        (Pump.runFrom l p a).2 ++ (Pump.runFrom l (Pump.runFrom l p a).1 b).2) := by
  induction a generalizing p <;> simp [Pump.runFrom, *]

theorem run_append_of_closed (l : Loop) (early : Bytes) (a b : List Ev) (h : closes a = true) :
    Pump.run l (.fresh early) (a ++ b) = Pump.run l (.fresh early) a := by
  have hfin := (run_finished l early a).trans h
  simp only [Pump.run] at hfin ⊢
  rw [runFrom_append, runFrom_finished l _ hfin, List.append_nil]

@[simp] theorem finalClose_append_writes (ws : List Bytes) (as : List Act) :
    finalClose (ws.map Act.write ++ as) = finalClose as := by
  induction ws <;> simp [finalClose, *]

@[simp] theorem finalClose_optWrite (b : Bytes) (as : List Act) :
    finalClose (optWrite b ++ as) = finalClose as := by
  cases b <;> simp [optWrite, finalClose]

@[simp] theorem finalClose_closeActs (c : Bool) (as : List Act) :
    finalClose (closeActs c ++ as) = finalClose as := by
  cases c <;> simp [closeActs, finalClose]

@[simp] theorem finalClose_releaseActs (r : Bool) (k : CloseKind) :
    finalClose (releaseActs r k) = if r then some k else none := by
  cases r <;> simp [releaseActs, finalClose]

@[simp] theorem eofSeen_append (a b : List Act) : eofSeen (a ++ b) = (eofSeen a || eofSeen b) := by
  simp [eofSeen]

@[simp] theorem eofSeen_writes (ws : List Bytes) : eofSeen (ws.map Act.write) = false := by
  induction ws <;> simp [eofSeen, *]

@[simp] theorem eofSeen_optWrite (b : Bytes) : eofSeen (optWrite b) = false := by
  cases b <;> simp [optWrite, eofSeen]

@[simp] theorem eofSeen_closeActs (c : Bool) : eofSeen (closeActs c) = c := by
  cases c <;> simp [closeActs, eofSeen]

@[simp] theorem eofSeen_releaseActs (r : Bool) (k : CloseKind) : eofSeen (releaseActs r k) = false := by
  cases r <;> simp [releaseActs, eofSeen]

/-- Both write logs of `handleConnectWith` have this shape: the bytes the handler already holds for
that side, the writes of the pump feeding it, one `closeWrite` iff that pump has ended, the final
`Close` iff both have. -/
def sideLog (pre : Bytes) (l : Loop) (evs : List Ev) (rel : Bool) (k : CloseKind) : List Act :=
  optWrite pre ++ ((writesOf l evs).map .write ++ closeActs (closes evs)) ++ releaseActs rel k

theorem handleConnectWith_answered (linger : CloseKind) (cfg : Cfg) (st : Nat) (ahead early : Bytes)
    (up down : List Ev) :
    handleConnectWith linger cfg (.answered st ahead) early up down =
      { status := st, warning := false, released := closes up && closes down,
        toClient := sideLog ahead (ioCopyLoop cfg.client cfg.target) down (closes up && closes down) .graceful,
        toTarget := sideLog early (readerWriteToLoop cfg.target cfg.client) up (closes up && closes down) linger } := by
  simp [handleConnectWith, upPump, downPump, run_shape, Pump.finished, closes, sideLog, optWrite]

section
variable (pre : Bytes) (l : Loop) (evs : List Ev) (rel : Bool) (k : CloseKind)

@[simp] theorem bytesOf_sideLog : bytesOf (sideLog pre l evs rel k) = pre ++ sentBy evs := by
  simp [sideLog, writesOf_flatten]

@[simp] theorem eofSeen_sideLog : eofSeen (sideLog pre l evs rel k) = closes evs := by
  simp [sideLog]

@[simp] theorem finalClose_sideLog : finalClose (sideLog pre l evs rel k) = if rel then some k else none := by
  simp [sideLog]

theorem sideLog_of_closes (h : closes evs = true) :
    ∃ ws : List Bytes, sideLog pre l evs rel k = ws.map .write ++ [.closeWrite] ++ releaseActs rel k ∧
      ws.flatten = pre ++ sentBy evs := by
  obtain ⟨ws, hw, hf⟩ := run_of_closes l pre evs h
  exact ⟨ws, by rw [← hw, run_shape]; rfl, hf⟩

theorem receive_sideLog_graceful (lost : Nat) (h : rel = true → closes evs = true) :
    receive lost (sideLog pre l evs rel .graceful) =
      ⟨pre ++ sentBy evs, if closes evs then .eof else .stillOpen⟩ := by
  cases rel with
  | false => simp [receive]
  | true => simp [receive, h rfl]

end

end Martian.Tunnel
