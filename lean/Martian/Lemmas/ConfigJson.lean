import Martian.Model.ConfigJson
/-!
Lemmas about the JSON layer of C12 (`Model/ConfigJson.lean`).
-/
namespace Martian.Config
open Martian Martian.Go

def inInt64 (p : Int) : Prop := minInt64 ≤ p ∧ p ≤ maxInt64

theorem int64Of_renderInt (i : Int) (h : inInt64 i) :
    int64Of ⟨decide (i < 0), i.natAbs, false⟩ = some i := by
  unfold int64Of
  by_cases hi : i < 0
  · have : (-(i.natAbs : Int)) = i := by omega
    simp [hi, this, h.1, h.2]
  · have : ((i.natAbs : Nat) : Int) = i := by omega
    simp [hi, this, h.1, h.2]

theorem decSlice_arr {α : Type} (elem : α → DV → Option α) (z : α) (old : Sl α) {xs : List DV} {ys : List α}
    (h : decElems elem z xs (old.vis ++ old.stale) = some ys) :
    ∃ st, decSlice elem z old (.arr xs) = some ⟨false, ys, st⟩ := by
  cases xs with
  | nil => cases h; exact ⟨[], rfl⟩
  | cons x xs => exact ⟨_, by simp only [decSlice, h]; rfl⟩

theorem decElems_raw (z : DV) (xs mem : List DV) : decElems decRaw z xs mem = some xs := by
  fun_induction decElems decRaw z xs mem <;> simp_all [decRaw]

theorem decSlice_raw_arr (z : DV) (old : Sl DV) (xs : List DV) :
    ∃ st, decSlice decRaw z old (.arr xs) = some ⟨false, xs, st⟩ :=
  decSlice_arr decRaw z old (decElems_raw z xs _)

theorem decElems_strings (ss mem : List Bytes) : decElems decString [] (ss.map DV.str) mem = some ss := by
  induction ss generalizing mem <;> simp_all [decElems, decString]

theorem decScope_strings (old : Sl Bytes) (ss : List Bytes) :
    ∃ st, decScope old (.arr (ss.map DV.str)) = some ⟨false, ss, st⟩ :=
  decSlice_arr decString [] old (decElems_strings ss _)

theorem tokOf_tokName (t : Tok) : tokOf (tokName t) = t := by cases t <;> decide +kernel

/-- the members `renderScope` writes, after `annot` -/
def scopeMembers : Scope → List (Bytes × DV)
  | none => []
  | some ts => [(fScope, .arr (ts.map fun t => .str (tokName t)))]

theorem decScope_rendered (ts : List Tok) :
    ∃ sl, decScope Sl.nil (.arr (ts.map fun t => DV.str (tokName t))) = some sl ∧ scopeOfSl sl = some ts := by
  obtain ⟨st, h⟩ := decScope_strings Sl.nil (ts.map tokName)
  rw [List.map_map] at h
  exact ⟨_, h, by simp [scopeOfSl, Function.comp_def, tokOf_tokName]⟩

theorem annotKvs_append (a b : List (Bytes × JVal)) : annotKvs (a ++ b) = annotKvs a ++ annotKvs b := by
  induction a <;> simp_all [annotKvs]

theorem annotList_strs {α : Type} (f : α → Bytes) (l : List α) :
    annotList (l.map fun x => .str (f x)) = l.map fun x => .str (f x) := by
  induction l <;> simp_all [annotList, annot]

theorem annotKvs_renderScope (scope : Scope) : annotKvs (renderScope scope) = scopeMembers scope := by
  cases scope with
  | none => rfl
  | some ts => simp [renderScope, scopeMembers, annotKvs, annot, annotList_strs]

theorem nodeFromKvs_single (name : Bytes) (body : DV) : nodeFromKvs [(name, body)] = bodyNode name body := by
  simp [nodeFromKvs, lastValue, List.eraseDups_cons]

/-- the parameter members of a filter's struct, and how its `filterFromJSON` reads the condition off them -/
def condParams : Cond → List Bytes
  | .method _ => [fMethod]
  | .url _ _ _ _ => [fScheme, fHost, fPath, fQuery]
  | _ => [fName, fValue]

def condMk : Cond → FilterSt → Cond
  | .method _ => fun s => .method s.a
  | .url _ _ _ _ => fun s => .url s.a s.b s.c s.d
  | .query _ _ => fun s => .query s.a s.b
  | .header _ _ => fun s => .header s.a s.b
  | .cookie _ _ => fun s => .cookie s.a s.b
  | .port p => fun _ => .port p

theorem names_distinct : (["fifo.Group", "priority.Group", "url.Filter", "header.Filter", "querystring.Filter", "method.Filter",
      "cookie.Filter", "verif.Probe", "port.Filter", "nosuch.Modifier"].map strBytes).Pairwise (fun a b => b ≠ a) := by
  decide +kernel

/-- `bodyNode` dispatches on each name that `render` writes to the decoder of that modifier. -/
structure BodyNodeRendered (body : DV) : Prop where
  fifo : bodyNode (strBytes "fifo.Group") body = fifoNode body
  prio : bodyNode (strBytes "priority.Group") body = prioNode body
  probe : bodyNode (strBytes "verif.Probe") body = probeNode body
  unknown : bodyNode (strBytes "nosuch.Modifier") body = .unknown
  filter : ∀ c : Cond, c.isPort = false → bodyNode (renderCond c).1 body = filterNode (condParams c) (condMk c) body

theorem bodyNode_rendered (body : DV) : BodyNodeRendered body := by
  have h := names_distinct
  simp only [List.map, List.pairwise_cons, List.mem_cons, List.not_mem_nil, or_false, forall_eq_or_imp, forall_eq] at h
  refine ⟨by simp [bodyNode], by simp [bodyNode, h], by simp [bodyNode, h], by simp [bodyNode, h], fun c hc => ?_⟩
  cases c with
  | port _ => cases hc
  | _ => simp [bodyNode, renderCond, condParams, condMk, h]

theorem idx_fifo : fieldIdx fifoFields fAgg = some 1 ∧ fieldIdx fifoFields fModifiers = some 2 ∧ fieldIdx fifoFields fScope = some 0 := by decide +kernel
theorem idx_prio : fieldIdx prioFields fModifiers = some 1 ∧ fieldIdx prioFields fScope = some 0 := by decide +kernel
theorem idx_prioElem : fieldIdx prioElemFields fPriority = some 0 ∧ fieldIdx prioElemFields fModifier = some 1 := by decide +kernel
theorem idx_probe : fieldIdx probeFields fLabel = some 0 ∧ fieldIdx probeFields fCaps = some 1 ∧ fieldIdx probeFields fFailReq = some 2 ∧
    fieldIdx probeFields fFailRes = some 3 ∧ fieldIdx probeFields fScope = some 4 := by decide +kernel

theorem scopeOfSl_nil : scopeOfSl (Sl.nil : Sl Bytes) = none := rfl

theorem fifoNode_rendered (scope : Scope) (agg : Bool) (ds : List DV) (n : Node) :
    fifoNode (.obj ([(fAgg, .bool agg), (fModifiers, .arr ds)] ++ scopeMembers scope) n) = .fifo scope agg (ds.map DV.node) := by
  obtain ⟨st, hst⟩ := decSlice_raw_arr .null Sl.nil ds
  cases scope with
  | none =>
    simp [fifoNode, decStruct, scopeMembers, decMembers, idx_fifo, fifoSet, decBool, hst, scopeOfSl_nil]
  | some ts =>
    obtain ⟨sl, h1, h2⟩ := decScope_rendered ts
    simp [fifoNode, decStruct, scopeMembers, decMembers, idx_fifo, fifoSet, decBool, hst, h1, h2]

/-- one element of a priority group's `modifiers` as `render` writes it, after `annot` -/
def prioElemDV (p : Int) (d : DV) : DV :=
  .obj [(fPriority, .num ⟨decide (p < 0), p.natAbs, false⟩), (fModifier, d)]
    (nodeFromKvs [(fPriority, .num ⟨decide (p < 0), p.natAbs, false⟩), (fModifier, d)])

theorem decPrioElem_rendered (p : Int) (d : DV) (h : inInt64 p) : decPrioElem {} (prioElemDV p d) = some ⟨p, some d⟩ := by
  simp [decPrioElem, prioElemDV, decStruct, decMembers, idx_prioElem, prioElemSet, decInt, int64Of_renderInt p h]

theorem decElems_prio {α : Type} (f : α → DV) : ∀ (cs : List (Int × α)), (∀ pc ∈ cs, inInt64 pc.1) →
    decElems decPrioElem {} (cs.map fun pc => prioElemDV pc.1 (f pc.2)) [] = some (cs.map fun pc => ⟨pc.1, some (f pc.2)⟩)
  | [], _ => rfl
  | pc :: cs, h => by
    have h1 := decPrioElem_rendered pc.1 (f pc.2) (h pc (List.mem_cons_self ..))
    have h2 := decElems_prio f cs fun x hx => h x (List.mem_cons_of_mem _ hx)
    simp only [List.map_cons, decElems, List.headD_nil, List.tail_nil, h1, h2]

theorem prioNode_rendered {α : Type} (f : α → DV) (scope : Scope) (cs : List (Int × α)) (n : Node) (h : ∀ pc ∈ cs, inInt64 pc.1) :
    prioNode (.obj ([(fModifiers, .arr (cs.map fun pc => prioElemDV pc.1 (f pc.2)))] ++ scopeMembers scope) n)
      = .prio scope (cs.map fun pc => (pc.1, (f pc.2).node)) := by
  obtain ⟨st, hst⟩ := decSlice_arr decPrioElem {} Sl.nil (decElems_prio f cs h)
  cases scope with
  | none =>
    simp [prioNode, decStruct, scopeMembers, decMembers, idx_prio, prioSet, hst, scopeOfSl_nil, rawNode, Function.comp_def]
  | some ts =>
    obtain ⟨sl, h1, h2⟩ := decScope_rendered ts
    simp [prioNode, decStruct, scopeMembers, decMembers, idx_prio, prioSet, hst, h1, h2, rawNode, Function.comp_def]

theorem capsOfStr_renderCaps (c : Caps) : capsOfStr (renderCaps c) = c := by
  obtain ⟨q, s⟩ := c
  cases q <;> cases s <;> decide +kernel

theorem probeNode_rendered (l : Nat) (caps : Caps) (fq fs : Bool) (scope : Scope) (n : Node) (h : (l : Int) ≤ maxInt64) :
    probeNode (.obj ([(fLabel, .num ⟨decide ((l : Int) < 0), (l : Int).natAbs, false⟩), (fCaps, .str (renderCaps caps)),
        (fFailReq, .bool fq), (fFailRes, .bool fs)] ++ scopeMembers scope) n) = .leaf l caps fq fs scope := by
  have hl := int64Of_renderInt l ⟨by unfold minInt64; omega, h⟩
  rw [Int.natAbs_natCast] at hl
  cases scope with
  | none =>
    simp [probeNode, decStruct, scopeMembers, decMembers, idx_probe, probeSet, decInt, decString, decBool, hl,
      capsOfStr_renderCaps, scopeOfSl_nil]
  | some ts =>
    obtain ⟨sl, h1, h2⟩ := decScope_rendered ts
    simp [probeNode, decStruct, scopeMembers, decMembers, idx_probe, probeSet, decInt, decString, decBool, hl,
      capsOfStr_renderCaps, h1, h2]

def elseMembers : Option DV → List (Bytes × DV)
  | none => []
  | some d => [(fElse, d)]

def condMembers : Cond → List (Bytes × DV)
  | .method m => [(fMethod, .str m)]
  | .url s h p q => [(fScheme, .str s), (fHost, .str h), (fPath, .str p), (fQuery, .str q)]
  | .query n v => [(fName, .str n), (fValue, .str v)]
  | .header n v => [(fName, .str n), (fValue, .str v)]
  | .cookie n v => [(fName, .str n), (fValue, .str v)]
  | .port p => [(fPort, .num ⟨decide (p < 0), p.natAbs, false⟩)]

theorem idx_filter_common (ps : List Bytes) : fieldIdx (fModifier :: fElse :: fScope :: ps) fModifier = some 0 ∧
    fieldIdx (fModifier :: fElse :: fScope :: ps) fElse = some 1 ∧ fieldIdx (fModifier :: fElse :: fScope :: ps) fScope = some 2 := by
  have e1 : (fModifier == fElse) = false := by decide
  have e2 : (fModifier == fScope) = false := by decide
  have e3 : (fElse == fScope) = false := by decide
  simp [fieldIdx, List.findIdx?_cons, e1, e2, e3]

theorem idx_filter_params :
    fieldIdx [fModifier, fElse, fScope, fScheme, fHost, fPath, fQuery] fScheme = some 3 ∧
    fieldIdx [fModifier, fElse, fScope, fScheme, fHost, fPath, fQuery] fHost = some 4 ∧
    fieldIdx [fModifier, fElse, fScope, fScheme, fHost, fPath, fQuery] fPath = some 5 ∧
    fieldIdx [fModifier, fElse, fScope, fScheme, fHost, fPath, fQuery] fQuery = some 6 ∧
    fieldIdx [fModifier, fElse, fScope, fName, fValue] fName = some 3 ∧
    fieldIdx [fModifier, fElse, fScope, fName, fValue] fValue = some 4 ∧
    fieldIdx [fModifier, fElse, fScope, fMethod] fMethod = some 3 := by decide +kernel

/-- the tail every filter body shares: `modifier`, optional `else`, optional `scope` -/
theorem filter_tail (ps : List Bytes) (s : FilterSt) (dt : DV) (de : Option DV) (scope : Scope)
    (hs : s.scope = Sl.nil) :
    ∃ sl, decMembers ([fModifier, fElse, fScope] ++ ps) filterSet ((fModifier, dt) :: (elseMembers de ++ scopeMembers scope)) s
        = some { s with mod := some dt, els := de.or s.els, scope := sl } ∧ scopeOfSl sl = scope := by
  have hi := idx_filter_common ps
  cases scope with
  | none =>
    refine ⟨Sl.nil, ?_, rfl⟩
    cases de <;> simp [elseMembers, scopeMembers, decMembers, hi, filterSet, ← hs]
  | some ts =>
    obtain ⟨sl, h1, h2⟩ := decScope_rendered ts
    refine ⟨sl, ?_, h2⟩
    cases de <;> simp [elseMembers, scopeMembers, decMembers, hi, filterSet, hs, h1]

theorem decMembers_append {σ : Type} (fields : List Bytes) (set : σ → Nat → DV → Option σ)
    (xs ys : List (Bytes × DV)) (s : σ) :
    decMembers fields set (xs ++ ys) s = (decMembers fields set xs s).bind (decMembers fields set ys) := by
  fun_induction decMembers fields set xs s <;> simp_all [decMembers]

/-- what the parameter members of a filter body leave in the struct -/
def condSt : Cond → FilterSt
  | .method m => { a := m }
  | .url s h p q => { a := s, b := h, c := p, d := q }
  | .query n v => { a := n, b := v }
  | .header n v => { a := n, b := v }
  | .cookie n v => { a := n, b := v }
  | .port _ => {}

theorem decMembers_condMembers (c : Cond) (hc : c.isPort = false) :
    decMembers ([fModifier, fElse, fScope] ++ condParams c) filterSet (condMembers c) {} = some (condSt c) := by
  cases c with
  | port _ => cases hc
  | _ => simp [condParams, condMembers, condSt, decMembers, idx_filter_params, filterSet, decString]

theorem filterNode_rendered {c : Cond} {dt : DV} {de : Option DV} {scope : Scope} {n : Node} (hc : c.isPort = false) :
    filterNode (condParams c) (condMk c) (.obj (condMembers c ++ (fModifier, dt) :: (elseMembers de ++ scopeMembers scope)) n)
      = .filter c scope dt.node (de.map DV.node) := by
  obtain ⟨sl, h1, h2⟩ := filter_tail (condParams c) (condSt c) dt de scope (by cases c <;> rfl)
  rw [show (condSt c).els = none by cases c <;> rfl, Option.or_none] at h1
  have hmk : condMk c { condSt c with mod := some dt, els := de, scope := sl } = c := by cases c <;> rfl
  rw [filterNode, decStruct, decMembers_append, decMembers_condMembers c hc, Option.bind_some, h1]
  simp only [hmk, h2, rawNode]
  cases de <;> rfl

theorem annotList_renderPList : ∀ cs : List (Int × Node),
    annotList (renderPList cs) = cs.map (fun pc => prioElemDV pc.1 (annot (render pc.2)))
  | [] => rfl
  | (p, c) :: cs => by simp [renderPList, annotList, annot, annotKvs, renderInt, prioElemDV, annotList_renderPList cs]

theorem annotKvs_renderElse (e : Option Node) : annotKvs (renderElse e) = elseMembers (e.map fun x => annot (render x)) := by
  cases e <;> simp [renderElse, annotKvs, elseMembers]

theorem annotKvs_condMembers (c : Cond) : annotKvs (renderCond c).2 = condMembers c := by
  cases c <;> simp [renderCond, annotKvs, annot, condMembers, renderInt]

theorem pairs_inInt64 : ∀ cs : List (Int × Node), fitsPList cs = true → ∀ pc ∈ cs, inInt64 pc.1
  | [], _ => nofun
  | (p, c) :: cs, h => by
    simp only [fitsPList, Bool.and_eq_true, decide_eq_true_eq] at h
    exact List.forall_mem_cons.mpr ⟨h.1.1, pairs_inInt64 cs h.2⟩

mutual
theorem node_annot_render : ∀ n : Node, fits n = true → (annot (render n)).node = n
  | .leaf l caps fq fs scope, h => by
    simp only [fits, decide_eq_true_eq] at h
    simp only [render, annot, annotKvs, DV.node, nodeFromKvs_single, (bodyNode_rendered _).probe, annotKvs_append, annotKvs_renderScope, renderInt]
    exact probeNode_rendered l caps fq fs scope _ h
  | .unknown, _ => by
    simp [render, annot, annotKvs, DV.node, nodeFromKvs_single, (bodyNode_rendered _).unknown]
  | .malformed, _ => rfl
  | .fifo scope agg cs, h => by
    have ih := nodes_annot_renderList cs (by simpa [fits] using h)
    simp only [render, annot, annotKvs, DV.node, nodeFromKvs_single, (bodyNode_rendered _).fifo, annotKvs_append, annotKvs_renderScope]
    rw [fifoNode_rendered, ih]
  | .prio scope cs, h => by
    have hf : fitsPList cs = true := by simpa [fits] using h
    have ih := nodes_annot_renderPList cs hf
    simp only [render, annot, annotKvs, DV.node, nodeFromKvs_single, (bodyNode_rendered _).prio, annotKvs_append, annotKvs_renderScope,
      annotList_renderPList]
    rw [prioNode_rendered (fun c => annot (render c)) scope cs _ (pairs_inInt64 cs hf), ih]
  | .filter c scope t e, h => by
    simp only [fits, Bool.and_eq_true, Bool.not_eq_true'] at h
    have iht := node_annot_render t h.1.2
    have ihe := node_annot_renderOpt e h.2
    have hnp := h.1.1
    simp only [render, annot, DV.node, annotKvs, nodeFromKvs_single, (bodyNode_rendered _).filter _ hnp, annotKvs_append, annotKvs_renderScope,
      annotKvs_renderElse, annotKvs_condMembers, List.append_assoc, List.cons_append, List.nil_append]
    rw [filterNode_rendered hnp, iht, Option.map_map]
    exact congrArg _ ihe
theorem nodes_annot_renderList : ∀ cs : List Node, fitsList cs = true → (annotList (renderList cs)).map DV.node = cs
  | [], _ => rfl
  | c :: cs, h => by
    simp only [fitsList, Bool.and_eq_true] at h
    simp only [renderList, annotList, List.map_cons]
    rw [node_annot_render c h.1, nodes_annot_renderList cs h.2]
theorem nodes_annot_renderPList : ∀ cs : List (Int × Node), fitsPList cs = true →
    cs.map (fun pc => (pc.1, (annot (render pc.2)).node)) = cs
  | [], _ => rfl
  | (p, c) :: cs, h => by
    simp only [fitsPList, Bool.and_eq_true] at h
    simp only [List.map_cons]
    rw [node_annot_render c h.1.2, nodes_annot_renderPList cs h.2]
theorem node_annot_renderOpt : ∀ e : Option Node, fitsOpt e = true → (e.map fun x => (annot (render x)).node) = e
  | none, _ => rfl
  | some x, h => congrArg some (node_annot_render x h)
end

end Martian.Config
