import Martian.Lemmas.Http1
/-!
The reader applied to serialised messages: start lines, the header list `wire` writes (`headOf`),
the decidable well-formedness predicates `WFReq` / `WFRes`, and the message-level read-back lemmas
the property theorems of C01 / C03 / C15 are assembled from.

A message on the wire is `headSection m ++ bodyAs m cs`. The two head readers hand the field list
`headOf m` to `readTransfer`; from there on (`readTransfer_readBody`) requests and responses are
read by the same argument.
-/
namespace Martian.Http1
open Martian Martian.Go Martian.MessageView

theorem natDigits_lt10 (d : Nat) (h : d < 10) : natDigits d = [dg d] := by
  rw [natDigits_eq]; simp [h]

theorem protoBytes_eq (a b : Nat) (ha : a < 10) (hb : b < 10) :
    protoBytes a b = [72, 84, 84, 80, 47, dg a, 46, dg b] := by
  simp [protoBytes, show strBytes "HTTP/" = [72, 84, 84, 80, 47] by decide, natDigits_lt10 a ha,
    natDigits_lt10 b hb]

theorem parseHTTPVersion_proto (a b : Nat) (ha : a < 10) (hb : b < 10) :
    parseHTTPVersion (protoBytes a b) = some (a, b) := by
  rw [protoBytes_eq a b ha hb]
  simp [parseHTTPVersion, isDigit_dg a ha, isDigit_dg b hb]

theorem protoBytes_bytes (a b : Nat) (ha : a < 10) (hb : b < 10) :
    ∀ c ∈ protoBytes a b, c ≠ 10 ∧ c ≠ 32 := by
  have hd : ∀ d, d < 10 → dg d ≠ 10 ∧ dg d ≠ 32 := by decide
  simp [protoBytes_eq a b ha hb, hd a ha, hd b hb]

theorem no_lf_sp (a b : Bytes) (ha : ∀ c ∈ a, c ≠ 10) (hb : ∀ c ∈ b, c ≠ 10) : ∀ c ∈ a ++ [32] ++ b, c ≠ 10 := by
  intro c hc
  simp only [List.mem_append, List.mem_singleton] at hc
  rcases hc with (hc | hc) | hc
  · exact ha c hc
  · subst hc; decide
  · exact hb c hc

theorem targetHost_bytes (u : Bytes) (a : Option Bytes) (h : targetHost u = some a) :
    ∀ c ∈ u, c ≠ 32 ∧ c ≠ 10 := by
  intro c hc
  have hall : u.all (fun c => 33 ≤ c && c ≤ 126) = true := by
    unfold targetHost at h
    by_cases hu : u.all (fun c => 33 ≤ c && c ≤ 126) = true
    · exact hu
    · rw [if_pos (by simp [hu])] at h; cases h
  have := List.all_eq_true.mp hall c hc
  constructor <;> (rintro rfl; revert this; decide)

theorem parseRequestLine_start (method uri proto : Bytes) (hm : ∀ c ∈ method, c ≠ 32) (hu : ∀ c ∈ uri, c ≠ 32) :
    parseRequestLine (method ++ [32] ++ uri ++ [32] ++ proto) = some (method, uri, proto) := by
  have : method ++ [32] ++ uri ++ [32] ++ proto = method ++ 32 :: (uri ++ 32 :: proto) := by simp
  rw [this]
  unfold parseRequestLine
  rw [cut_append 32 method _ hm]
  simp only
  rw [cut_append 32 uri _ hu]

/-- The field names `headSection` writes from the record's own fields (`Host`, `TransferEncoding`,
`ContentLength`) and therefore leaves out when it writes the header map. -/
def exclOf (m : Msg) : List Bytes := if m.isReq then [hostKey, clKey, teKey] else [clKey, teKey]

/-- The end-to-end part of the header as `wire` writes it: sorted by key, framing fields removed. -/
def e2e (m : Msg) : List KV := (sortKV m.hdr).filter fun kv => !(exclOf m).contains kv.1

/-- The three field lines `headSection` derives from `m.host`, `m.te` and `m.cl`, each as a list
of at most one field. -/
def hostF (m : Msg) : List KV := if m.isReq && !m.host.isEmpty then [(hostKey, m.host)] else []
def teF (m : Msg) : List KV := if m.te.isEmpty then [] else [(teKey, join m.te (strBytes ", "))]
def clF (m : Msg) : List KV := if !isChunked m.te && 0 ≤ m.cl then [(clKey, itoa m.cl)] else []

/-- The field lines of `wire m`, in order. -/
def headOf (m : Msg) : List KV := hostF m ++ teF m ++ clF m ++ e2e m

theorem headSection_eq (m : Msg) : headSection m = startLine m ++ crlf ++ fields (headOf m) ++ crlf := by
  have h1 (kv : KV) : fields [kv] = field kv := by simp [fields]
  simp only [headOf, hostF, teF, clF, fields_append, apply_ite fields, h1]
  simp [headSection, writeSubset, e2e, exclOf, fields]

/-- The bytes after the head: the body as it is, or cut into the chunks `cs` and followed by the
trailer section. -/
def bodyAs (m : Msg) (cs : List Bytes) : Bytes :=
  if isChunked m.te then chunkStream cs ++ (fields (sortKV (m.trailer.getD [])) ++ crlf) else m.body.getD []

/-- The wire form of a chunked message with the body cut into the given chunks. -/
def wireChunkedAs (m : Msg) (cs : List Bytes) : Bytes :=
  headSection m ++ chunkStream cs ++ fields (sortKV (m.trailer.getD [])) ++ crlf

theorem wire_as (m : Msg) (cs : List Bytes) :
    (if isChunked m.te then wireChunkedAs m cs else wire m) = headSection m ++ bodyAs m cs := by
  unfold bodyAs wireChunkedAs wire
  split <;> simp [*]

/-- `wire` writes a chunked body as one chunk (none when it is empty). -/
def oneChunk (b : Bytes) : List Bytes := if b.isEmpty then [] else [b]

theorem oneChunk_spec (b : Bytes) : (oneChunk b).flatten = b ∧ ∀ c ∈ oneChunk b, c ≠ [] := by
  unfold oneChunk; split <;> simp_all

theorem wire_eq (m : Msg) : wire m = headSection m ++ bodyAs m (oneChunk (m.body.getD [])) := by
  unfold bodyAs wire oneChunk chunkedWrite
  cases m.body.getD [] <;> split <;> simp [chunkStream, crlf]

structure KeysDistinct : Prop where
  host_te : (hostKey == teKey) = false
  host_cl : (hostKey == clKey) = false
  host_trailer : (hostKey == trailerKey) = false
  host_pragma : (hostKey == pragmaKey) = false
  te_host : (teKey == hostKey) = false
  te_cl : (teKey == clKey) = false
  te_trailer : (teKey == trailerKey) = false
  te_pragma : (teKey == pragmaKey) = false
  cl_host : (clKey == hostKey) = false
  cl_te : (clKey == teKey) = false
  cl_trailer : (clKey == trailerKey) = false
  cl_pragma : (clKey == pragmaKey) = false
  conn_te : (connKey == teKey) = false
  conn_cl : (connKey == clKey) = false
  conn_trailer : (connKey == trailerKey) = false

theorem keyNe : KeysDistinct := by
  -- one evaluation for all pairs, in both orders (each `strBytes` literal is unfolded once)
  have h : [connKey, hostKey, teKey, clKey, trailerKey, pragmaKey].Pairwise
      fun a b => (a == b) = false ∧ (b == a) = false := by decide +kernel
  simp only [List.pairwise_cons, List.mem_cons, List.not_mem_nil, or_false, forall_eq_or_imp, forall_eq] at h
  constructor <;> simp only [h]

theorem validKV_te_chunked : ValidKV (teKey, chunkedTok) = true := by decide +kernel
theorem keyOK_hostKey : keyOK hostKey = true := by decide +kernel
theorem keyOK_clKey : keyOK clKey = true := by decide +kernel

def atLeast11 (m : Msg) : Bool := m.major > 1 || (m.major == 1 && m.minor ≥ 1)

/-- Target and `Host` agree the way `ReadRequest` resolves them. -/
def hostOK (m : Msg) : Bool :=
  valueOK m.host &&
  match targetHost m.url with
  | some (some a) => m.host == a
  | some none => true
  | none => false

/-- `Transfer-Encoding` is absent or exactly `chunked` (HTTP/1.1 up); the length field says what the
body is, or there is neither field and no body (`cl = -1`: nothing is written, the reader reports
`ContentLength = 0`); chunk sizes stay below 2^62. -/
def framingOK (m : Msg) : Bool :=
  if isChunked m.te then
    m.te == [chunkedTok] && m.cl == -1 && atLeast11 m && decide ((m.body.getD []).length < 2 ^ 62)
  else
    m.te.isEmpty && m.trailer.isNone &&
      ((m.cl == -1 && (m.body.getD []).isEmpty) ||
       (decide (0 ≤ m.cl) && decide (m.cl < 2 ^ 63) && decide (((m.body.getD []).length : Int) = m.cl)))

/-- A trailer is a non-empty sorted list of valid fields that fits `bufio`'s window. -/
def trailerOK (m : Msg) : Bool :=
  match m.trailer with
  | none => true
  | some t => isChunked m.te && !t.isEmpty && t.all ValidKV && sortKV t == t &&
      decide ((fields t).length + 2 ≤ bufSize)

/-- A request the proxy can receive or send: token method (not CONNECT / PRI), a target in the
modelled domain with a consistent `Host`, one-digit version numbers, valid fields, no `Trailer`
announcement and no `Pragma` among the end-to-end fields, consistent framing. Decidable. -/
def WFReq (m : Msg) : Prop :=
  m.isReq = true ∧ m.code = 0 ∧ m.status = [] ∧
  m.method.isEmpty = false ∧ m.method.all isTokenByte = true ∧
  (m.method == connectTok) = false ∧ (m.method == priTok) = false ∧
  m.major < 10 ∧ m.minor < 10 ∧ hostOK m = true ∧
  m.hdr.all ValidKV = true ∧ has (e2e m) trailerKey = false ∧ has (e2e m) pragmaKey = false ∧
  framingOK m = true ∧ m.body.isSome = true ∧ trailerOK m = true

instance (m : Msg) : Decidable (WFReq m) := by unfold WFReq; infer_instance

/-- The header list of the re-read message: the end-to-end fields plus the `Content-Length` field
`wire` derived from `m.cl`, as the header map is flattened (sorted by key). -/
def parsedHdr (m : Msg) : List KV := sortKV (clF m ++ e2e m)

/-- `ContentLength` as the reader of a request reports it: `0` when neither framing field is there. -/
def parsedCL (m : Msg) : Int := if !isChunked m.te && m.cl < 0 then 0 else m.cl

/-- What `readRequest` returns for `wire m`: `Request.Header` without `Host`, `Request.Close` as
`shouldClose` decides it on the field lines, no announced trailer. -/
def reqParsed (m : Msg) : Parsed :=
  ⟨{ m with hdr := parsedHdr m, cl := parsedCL m }, shouldClose m.major m.minor (headOf m), none⟩

/-- `m.status` is three digits (the code) and, optionally, a space and a reason phrase. -/
def statusOK (m : Msg) : Bool :=
  let codeB := codeOf m.status
  codeB.length == 3 && codeB.all isDigit && digitsVal codeB 0 == m.code && m.status.all (· != 10)

/-- The `Connection` field is dropped from a response that announces `close` (HTTP/1.1 up). -/
def dropConn (major minor : Nat) (hs : List KV) : Bool :=
  decide (major ≥ 1) && !(major == 1 && minor == 0) && shouldClose major minor hs

/-- The field list `readResponseHead` hands to `readTransfer`. -/
def connDropped (major minor : Nat) (hs : List KV) : List KV :=
  if dropConn major minor hs then del hs connKey else hs

/-- Framing of a response that carries a body (not an answer to HEAD, not 1xx / 204 / 304):
`chunked` (HTTP/1.1 up), or a `Content-Length` equal to the body length, or neither (`cl = -1`,
close-delimited). -/
def framingResOK (m : Msg) : Bool :=
  if isChunked m.te then
    m.te == [chunkedTok] && m.cl == -1 && atLeast11 m && decide ((m.body.getD []).length < 2 ^ 62)
  else
    m.te.isEmpty && m.trailer.isNone &&
      (m.cl == -1 || (decide (0 ≤ m.cl) && decide (m.cl < 2 ^ 63) && decide (((m.body.getD []).length : Int) = m.cl)))

/-- A response with a body, as an origin sends it or the proxy relays it. Decidable. -/
def WFRes (meth : Bytes) (m : Msg) : Prop :=
  m.isReq = false ∧ m.method = [] ∧ m.url = [] ∧ m.host = [] ∧
  (meth == headTok) = false ∧ (m.code / 100 == 1 || m.code == 204 || m.code == 304) = false ∧
  m.major < 10 ∧ m.minor < 10 ∧ statusOK m = true ∧
  m.hdr.all ValidKV = true ∧ has (e2e m) trailerKey = false ∧ has (e2e m) pragmaKey = false ∧
  framingResOK m = true ∧ m.body.isSome = true ∧ trailerOK m = true

instance (meth : Bytes) (m : Msg) : Decidable (WFRes meth m) := by unfold WFRes; infer_instance

/-- The response is delimited by its length (`Content-Length` or chunked), not by the close. -/
def lengthDelimited (m : Msg) : Bool := isChunked m.te || decide (0 ≤ m.cl)

/-- `Response.Header` of the re-read response: as `parsedHdr`, without `Connection` where `dropConn` says so. -/
def resHdr (m : Msg) : List KV :=
  sortKV (if dropConn m.major m.minor (headOf m) then del (clF m ++ e2e m) connKey else clF m ++ e2e m)

/-- What `readResponse` returns for `wire m`; `Response.Close` is also set when only the close delimits the body. -/
def resParsed (m : Msg) : Parsed :=
  ⟨{ m with hdr := resHdr m }, shouldClose m.major m.minor (headOf m) || !lengthDelimited m, none⟩

/-- An answer to HEAD without `Transfer-Encoding`: any announced length (or none), never a body. -/
def WFResHead (m : Msg) : Prop :=
  m.isReq = false ∧ m.method = [] ∧ m.url = [] ∧ m.host = [] ∧
  m.major < 10 ∧ m.minor < 10 ∧ statusOK m = true ∧
  m.hdr.all ValidKV = true ∧ has (e2e m) pragmaKey = false ∧
  m.te = [] ∧ -1 ≤ m.cl ∧ m.cl < 2 ^ 63 ∧ m.body = some [] ∧ m.trailer = none

instance (m : Msg) : Decidable (WFResHead m) := by unfold WFResHead; infer_instance

theorem WFResHead.body {m : Msg} (h : WFResHead m) : m.body = some [] := by
  obtain ⟨-, -, -, -, -, -, -, -, -, -, -, -, hb, -⟩ := h
  exact hb

/-- What `readResponse headTok` returns for the head of `m`: no body is expected, so none forces `Close`. -/
def resParsedHead (m : Msg) : Parsed :=
  ⟨{ m with hdr := resHdr m }, shouldClose m.major m.minor (headOf m), none⟩

theorem has_e2e_excl (m : Msg) (k : Bytes) (hk : (exclOf m).contains k = true) : has (e2e m) k = false := by
  rw [has_eq_false_iff]
  intro kv hkv
  simp only [e2e, List.mem_filter, Bool.not_eq_true'] at hkv
  cases h : kv.1 == k with
  | false => rfl
  | true =>
    have : kv.1 = k := by simpa using h
    rw [this, hk] at hkv; simp at hkv

theorem has_e2e_framing (m : Msg) : has (e2e m) teKey = false ∧ has (e2e m) clKey = false :=
  ⟨has_e2e_excl m _ (by unfold exclOf; split <;> simp), has_e2e_excl m _ (by unfold exclOf; split <;> simp)⟩

theorem has_hostF (m : Msg) (k : Bytes) (hk : (hostKey == k) = false) : has (hostF m) k = false := by
  unfold hostF; split <;> simp [has_cons, hk]

theorem has_teF (m : Msg) (k : Bytes) (hk : (teKey == k) = false) : has (teF m) k = false := by
  unfold teF; split <;> simp [has_cons, hk]

theorem has_clF (m : Msg) (k : Bytes) (hk : (clKey == k) = false) : has (clF m) k = false := by
  unfold clF; split <;> simp [has_cons, hk]

theorem has_headOf (m : Msg) (k : Bytes) (h1 : (hostKey == k) = false) (h2 : (teKey == k) = false)
    (h3 : (clKey == k) = false) : has (headOf m) k = has (e2e m) k := by
  simp [headOf, has_append, has_hostF m k h1, has_teF m k h2, has_clF m k h3]

theorem valueOK_natDigits (n : Nat) : valueOK (natDigits n) = true := by
  have h := (natDigits_spec n).1
  simp only [valueOK, Bool.and_eq_true, beq_iff_eq]
  refine ⟨?_, trimOWS_digits _ h⟩
  rw [List.all_eq_true]; intro c hc
  exact validValueByte_of_isDigit (List.all_eq_true.mp h c hc)

theorem te_of_framing (m : Msg) (h : framingResOK m = true) :
    m.te = if isChunked m.te then [chunkedTok] else [] := by
  unfold framingResOK at h
  split at h <;> simp_all

theorem framingRes_of_framing (m : Msg) (h : framingOK m = true) : framingResOK m = true := by
  unfold framingOK at h; unfold framingResOK
  split at h
  · rwa [if_pos ‹_›]
  · rw [if_neg ‹_›]
    simp only [Bool.and_eq_true, Bool.or_eq_true] at h ⊢
    exact ⟨h.1, h.2.imp And.left id⟩

theorem join_singleton (x sep : Bytes) : join [x] sep = x := by
  simp [join, List.intercalate]

theorem valid_headOf (m : Msg) (hhost : m.isReq = true → valueOK m.host = true) (hhdr : m.hdr.all ValidKV = true)
    (hte : m.te = if isChunked m.te then [chunkedTok] else []) : ∀ kv ∈ headOf m, ValidKV kv = true := by
  intro kv hkv
  simp only [headOf, List.mem_append] at hkv
  rcases hkv with ((hkv | hkv) | hkv) | hkv
  · unfold hostF at hkv
    split at hkv <;> simp at hkv
    rename_i hc
    subst hkv; simp [ValidKV, keyOK_hostKey, hhost (by simp at hc; exact hc.1)]
  · unfold teF at hkv
    rw [hte] at hkv
    split at hkv <;> simp at hkv
    subst hkv; exact validKV_te_chunked
  · unfold clF at hkv
    split at hkv <;> simp at hkv
    rename_i hc
    obtain ⟨n, hn⟩ : ∃ n : Nat, m.cl = n := ⟨m.cl.toNat, by simp at hc; omega⟩
    subst hkv; simp [ValidKV, keyOK_clKey, hn, itoa_ofNat, valueOK_natDigits]
  · simp only [e2e, List.mem_filter] at hkv
    exact List.all_eq_true.mp hhdr kv ((mem_sortKV kv m.hdr).mp hkv.1)

theorem vals_headOf_te (m : Msg) (hte : m.te = if isChunked m.te then [chunkedTok] else []) :
    vals (headOf m) teKey = if isChunked m.te then [chunkedTok] else [] := by
  simp only [headOf, vals_append, vals_eq_nil_of_has _ _ (has_hostF m teKey keyNe.host_te),
    vals_eq_nil_of_has _ _ (has_clF m teKey keyNe.cl_te),
    vals_eq_nil_of_has _ _ (has_e2e_framing m).1, teF]
  cases hch : isChunked m.te <;> rw [hch] at hte <;> simp [hte, vals_cons, join_singleton]

theorem vals_headOf_cl (m : Msg) :
    vals (headOf m) clKey = if !isChunked m.te && 0 ≤ m.cl then [itoa m.cl] else [] := by
  simp only [headOf, vals_append, vals_eq_nil_of_has _ _ (has_hostF m clKey keyNe.host_cl),
    vals_eq_nil_of_has _ _ (has_teF m clKey keyNe.te_cl),
    vals_eq_nil_of_has _ _ (has_e2e_framing m).2, clF]
  split <;> simp [vals_cons]

theorem del_headOf_te (m : Msg) : del (headOf m) teKey = hostF m ++ clF m ++ e2e m := by
  have hte : del (teF m) teKey = [] := by unfold teF; split <;> simp [del_cons]
  simp [headOf, del_append, hte, del_eq_self_of_has _ _ (has_hostF m teKey keyNe.host_te),
    del_eq_self_of_has _ _ (has_clF m teKey keyNe.cl_te),
    del_eq_self_of_has _ _ (has_e2e_framing m).1]

theorem fixPragma_id (hs : List KV) (h : has hs pragmaKey = false) : fixPragma hs = hs := by
  simp [fixPragma, vals_eq_nil_of_has hs pragmaKey h]

theorem has_headOf_pragma (m : Msg) (h : has (e2e m) pragmaKey = false) : has (headOf m) pragmaKey = false := by
  rw [has_headOf m _ keyNe.host_pragma keyNe.te_pragma keyNe.cl_pragma]; exact h

theorem has_headOf_trailer (m : Msg) (h : has (e2e m) trailerKey = false) : has (headOf m) trailerKey = false := by
  rw [has_headOf m _ keyNe.host_trailer keyNe.te_trailer keyNe.cl_trailer]; exact h

theorem readTrailer_wire (m : Msg) (h : trailerOK m = true) (rest : Bytes) :
    readTrailer none (fields (sortKV (m.trailer.getD [])) ++ crlf ++ rest) = .complete m.trailer rest := by
  cases ht : m.trailer with
  | none => simpa [fields, sortKV] using readTrailer_none none rest
  | some t =>
    simp only [trailerOK, ht, Bool.and_eq_true, Bool.not_eq_true', decide_eq_true_eq, beq_iff_eq] at h
    obtain ⟨⟨⟨⟨_, hne⟩, hv⟩, hs⟩, hl⟩ := h
    have := readTrailer_fields none t (by intro e; simp [e] at hne) (fun kv hkv => List.all_eq_true.mp hv kv hkv) hl rest
    rw [hs] at this; rwa [Option.getD_some, hs]

/-- The framing decision and the body. `hs` is the field list the head reader hands to `readTransfer`
(for a request `headOf m`, for a response `connDropped … (headOf m)`); all that matters of it are its
framing fields. A message without a length is a bodiless request or a response that runs to the end. -/
theorem readTransfer_readBody (isResp : Bool) (meth : Bytes) (code : Nat) (c0 : Bool) (m : Msg) (hs : List KV)
    (hte : vals hs teKey = if isChunked m.te then [chunkedTok] else [])
    (hcl : vals hs clKey = if !isChunked m.te && 0 ≤ m.cl then [itoa m.cl] else [])
    (htr : has hs trailerKey = false)
    (hhead : (isResp && meth == headTok) = false)
    (hst : (code / 100 == 1 || code == 204 || code == 304) = false)
    (hfr : framingResOK m = true) (htrl : trailerOK m = true)
    (cs : List Bytes) (hcs : cs.flatten = m.body.getD []) (hne : ∀ c ∈ cs, c ≠ []) (rest : Bytes)
    (hcd : lengthDelimited m = false → if isResp then rest = [] else m.body.getD [] = []) :
    ∃ k, readTransfer isResp meth code m.major m.minor c0 hs =
        .ok { hdr := del hs teKey, chunked := isChunked m.te, cl := if isResp then m.cl else parsedCL m,
              close := c0 || (isResp && !lengthDelimited m), decl := none, body := k } ∧
      readBody k none (bodyAs m cs ++ rest) = .complete (m.body.getD [], m.trailer) rest := by
  unfold framingResOK at hfr
  unfold bodyAs
  cases hch : isChunked m.te with
  | true =>
    simp only [hch, if_true, Bool.and_eq_true, decide_eq_true_eq, beq_iff_eq] at hfr hte
    simp only [hch, Bool.not_true, Bool.false_and, Bool.false_eq_true, if_false] at hcl
    obtain ⟨⟨⟨_, hcl1⟩, h11⟩, hb62⟩ := hfr
    have hclh := has_of_vals_nil hs clKey hcl
    have h11' : ((m.major == 0 && m.minor == 0) || decide (m.major > 1) ||
        (m.major == 1 && decide (m.minor ≥ 1))) = true := by
      simp only [atLeast11, Bool.or_eq_true] at h11 ⊢
      exact h11.elim (fun h => .inl (.inr h)) .inr
    refine ⟨.chunked, ?_, ?_⟩
    · rw [readTransfer_chunked isResp meth code m.major m.minor c0 hs chunkedTok hte (by decide) h11'
        (has_del_of_has _ _ _ hclh) (has_del_of_has _ _ _ htr) hhead hst]
      simp [parsedCL, lengthDelimited, hch, hcl1]
    · have hne' : ∀ c ∈ cs, c ≠ [] ∧ c.length < 2 ^ 62 := fun c hc =>
        ⟨hne c hc, by have := (List.sublist_flatten_of_mem hc).length_le; rw [hcs] at this; omega⟩
      simp only [if_true]
      rw [readBody_chunked cs hne' _ m.trailer rest (readTrailer_wire m htrl rest), hcs]
  | false =>
    simp only [hch, Bool.false_eq_true, if_false, Bool.and_eq_true, decide_eq_true_eq, Bool.or_eq_true,
      beq_iff_eq, List.isEmpty_iff, Option.isNone_iff_eq_none] at hfr hte
    simp only [hch, Bool.not_false, Bool.true_and, decide_eq_true_eq] at hcl
    obtain ⟨⟨_, htrn⟩, hclc⟩ := hfr
    have hteh := has_of_vals_nil hs teKey hte
    rw [del_eq_self_of_has hs teKey hteh, htrn]
    simp only [Bool.false_eq_true, if_false]
    rcases hclc with hcl1 | ⟨⟨hcl0, hcl63⟩, hlen⟩
    · have hld : lengthDelimited m = false := by simp [lengthDelimited, hch, hcl1]
      rw [hcl1] at hcl
      have ht := readTransfer_none isResp meth code m.major m.minor c0 hs hteh (has_of_vals_nil hs clKey hcl)
        (fun _ => hst)
      have hrest := hcd hld
      cases isResp
      · simp only [Bool.false_eq_true, if_false] at hrest
        exact ⟨.none, ht.trans (by simp [parsedCL, hch, hcl1]), by rw [hrest]; rfl⟩
      · simp only [if_true] at hrest
        simp only [Bool.true_and] at hhead
        exact ⟨.eof, ht.trans (by simp [hcl1, hld, hhead]), by rw [hrest, List.append_nil]; rfl⟩
    · obtain ⟨n, hn⟩ : ∃ n : Nat, m.cl = n := ⟨m.cl.toNat, by omega⟩
      rw [if_pos hcl0, hn, itoa_ofNat] at hcl
      have hbn : n = (m.body.getD []).length := by omega
      have ht := readTransfer_cl isResp meth code m.major m.minor c0 hs _ n hteh hcl (parseCL_natDigits n (by omega))
        fun _ => hst
      refine ⟨if n = 0 then .none else .len n, ht.trans ?_, ?_⟩
      · simp [parsedCL, lengthDelimited, hch, hn, hhead]; omega
      · rw [hbn]; exact readBody_cl _ rest

theorem host_resolved (m : Msg) (hreq : m.isReq = true) (h : hostOK m = true) :
    ∃ auth, targetHost m.url = some auth ∧ auth.getD ((vals (hostF m) hostKey).headD []) = m.host := by
  simp only [hostOK, Bool.and_eq_true] at h
  obtain ⟨_, h2⟩ := h
  cases ht : targetHost m.url with
  | none => simp [ht] at h2
  | some auth =>
    refine ⟨auth, rfl, ?_⟩
    cases auth with
    | some a => simp [ht] at h2; simp [h2]
    | none =>
      unfold hostF
      cases hh : m.host.isEmpty with
      | true => simp [hreq]; exact List.isEmpty_iff.mp hh
      | false => simp [hreq, vals_cons]

/-- Any request line in the modelled domain followed by any list of valid fields and the blank
line: the reader recovers method, target, version and exactly that field list, then frames the
body by `readTransfer` of that list. `X` is everything after the blank line. -/
theorem readRequestHead_serialized (method uri : Bytes) (maj min : Nat) (auth : Option Bytes) (hs : List KV) (X : Bytes)
    (hm1 : method.isEmpty = false) (hm2 : method.all isTokenByte = true)
    (hm3 : (method == connectTok) = false) (hm4 : (method == priTok) = false)
    (hu : targetHost uri = some auth) (hmaj : maj < 10) (hmin : min < 10)
    (hv : ∀ kv ∈ hs, ValidKV kv = true) (hhost : ¬ (vals hs hostKey).length > 1) :
    readRequestHead (method ++ [32] ++ uri ++ [32] ++ protoBytes maj min ++ crlf ++ fields hs ++ crlf ++ X) =
      liftE (readTransfer false method 200 maj min (shouldClose maj min (fixPragma hs)) (fixPragma hs)) fun t =>
        .complete (reqSkeleton method uri maj min (auth.getD ((vals hs hostKey).headD [])),
          { t with hdr := del t.hdr hostKey }) X := by
  have hmtok : ∀ c ∈ method, isTokenByte c = true := fun c hc => List.all_eq_true.mp hm2 c hc
  have hub := targetHost_bytes uri auth hu
  have hnolf := no_lf_sp _ _ (no_lf_sp _ _ (fun c hc => ne_of_class (hmtok c hc) (by decide)) fun c hc => (hub c hc).2)
    fun c hc => (protoBytes_bytes _ _ hmaj hmin c hc).1
  rw [List.append_assoc _ (fields hs), List.append_assoc _ (fields hs ++ crlf)]
  unfold readRequestHead
  rw [readLine_crlf _ _ hnolf]
  simp only
  rw [parseRequestLine_start method uri _ (fun c hc => ne_of_class (hmtok c hc) (by decide))
    (fun c hc => (hub c hc).1)]
  simp only [hm1, hm2, parseHTTPVersion_proto _ _ hmaj hmin, hm3, hm4, hu, readHeader_fields _ hv,
    Bool.false_eq_true, Bool.not_true, Bool.or_self, if_false, hhost]

theorem readRequestHead_wire (m : Msg) (h : WFReq m) (X : Bytes) :
    readRequestHead (headSection m ++ X) =
      liftE (readTransfer false m.method 200 m.major m.minor (shouldClose m.major m.minor (headOf m)) (headOf m))
        fun t => .complete (reqSkeleton m.method m.url m.major m.minor m.host, { t with hdr := del t.hdr hostKey }) X := by
  obtain ⟨hreq, -, -, hm1, hm2, hm3, hm4, hmaj, hmin, hhost, hhdr, -, hpr, hfr, -, -⟩ := h
  obtain ⟨auth, hauth, hhostv⟩ := host_resolved m hreq hhost
  have hvh : vals (headOf m) hostKey = vals (hostF m) hostKey := by
    simp [headOf, vals_append, vals_eq_nil_of_has _ _ (has_teF m hostKey keyNe.te_host),
      vals_eq_nil_of_has _ _ (has_clF m hostKey keyNe.cl_host),
      vals_eq_nil_of_has _ _ (has_e2e_excl m hostKey (by simp [exclOf, hreq]))]
  have hone : ¬ (vals (hostF m) hostKey).length > 1 := by unfold hostF; split <;> simp [vals_cons]
  have hvalid := valid_headOf m (fun _ => by simp only [hostOK, Bool.and_eq_true] at hhost; exact hhost.1) hhdr
    (te_of_framing m (framingRes_of_framing m hfr))
  have hpragma := fixPragma_id _ (has_headOf_pragma m hpr)
  rw [headSection_eq, startLine, if_pos hreq,
    readRequestHead_serialized m.method m.url m.major m.minor auth (headOf m) X hm1 hm2 hm3 hm4 hauth hmaj hmin hvalid
      (by rw [hvh]; exact hone),
    hpragma, hvh, hhostv]

theorem readRequest_wire_framed (m : Msg) (h : WFReq m)
    (cs : List Bytes) (hcs : cs.flatten = m.body.getD []) (hne : ∀ c ∈ cs, c ≠ []) (rest : Bytes) :
    readRequest ((if isChunked m.te then wireChunkedAs m cs else wire m) ++ rest) = .complete (reqParsed m) rest := by
  have hhead := readRequestHead_wire m h
  obtain ⟨hreq, hcode, hstatus, -, -, -, -, -, -, -, -, htr, -, hfr, hbody, htrl⟩ := h
  have hfr' := framingRes_of_framing m hfr
  obtain ⟨k, ht, hb⟩ := readTransfer_readBody false m.method 200 (shouldClose m.major m.minor (headOf m)) m (headOf m)
    (vals_headOf_te m (te_of_framing m hfr')) (vals_headOf_cl m) (has_headOf_trailer m htr) rfl (by decide) hfr' htrl
    cs hcs hne rest
    (fun hl => by
      simp only [framingOK, lengthDelimited, Bool.or_eq_false_iff, decide_eq_false_iff_not] at hfr hl
      simp only [hl.1, Bool.false_eq_true, if_false, Bool.and_eq_true, Bool.or_eq_true, decide_eq_true_eq,
        List.isEmpty_iff] at hfr
      exact hfr.2.elim And.right fun h => absurd h.1.1 hl.2)
  unfold readRequest
  rw [wire_as, List.append_assoc, hhead, ht]
  have hdel : del (hostF m ++ clF m ++ e2e m) hostKey = clF m ++ e2e m := by
    have : del (hostF m) hostKey = [] := by unfold hostF; split <;> simp [del_cons]
    simp [del_append, this, del_eq_self_of_has _ _ (has_clF m hostKey keyNe.cl_host),
      del_eq_self_of_has _ _ (has_e2e_excl m hostKey (by simp [exclOf, hreq]))]
  obtain ⟨b, hb0⟩ := Option.isSome_iff_exists.mp hbody
  simp only [liftE, finishBody, hb, del_headOf_te, ← te_of_framing m hfr', hdel, hb0, Option.getD_some, reqParsed,
    reqSkeleton, parsedHdr, Bool.false_eq_true, if_false, Bool.false_and, Bool.or_false, hreq, hcode, hstatus]

/-- C15 / C01: the wire form of a well-formed request re-parses to the request (header list: the
end-to-end fields plus the explicit `Content-Length`), and not one byte of what follows is touched. -/
theorem readRequest_wire (m : Msg) (h : WFReq m) (rest : Bytes) :
    readRequest (wire m ++ rest) = .complete (reqParsed m) rest := by
  have hc := oneChunk_spec (m.body.getD [])
  have := readRequest_wire_framed m h _ hc.1 hc.2 rest
  rwa [wire_as, ← wire_eq] at this

theorem two_le_wire_length (m : Msg) : 2 ≤ (wire m).length := by
  simp [wire, headSection_eq, crlf]; omega

theorem flatMap_wire_length (ms : List Msg) : ms.length ≤ (ms.flatMap wire).length := by
  induction ms with
  | nil => simp
  | cons m r ih =>
    have := two_le_wire_length m
    simp only [List.flatMap_cons, List.length_append, List.length_cons]; omega

theorem readRequests_pipelined (ms : List Msg) (h : ∀ m ∈ ms, WFReq m) (fuel : Nat) (hf : ms.length < fuel) :
    readRequests fuel (ms.flatMap wire) = ⟨ms.map reqParsed, none⟩ := by
  induction ms generalizing fuel with
  | nil =>
    obtain ⟨f, rfl⟩ : ∃ f, fuel = f + 1 := ⟨fuel - 1, by simp at hf; omega⟩
    simp [readRequests]
  | cons m r ih =>
    obtain ⟨f, rfl⟩ : ∃ f, fuel = f + 1 := ⟨fuel - 1, by simp at hf; omega⟩
    have hw := two_le_wire_length m
    have hne : (wire m ++ r.flatMap wire).isEmpty = false := by
      cases hq : wire m with
      | nil => simp [hq] at hw
      | cons c t => rfl
    simp only [List.flatMap_cons, List.map_cons]
    unfold readRequests
    simp only [hne, Bool.false_eq_true, if_false, readRequest_wire m (h m (by simp)) (r.flatMap wire)]
    have : ¬ (r.flatMap wire).length ≥ (wire m ++ r.flatMap wire).length := by simp; omega
    simp only [this, if_false]
    rw [ih (fun m hm => h m (by simp [hm])) f (by simp at hf; omega)]

theorem vals_connDropped {maj min : Nat} {l : List KV} {k : Bytes} (hk : (connKey == k) = false) :
    vals (connDropped maj min l) k = vals l k := by
  unfold connDropped; split
  · exact vals_del_ne l k connKey hk
  · rfl

theorem has_connDropped {maj min : Nat} {l : List KV} {k : Bytes} (hk : (connKey == k) = false)
    (h : has l k = false) : has (connDropped maj min l) k = false :=
  has_of_vals_nil _ _ (by rw [vals_connDropped hk]; exact vals_eq_nil_of_has l k h)

theorem resHdr_eq (m : Msg) (hreq : m.isReq = false) :
    sortKV (del (connDropped m.major m.minor (headOf m)) teKey) = resHdr m := by
  have : del (headOf m) teKey = clF m ++ e2e m := by simp [del_headOf_te, hostF, hreq]
  unfold connDropped resHdr
  split
  · rw [del_comm, this]
  · rw [this]

/-- Any status line `HTTP/a.b ddd[ reason]` followed by any list of valid fields and the blank line:
the reader recovers version, status and exactly that field list, then frames the body by
`readTransfer`. -/
theorem readResponseHead_serialized (meth : Bytes) (m : Msg) (hs : List KV) (X : Bytes)
    (hmaj : m.major < 10) (hmin : m.minor < 10) (hst : statusOK m = true)
    (hv : ∀ kv ∈ hs, ValidKV kv = true) :
    readResponseHead meth (protoBytes m.major m.minor ++ [32] ++ m.status ++ crlf ++ fields hs ++ crlf ++ X) =
      liftE (readTransfer true meth m.code m.major m.minor (shouldClose m.major m.minor (fixPragma hs))
              (connDropped m.major m.minor (fixPragma hs))) fun t =>
        .complete (resSkeleton m.major m.minor m.code m.status, t) X := by
  simp only [statusOK, Bool.and_eq_true, beq_iff_eq] at hst
  obtain ⟨⟨⟨hc3, hcd⟩, hcv⟩, hnolf'⟩ := hst
  have hpb := protoBytes_bytes _ _ hmaj hmin
  have hnolf := no_lf_sp _ m.status (fun c hc => (hpb c hc).1) fun c hc => by
    simpa using List.all_eq_true.mp hnolf' c hc
  -- a status with a leading space would have an empty code: `ReadResponse` strips nothing from it
  have hdw : m.status.dropWhile (· == 32) = m.status := by
    cases hs : m.status with
    | nil => rfl
    | cons d r =>
      by_cases hd : d = 32
      · rw [hs, hd] at hc3; simp [codeOf, cut] at hc3
      · rw [List.dropWhile_cons_of_neg (by simpa using hd)]
  rw [List.append_assoc _ (fields hs), List.append_assoc _ (fields hs ++ crlf)]
  unfold readResponseHead
  rw [readLine_crlf _ _ hnolf, List.append_assoc _ [32], List.singleton_append]
  simp only [cut_append 32 _ m.status (fun c hc => (hpb c hc).2), hdw, hc3, bne_self_eq_false, Bool.false_eq_true,
    if_false, hcd, Bool.not_true, parseHTTPVersion_proto _ _ hmaj hmin, readHeader_fields _ hv, hcv]
  rfl

theorem readResponseHead_wire (meth : Bytes) (m : Msg) (hreq : m.isReq = false)
    (hte : m.te = if isChunked m.te then [chunkedTok] else [])
    (hmaj : m.major < 10) (hmin : m.minor < 10) (hst : statusOK m = true) (hhdr : m.hdr.all ValidKV = true)
    (hpr : has (e2e m) pragmaKey = false) (X : Bytes) :
    readResponseHead meth (headSection m ++ X) =
      liftE (readTransfer true meth m.code m.major m.minor (shouldClose m.major m.minor (headOf m))
              (connDropped m.major m.minor (headOf m))) fun t =>
        .complete (resSkeleton m.major m.minor m.code m.status, t) X := by
  rw [headSection_eq, startLine, if_neg (by simp [hreq]),
    readResponseHead_serialized meth m (headOf m) X hmaj hmin hst (valid_headOf m (by simp [hreq]) hhdr hte),
    fixPragma_id _ (has_headOf_pragma m hpr)]

theorem readResponse_wire_framed (meth : Bytes) (m : Msg) (h : WFRes meth m)
    (cs : List Bytes) (hcs : cs.flatten = m.body.getD []) (hne : ∀ c ∈ cs, c ≠ []) (rest : Bytes)
    (hrest : lengthDelimited m = false → rest = []) :
    readResponse meth ((if isChunked m.te then wireChunkedAs m cs else wire m) ++ rest) =
      .complete (resParsed m) rest := by
  obtain ⟨hreq, hmeth, hurl, hhost, hhd, hnb, hmaj, hmin, hst, hhdr, htr, hpr, hfr, hbody, htrl⟩ := h
  obtain ⟨k, ht, hb⟩ := readTransfer_readBody true meth m.code (shouldClose m.major m.minor (headOf m)) m
    (connDropped m.major m.minor (headOf m))
    (by rw [vals_connDropped keyNe.conn_te]; exact vals_headOf_te m (te_of_framing m hfr))
    (by rw [vals_connDropped keyNe.conn_cl]; exact vals_headOf_cl m)
    (has_connDropped keyNe.conn_trailer (has_headOf_trailer m htr))
    (by simp [hhd]) hnb hfr htrl cs hcs hne rest hrest
  obtain ⟨b, hb0⟩ := Option.isSome_iff_exists.mp hbody
  unfold readResponse
  rw [wire_as, List.append_assoc,
    readResponseHead_wire meth m hreq (te_of_framing m hfr) hmaj hmin hst hhdr hpr, ht]
  simp only [liftE, finishBody, hb, resHdr_eq m hreq, ← te_of_framing m hfr, hb0, Option.getD_some, resParsed,
    resSkeleton, if_true, Bool.true_and, hreq, hmeth, hurl, hhost]

theorem readResponse_wire (meth : Bytes) (m : Msg) (h : WFRes meth m) (rest : Bytes)
    (hrest : lengthDelimited m = false → rest = []) :
    readResponse meth (wire m ++ rest) = .complete (resParsed m) rest := by
  have hc := oneChunk_spec (m.body.getD [])
  have := readResponse_wire_framed meth m h _ hc.1 hc.2 rest hrest
  rwa [wire_as, ← wire_eq] at this

theorem readResponse_wire_delimited (meth : Bytes) (m : Msg) (h : WFRes meth m) (hl : lengthDelimited m = true)
    (rest : Bytes) : readResponse meth (wire m ++ rest) = .complete (resParsed m) rest :=
  readResponse_wire meth m h rest (by simp [hl])

theorem readResponse_head (m : Msg) (h : WFResHead m) (rest : Bytes) :
    readResponse headTok (headSection m ++ rest) = .complete (resParsedHead m) rest := by
  obtain ⟨hreq, hmeth, hurl, hhost, hmaj, hmin, hst, hhdr, hpr, hte, hclm, hcl63, hbody, htrn⟩ := h
  have hch : isChunked m.te = false := by simp [hte, isChunked]
  have hteh : has (connDropped m.major m.minor (headOf m)) teKey = false :=
    has_connDropped keyNe.conn_te
      (has_of_vals_nil _ _ ((vals_headOf_te m (by simp [hte, isChunked])).trans (by simp [hch])))
  have hclv := vals_headOf_cl m
  rw [← vals_connDropped (maj := m.major) (min := m.minor) keyNe.conn_cl, hch] at hclv
  have ht : readTransfer true headTok m.code m.major m.minor (shouldClose m.major m.minor (headOf m))
      (connDropped m.major m.minor (headOf m)) =
      .ok { hdr := connDropped m.major m.minor (headOf m), chunked := false, cl := m.cl,
            close := shouldClose m.major m.minor (headOf m), decl := none, body := .none } := by
    by_cases hcl : m.cl = -1
    · rw [hcl] at hclv ⊢
      exact (readTransfer_none true headTok _ _ _ _ _ hteh (has_of_vals_nil _ _ hclv) (by simp)).trans (by simp)
    · obtain ⟨n, hn⟩ : ∃ n : Nat, m.cl = n := ⟨m.cl.toNat, by omega⟩
      rw [hn, itoa_ofNat] at hclv
      rw [hn]
      exact (readTransfer_cl true headTok _ _ _ _ _ _ n hteh (by simpa using hclv) (parseCL_natDigits n (by omega))
        (by simp)).trans (by simp)
  unfold readResponse
  rw [readResponseHead_wire headTok m hreq (by simp [hte, isChunked]) hmaj hmin hst hhdr hpr, ht]
  have hdel : del (connDropped m.major m.minor (headOf m)) teKey = connDropped m.major m.minor (headOf m) :=
    del_eq_self_of_has _ _ hteh
  simp only [liftE, finishBody, readBody_none, resParsedHead, ← resHdr_eq m hreq, hdel, resSkeleton, hreq, hmeth,
    hurl, hhost, hte, hbody, htrn, Bool.false_eq_true, if_false, Option.map_none]

theorem vals_e2e (m : Msg) (k : Bytes) (hk : (exclOf m).contains k = false) : vals (e2e m) k = vals m.hdr k := by
  rw [e2e, vals_filter_notin _ _ _ hk, vals_sortKV]

theorem vals_parsedHdr (m : Msg) (k : Bytes) (hk : (exclOf m).contains k = false) (hcl : (clKey == k) = false) :
    vals (parsedHdr m) k = vals m.hdr k := by
  rw [parsedHdr, vals_sortKV, vals_append, vals_eq_nil_of_has _ _ (has_clF m k hcl), vals_e2e m k hk]; rfl

theorem vals_resHdr (m : Msg) (k : Bytes) (hk : (exclOf m).contains k = false) (hcl : (clKey == k) = false)
    (hconn : (connKey == k) = false) : vals (resHdr m) k = vals m.hdr k := by
  rw [resHdr, vals_sortKV]
  split
  · rw [vals_del_ne _ _ _ hconn, vals_append, vals_eq_nil_of_has _ _ (has_clF m k hcl), vals_e2e m k hk]; rfl
  · rw [vals_append, vals_eq_nil_of_has _ _ (has_clF m k hcl), vals_e2e m k hk]; rfl

/-- A full snapshot of a message without a trailer map is its wire form (the C15 theorem
`snapshot_is_wire_partial`, restated here for the sub-files of `Props/C15`). -/
theorem snapshot_message_eq_wire (o : Opts) (m : Msg) (hc : captures o m = true) (ht : m.trailer = none) :
    (snapshot o m).message = wire m := by
  unfold snapshot wire
  simp only [hc, if_true, trailerSection, ht, framedBody]
  cases hch : isChunked m.te <;> simp [fields, sortKV]

/-- F15a in the terms of this file: with a trailer map on a chunked message the snapshot is the
wire form minus its final CRLF. -/
theorem wire_eq_snapshot_crlf (o : Opts) (m : Msg) (t : List KV) (hc : captures o m = true)
    (ht : m.trailer = some t) (hch : isChunked m.te = true) : wire m = (snapshot o m).message ++ crlf := by
  unfold snapshot wire
  simp [hc, trailerSection, ht, framedBody, hch]

theorem reqParsed_msg_of_normal (m : Msg) (h : parsedHdr m = m.hdr) (hc : parsedCL m = m.cl) :
    (reqParsed m).msg = m := by
  cases m; simp_all [reqParsed]

theorem resParsed_msg_of_normal (m : Msg) (h : resHdr m = m.hdr) : (resParsed m).msg = m := by
  cases m; simp_all [resParsed]

end Martian.Http1
