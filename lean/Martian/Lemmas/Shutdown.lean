import Martian.Lemmas.ShutdownStep
import Martian.Lemmas.Lists
/-!
Invariants of the C07 shutdown model and their preservation by every step, proved by cases on the transition
relations of `Lemmas/ShutdownStep.lean`.
-/
namespace Martian.Shutdown

/-- Program counters a handler can be at if it never passed the `Closing()` check with "not closing". -/
def Pc.afterClosing : Pc → Bool
  | .accepted | .spawned | .added | .closingConn | .closed | .done => true
  | _ => false

/-- The handler is on its way out (`handleLoop` returning). -/
def Pc.winding : Pc → Bool
  | .closingConn | .closed | .done | .drainBody true => true
  | _ => false

def ClosePc.chanIsClosed : ClosePc → Bool
  | .idle | .called => false
  | _ => true

/-- Every recorded response is marked close iff close was asked for or shutdown was observable. -/
def MarksOk (ms : List (Bool × Bool × Bool)) : Prop := ∀ m ∈ ms, m.2.2 = (m.2.1 || m.1)

theorem MarksOk_snoc {ms : List (Bool × Bool × Bool)} {o a b : Bool} (h : MarksOk ms) (hb : b = (a || o)) :
    MarksOk (ms ++ [(o, a, b)]) := by
  intro m hm
  rcases List.mem_append.mp hm with hm | hm
  · exact h m hm
  · simp at hm; subst hm; exact hb

theorem anyMarked_snoc (ms : List (Bool × Bool × Bool)) (o a b : Bool) :
    anyMarked (ms ++ [(o, a, b)]) = (anyMarked ms || b) := by
  simp [anyMarked]

/-- Per-handler invariant relative to the shared state. -/
structure HOk (closing : Bool) (cpc : ClosePc) (h : Handler) : Prop where
  exch : h.started = h.completed + h.hijacked + h.aborted + (if h.pc.inExchange then 1 else 0)
  mlen : h.marks.length + h.cresps = h.completed
  mark : MarksOk h.marks
  dec : ∀ b, (h.pc = .decided b ∨ h.pc = .writing b) → b = (h.reqClose || h.resClose || h.obsAtDecision)
  obs : h.obsAtDecision = true → closing = true
  afterMark : anyMarked h.marks = true → h.pc.winding = true
  sam : h.servedAfterMark = false
  sar : h.startedAfterReturn = false
  late : h.late = true → closing = true ∧ h.entered = false
  ent : h.entered = false → h.pc.afterClosing = true ∧ h.started = 0
  pre : (h.pc = .accepted ∨ h.pc = .spawned ∨ h.pc = .added) → h.entered = false
  zero : cpc = .zeroSeen → h.pc.counted = false
  ret : cpc = .returned → h.pc.afterClosing = true


section handler
variable {c mu r : Bool} {cpc : ClosePc} {h h' : Handler} {l : HL} {p p' : Pc}

theorem PcEdge.inExchange (e : PcEdge p l p') :
    (if p'.inExchange then 1 else 0) + (if l = .writeEnd then 1 else 0) + (if l = .cwriteEnd then 1 else 0) +
        (if l = .hijack then 1 else 0) + (if l = .writeErr then 1 else 0) =
      (if p.inExchange then 1 else 0) + (if l = .reqmodStart then 1 else 0) := by
  cases e <;> rfl

theorem PcEdge.counted (e : PcEdge p l p') (n : Nat) :
    l.wgAfter (n + if p.counted then 1 else 0) = n + if p'.counted then 1 else 0 := by
  cases e <;> rfl

theorem PcEdge.uncounted (e : PcEdge p l p') (hp : p.counted = false) : p'.counted = false ∨ l = .add := by
  cases e
  case spawn => exact .inl rfl
  case add => exact .inr rfl
  all_goals cases hp

theorem PcEdge.winding (e : PcEdge p l p') (hp : p.winding = true) : p'.winding = true := by
  cases e
  case bodyDoneClose | closeConn | finish => rfl
  all_goals cases hp

theorem PcEdge.afterClosing (e : PcEdge p l p') (hp : p.afterClosing = true) :
    p'.afterClosing = true ∨ l = .checkClosing := by
  cases e
  case checkClosingOpen => exact .inr rfl
  case spawn | add | checkClosingShut | closeConn | finish => exact .inl rfl
  all_goals cases hp

theorem PcEdge.pre (e : PcEdge p l p') (hp : p' = .accepted ∨ p' = .spawned ∨ p' = .added) :
    (p = .accepted ∨ p = .spawned ∨ p = .added) ∧ l ≠ .checkClosing := by
  cases e <;> simp at hp ⊢

theorem PcEdge.decided {b : Bool} (e : PcEdge p l p') (hp : p' = .decided b ∨ p' = .writing b) :
    l = .decide ∨ (l = .writeStart ∧ p = .decided b) := by
  cases e
  case decide => exact .inl rfl
  case writeStart b' => simpa using hp
  all_goals simp at hp

theorem PcEdge.ne_accepted (e : PcEdge p l p') : p' ≠ .accepted := by
  cases e <;> exact Pc.noConfusion

theorem PcEdge.spawn_iff (e : PcEdge p l p') : p = .accepted ↔ l = .spawn := by
  cases e <;> simp

theorem Pc.not_winding_of_readable (hp : p.readable = true) : p.winding = false := by
  rcases Pc.readable_iff.mp hp with rfl | rfl <;> rfl

theorem Pc.not_inExchange_of_winding (hp : p.winding = true) : p.inExchange = false := by
  cases p
  case closingConn | closed | done | drainBody => rfl
  all_goals cases hp

theorem Pc.counted_eq_false_iff : p.counted = false ↔ p = .accepted ∨ p = .spawned ∨ p = .done := by
  cases p <;> simp [Pc.counted]

theorem Pc.counted_of_inExchange (hp : p.inExchange = true) : p.counted = true := by
  cases hc : p.counted
  · rcases Pc.counted_eq_false_iff.mp hc with rfl | rfl | rfl <;> cases hp
  · rfl

theorem Pc.afterClosing_of_not_counted (hp : p.counted = false) : p.afterClosing = true := by
  rcases Pc.counted_eq_false_iff.mp hp with rfl | rfl | rfl <;> rfl

theorem Pc.not_peerBlocked_of_inExchange (hp : p.inExchange = true) : p.peerBlocked = false := by
  cases p
  case tunnel | mitmPeek | mitmHandshake | drainBody => cases hp
  all_goals rfl

theorem PcEdge.peerBlocked (e : PcEdge p l p') (hp : p.peerBlocked = true) :
    l = .tunnelEnd ∨ (∃ tls, l = .peeked tls) ∨ (∃ r, l = .handshakeEnd r) ∨ l = .bodyDone := by
  cases e
  case tunnelEnd | peekedTls | peekedPlain | handshakeFail | handshakeH1 | handshakeH2 | bodyDoneClose | bodyDoneKeep =>
    simp
  all_goals cases hp

theorem PcEdge.drainBody {b : Bool} (e : PcEdge p l p') (hp : p' = .drainBody b) :
    l = .writeEnd ∧ p = .writing b := by
  cases e <;> cases hp
  exact ⟨rfl, rfl⟩

theorem HStep.counters (st : HStep c mu r h l h') :
    h'.started = h.started + (if l = .reqmodStart then 1 else 0) ∧
    h'.completed = h.completed + (if l = .writeEnd then 1 else 0) + (if l = .cwriteEnd then 1 else 0) ∧
    h'.hijacked = h.hijacked + (if l = .hijack then 1 else 0) ∧
    h'.aborted = h.aborted + (if l = .writeErr then 1 else 0) ∧
    h'.cresps = h.cresps + (if l = .cwriteEnd then 1 else 0) ∧
    h'.marks.length = h.marks.length + (if l = .writeEnd then 1 else 0) := by
  cases st
  case writeEnd => exact ⟨rfl, rfl, rfl, rfl, rfl, List.length_append⟩
  all_goals exact ⟨rfl, rfl, rfl, rfl, rfl, rfl⟩

/-- The labels whose guard or update reads the shared state: `closing`, `connsMu`, whether `Close` has returned. -/
def HL.readsShared : HL → Bool
  | .add | .checkClosing | .closingSeen | .reqmodStart | .h2Stop | .decide => true
  | _ => false

theorem HStep.indep (st : HStep c mu r h l h') (hl : l.readsShared = false) :
    ∀ c' m' r', hstep c' m' r' h l = some h' := by
  cases st
  case add | checkClosing | closingSeen | reqmodStart | h2Stop | decide => cases hl
  case cwriteErr hp => exact fun _ _ _ => hstep_eq_some_iff.mpr (.cwriteErr hp)
  all_goals exact fun _ _ _ => hstep_eq_some_iff.mpr (by constructor <;> assumption)

theorem HOk.not_marked (ok : HOk c cpc h) (hw : h.pc.winding = false) : anyMarked h.marks = false := by
  cases hm : anyMarked h.marks
  · rfl
  · rw [ok.afterMark hm] at hw; cases hw

theorem hstep_ok (hg : cpc = .returned → c = true) (ok : HOk c cpc h)
    (st : HStep c cpc.holdsMu (decide (cpc = .returned)) h l h') : HOk c cpc h' := by
  -- per field: only the labels that touch it need an argument; in every other constructor the fields of `h'`
  -- are those of `h` by definition and the program counter is covered by a fact about `PcEdge`
  have e := st.edge
  refine ⟨?exch, ?mlen, ?mark, ?dec, ?obs, ?afterMark, ?sam, ?sar, ?late, ?ent, ?pre, ?zero, ?ret⟩
  case exch =>
    have k := st.counters
    have b := e.inExchange
    have := ok.exch
    omega
  case mlen =>
    have k := st.counters
    have := ok.mlen
    omega
  case mark =>
    cases st
    case writeEnd b hp => exact MarksOk_snoc ok.mark (ok.dec b (.inr hp))
    all_goals exact ok.mark
  case dec =>
    intro b hb
    rcases e.decided hb with hl | ⟨hl, hp⟩ <;> subst hl <;> cases st
    case decide =>
      rcases hb with hb | hb
      · exact (Pc.decided.inj hb).symm
      · cases hb
    case writeStart b0 hp0 =>
      rw [hp0] at hp; cases hp
      exact ok.dec b (.inl hp0)
  case obs =>
    cases st
    case decide => exact id
    all_goals exact ok.obs
  case afterMark =>
    cases st
    case writeEnd b hp =>
      -- nothing was marked before (the handler is writing, not winding), so `b` itself is the mark
      intro hm
      have h0 := ok.not_marked (by rw [hp]; rfl)
      rw [anyMarked_snoc, h0, Bool.false_or] at hm
      subst hm
      show Pc.winding (if h.bodyOpen then _ else _) = true
      cases h.bodyOpen <;> rfl
    all_goals exact fun hm => e.winding (ok.afterMark hm)
  case sam =>
    cases st
    case gotReq hp | gotReqOpen hp | gotConnect hp =>
      show (h.servedAfterMark || anyMarked h.marks) = false
      rw [ok.sam, ok.not_marked (Pc.not_winding_of_readable hp)]; rfl
    all_goals exact ok.sam
  case sar =>
    cases st
    case reqmodStart hp =>
      show (h.startedAfterReturn || decide (cpc = .returned)) = false
      rw [ok.sar, Bool.false_or, decide_eq_false_iff_not]
      intro hc
      have := ok.ret hc
      rw [hp] at this; cases this
    all_goals exact ok.sar
  case late =>
    cases st
    case checkClosing => exact fun hl => ⟨(ok.late hl).1, by rw [(ok.late hl).1]; rfl⟩
    all_goals exact ok.late
  case ent =>
    cases st
    case checkClosing hp =>
      intro he
      have hc : c = true := by
        cases c
        · cases he
        · rfl
      subst hc
      exact ⟨rfl, (ok.ent (ok.pre (.inr (.inr hp)))).2⟩
    case reqmodStart hp =>
      intro he
      have := (ok.ent he).1
      rw [hp] at this; cases this
    all_goals exact fun he => ⟨(e.afterClosing (ok.ent he).1).resolve_right nofun, (ok.ent he).2⟩
  case pre =>
    cases st
    case checkClosing => exact fun hq => absurd rfl (e.pre hq).2
    all_goals exact fun hq => ok.pre (e.pre hq).1
  case zero =>
    cases st
    case add hp =>
      -- `conns.Add(1)` needs `connsMu`, which `Close` holds from `locked` on
      intro hz
      rw [hz] at hp; cases hp.2
    all_goals exact fun hz => (e.uncounted (ok.zero hz)).resolve_right nofun
  case ret =>
    cases st
    case checkClosing => exact fun hr => by rw [hg hr]; rfl
    all_goals exact fun hr => (e.afterClosing (ok.ret hr)).resolve_right nofun

end handler

theorem hstep_spawn_pc {c mu r : Bool} {h h' : Handler}
    (hs : hstep c mu r h .spawn = some h') : h.pc = .accepted ∧ h'.pc = .spawned := by
  cases hstep_eq_some_iff.mp hs with
  | spawn hp => exact ⟨hp, rfl⟩

/-- Number of handlers counted in the wait group. -/
def cnt (hs : List Handler) : Nat := hs.countP (·.pc.counted)

theorem cnt_set {hs : List Handler} {k : Nat} {h : Handler} (hk : hs[k]? = some h) :
    ∃ n, cnt hs = n + (if h.pc.counted then 1 else 0) ∧
      ∀ h', cnt (hs.set k h') = n + (if h'.pc.counted then 1 else 0) := by
  obtain ⟨pre, post, rfl, hset⟩ := getElem?_split hk
  refine ⟨cnt pre + cnt post, ?_, fun h' => ?_⟩
  · simp only [cnt, List.countP_append, List.countP_cons]; omega
  · simp only [hset, cnt, List.countP_append, List.countP_cons]; omega

theorem cnt_pos {hs : List Handler} {k : Nat} {h : Handler} (hk : hs[k]? = some h) (hc : h.pc.counted = true) :
    0 < cnt hs :=
  List.countP_pos_iff.mpr ⟨h, List.mem_of_getElem? hk, hc⟩

theorem cnt_eq_zero {hs : List Handler} : cnt hs = 0 ↔ ∀ h ∈ hs, h.pc.counted = false := by
  simp [cnt, List.countP_eq_zero]

/-- Invariant of the reachable states: the `closing` channel is closed from `closeChan` on; the wait group
counts the handlers between `conns.Add(1)` and `conns.Done()`; each handler satisfies `HOk`; `Serve` holds
connection `k` (accepted, `go` statement not yet executed) exactly while handler `k` is at `accepted`. -/
structure Good (s : Sys) : Prop where
  chan : s.closing = s.cpc.chanIsClosed
  wg : s.wg = cnt s.hs
  hok : ∀ h ∈ s.hs, HOk s.closing s.cpc h
  acc : ∀ k h, s.hs[k]? = some h → (h.pc = .accepted ↔ s.acc = .holding k)

theorem good_init : Good init := by
  constructor <;> simp [init, ClosePc.chanIsClosed, cnt]

theorem HOk.accepted (c : Bool) (cpc : ClosePc) : HOk c cpc { pc := .accepted, late := c } := by
  constructor <;> simp [Pc.inExchange, Pc.winding, Pc.afterClosing, Pc.counted, anyMarked, MarksOk]

theorem Step.getElem {s s' : Sys} {l : Label} {k : Nat} {h : Handler} (st : Step s l s')
    (hk : s.hs[k]? = some h) :
    s'.hs[k]? = some h ∨
      ∃ l' h', l = .h k l' ∧ HStep s.closing s.cpc.holdsMu (s.cpc = .returned) h l' h' ∧ s'.hs[k]? = some h' := by
  have hlt : k < s.hs.length := (List.getElem?_eq_some_iff.mp hk).1
  cases st with
  | @h j l hj h' hjk _ st =>
    by_cases e : j = k
    · subst e
      rw [hk] at hjk; cases hjk
      exact .inr ⟨l, h', rfl, st, List.getElem?_set_self hlt⟩
    · exact .inl ((List.getElem?_set_ne e).trans hk)
  | accept => exact .inl ((List.getElem?_append_left hlt).trans hk)
  | _ => exact .inl hk

theorem Step.forall_handlers {P : Handler → Prop} {s s' : Sys} {l : Label} (st : Step s l s')
    (h0 : ∀ h ∈ s.hs, P h) (hnew : P { pc := .accepted, late := s.closing })
    (hstep : ∀ k l' h h', l = .h k l' → HStep s.closing s.cpc.holdsMu (s.cpc = .returned) h l' h' → P h → P h') :
    ∀ h ∈ s'.hs, P h := by
  cases st with
  | @h k l h h' hk _ st =>
    intro x hx
    rcases List.mem_or_eq_of_mem_set hx with hx | hx
    · exact h0 x hx
    · subst hx; exact hstep k l h x rfl st (h0 h (List.mem_of_getElem? hk))
  | accept =>
    intro x hx
    rcases List.mem_append.mp hx with hx | hx
    · exact h0 x hx
    · rw [List.mem_singleton.mp hx]; exact hnew
  | _ => exact h0

theorem Good.close_step {s : Sys} (g : Good s) {c' : ClosePc} {b re : Bool}
    (hc : b = c'.chanIsClosed) (hmono : s.closing = true → b = true)
    (hz : c' = .zeroSeen → ∀ h ∈ s.hs, h.pc.counted = false)
    (hr : c' = .returned → ∀ h ∈ s.hs, h.pc.afterClosing = true) :
    Good { s with closing := b, cpc := c', returnedEarly := re } :=
  ⟨hc, g.wg, fun h hm =>
    { g.hok h hm with
      obs := fun x => hmono ((g.hok h hm).obs x)
      late := fun x => ⟨hmono ((g.hok h hm).late x).1, ((g.hok h hm).late x).2⟩
      zero := fun e => hz e h hm
      ret := fun e => hr e h hm }, g.acc⟩

theorem step_good {s s' : Sys} {l : Label} (g : Good s) (hs : step s l = some s') : Good s' := by
  cases step_eq_some_iff.mp hs with
  | @h k l h h' hk hsp st =>
    have e := st.edge
    have hg : s.cpc = .returned → s.closing = true := fun hc => by rw [g.chan, hc]; rfl
    have hlt : k < s.hs.length := (List.getElem?_eq_some_iff.mp hk).1
    refine ⟨g.chan, ?_, ?_, ?_⟩
    · obtain ⟨n, h1, h2⟩ := cnt_set hk
      show l.wgAfter s.wg = cnt (s.hs.set k h')
      rw [g.wg, h1, h2]
      exact e.counted n
    · exact (Step.h hk hsp st).forall_handlers g.hok (.accepted ..) fun _ _ _ _ _ st ok => hstep_ok hg ok st
    · -- `Serve` holds connection `j` exactly while its handler is at `accepted`; `spawn` is the
      -- only step from there, and no step leads there
      intro j x hj
      show x.pc = .accepted ↔ (if l = .spawn then AccPc.top else s.acc) = .holding j
      by_cases hjk : j = k
      · subst hjk
        rw [List.getElem?_set_self hlt] at hj; cases hj
        refine ⟨fun hx => absurd hx e.ne_accepted, fun hx => ?_⟩
        by_cases hl : l = .spawn
        · rw [if_pos hl] at hx; cases hx
        · rw [if_neg hl] at hx
          exact absurd (e.spawn_iff.mp ((g.acc j h hk).mpr hx)) hl
      · rw [List.getElem?_set_ne (Ne.symm hjk)] at hj
        by_cases hl : l = .spawn
        · rw [if_pos hl, g.acc j x hj, hsp hl]
          exact ⟨fun hx => absurd (AccPc.holding.inj hx).symm hjk, fun hx => by cases hx⟩
        · rw [if_neg hl]; exact g.acc j x hj
  | serveCheck ha =>
    refine ⟨g.chan, g.wg, g.hok, fun k h hk => ?_⟩
    show h.pc = .accepted ↔ (if s.closing = true then AccPc.stopped else AccPc.accepting) = .holding k
    rw [g.acc k h hk, ha]
    constructor
    · intro e; cases e
    · intro e; split at e <;> cases e
  | accept ha =>
    refine ⟨g.chan, ?_, ?_, ?_⟩
    · show s.wg = cnt (s.hs ++ [_])
      simp [cnt, List.countP_append, Pc.counted, g.wg]
    · exact (Step.accept ha).forall_handlers g.hok (.accepted ..) fun _ _ _ _ e => nomatch e
    · intro k h hk
      show h.pc = .accepted ↔ AccPc.holding s.hs.length = .holding k
      by_cases hlt : k < s.hs.length
      · rw [List.getElem?_append_left hlt] at hk
        rw [g.acc k h hk, ha]
        constructor
        · intro e; cases e
        · intro e; injection e with e; omega
      · rw [List.getElem?_append_right (Nat.le_of_not_lt hlt), List.getElem?_singleton] at hk
        split at hk <;> cases hk
        have : k = s.hs.length := by omega
        exact ⟨fun _ => by rw [this], fun _ => rfl⟩
  | closeCall hc | lock hc => exact g.close_step (by rw [g.chan, hc]; rfl) id nofun nofun
  | closeChan hc => exact g.close_step rfl (fun _ => rfl) nofun nofun
  | waitZero hc =>
    exact g.close_step (by rw [g.chan, hc.1]; rfl) id (fun _ => cnt_eq_zero.mp (g.wg ▸ hc.2)) nofun
  | ret hc =>
    exact g.close_step (by rw [g.chan, hc]; rfl) id nofun
      fun _ h hm => Pc.afterClosing_of_not_counted ((g.hok h hm).zero hc)
  | closeCall2 | closeChan2 => exact ⟨g.chan, g.wg, g.hok, g.acc⟩

theorem run_invariant {P : Sys → Prop} {Q : Label → Prop}
    (hP : ∀ {s s' l}, P s → Q l → step s l = some s' → P s') {sched : List Label} {s s' : Sys}
    (h0 : P s) (hq : ∀ l ∈ sched, Q l) (hr : run s sched = some s') : P s' := by
  induction sched generalizing s with
  | nil => cases hr; exact h0
  | cons l ls ih =>
    simp only [run] at hr
    split at hr
    · cases hr
    · rename_i s1 h1
      exact ih (hP h0 (hq l (List.mem_cons_self ..)) h1) (fun x hx => hq x (List.mem_cons_of_mem _ hx)) hr

theorem reachable_good {s : Sys} (h : Reachable s) : Good s := by
  obtain ⟨sched, hr⟩ := h
  exact run_invariant (Q := fun _ => True) (fun g _ hs => step_good g hs) good_init (fun _ _ => trivial) hr

theorem run_append {s : Sys} {a b : List Label} :
    run s (a ++ b) = (run s a).bind (fun s1 => run s1 b) := by
  induction a generalizing s with
  | nil => simp [run]
  | cons l ls ih =>
    simp only [List.cons_append, run]
    split <;> simp [ih]

theorem reachable_step {s s' : Sys} {l : Label} (h : Reachable s) (hs : step s l = some s') : Reachable s' := by
  obtain ⟨sched, hr⟩ := h
  refine ⟨sched ++ [l], ?_⟩
  rw [run_append, hr]
  simp [run, hs]

/-- Every `PcEdge` of a drain move goes down (`PcEdge.rank`). The readable program counters sit below every
exchange and tunnel one because those lead back to `idleRead`; the way up again (`gotReq`, `gotConnect`) is a
client move, not a drain move. -/
def Pc.rank : Pc → Nat
  | .accepted => 20 | .spawned => 19 | .added => 18 | .haveReq => 17 | .inReqmod => 16 | .postReqmod => 15
  | .inRoundTrip => 14 | .dialing => 14 | .postRoundTrip => 13 | .inResmod => 12 | .postResmod => 11
  | .decided _ => 10 | .cwriting => 10 | .writing _ => 9
  | .tunnel => 8 | .mitmPeek => 8 | .mitmHandshake => 7 | .h2session => 6 | .drainBody _ => 5
  | .idleRead => 4 | .midHead => 3
  | .closingConn => 2 | .closed => 1 | .done => 0

def ClosePc.rank : ClosePc → Nat
  | .idle => 5 | .called => 4 | .chanClosed => 3 | .locked => 2 | .zeroSeen => 1 | .returned => 0

/-- `serveCheck` (from `top`) has to go down and `spawn` (`holding` to `top`) must not go up; `accept` goes up, but
is a client move. -/
def AccPc.rank : AccPc → Nat
  | .holding _ => 2 | .top => 1 | .accepting => 0 | .stopped => 0

def hsum (hs : List Handler) : Nat := (hs.map (·.pc.rank)).sum

/-- Termination measure: strictly decreased by every move of the proxy itself and by every move of a
peer that ends the wait of a peer-blocked handler. -/
def measure (s : Sys) : Nat := hsum s.hs + s.cpc.rank + s.acc.rank + s.extra

/-- Shutdown is complete: `Close` has returned and every accepted connection's handler is done. -/
def Final (s : Sys) : Prop := s.cpc = .returned ∧ ∀ h ∈ s.hs, h.pc = .done

/-- Moves that drain the proxy: its own moves and the peer moves that end the wait of a peer-blocked handler
(open tunnel, pending MITM peek or handshake, request body still being drained). -/
def Label.drain (l : Label) : Bool := l.internal || l.peerMove

theorem hsum_set {hs : List Handler} {k : Nat} {h h' : Handler} (hk : hs[k]? = some h) :
    hsum (hs.set k h') + h.pc.rank = hsum hs + h'.pc.rank := by
  obtain ⟨pre, post, rfl, hset⟩ := getElem?_split hk
  simp only [hset, hsum, List.map_append, List.map_cons, List.sum_append, List.sum_cons]; omega

theorem PcEdge.rank {p p' : Pc} {l : HL} (e : PcEdge p l p') (k : Nat) (hd : (Label.h k l).drain = true) :
    p'.rank < p.rank := by
  cases e
  case gotReqIdle | gotReqMid | gotReqOpenIdle | gotReqOpenMid | gotConnectIdle | gotConnectMid => cases hd
  all_goals simp [Pc.rank]

theorem drain_step_decreases {s s' : Sys} {l : Label} (hs : step s l = some s') (hi : l.drain = true) :
    measure s' < measure s := by
  cases step_eq_some_iff.mp hs with
  | accept | closeCall | closeCall2 => cases hi
  | closeChan2 hc => simp only [measure]; omega
  | serveCheck ha => simp only [measure, ha]; split <;> simp [AccPc.rank]
  | closeChan hc | lock hc | ret hc => simp [measure, hc, ClosePc.rank]
  | waitZero hc => simp [measure, hc.1, ClosePc.rank]
  | @h k l h h' hk hsp st =>
    have hr := st.edge.rank k hi
    have hset := hsum_set (h' := h') hk
    have hacc : (if l = .spawn then AccPc.top else s.acc).rank ≤ s.acc.rank := by
      by_cases e : l = .spawn
      · rw [if_pos e, hsp e]; simp [AccPc.rank]
      · rw [if_neg e]; exact Nat.le_refl _
    simp only [measure]
    omega

theorem step_cpc_ne_idle {s s' : Sys} {l : Label} (hs : step s l = some s') (hc : s.cpc ≠ .idle) :
    s'.cpc ≠ .idle := by
  cases step_eq_some_iff.mp hs with
  | closeCall | closeChan | lock | waitZero | ret => nofun
  | _ => exact hc

/-- The next move of a counted handler once shutdown has been signalled. For a peer-blocked handler it
is the move of the peer that ends the wait. Where the model offers several outcomes (`rtEnd`, `dialEnd`,
`peeked`, `handshakeEnd`) any one serves: `next_enabled` needs one enabled move. The default covers `closed`;
`accepted`, `spawned` and `done` are not counted. -/
def Handler.next (h : Handler) : HL :=
  match h.pc with
  | .added => .checkClosing
  | .idleRead | .midHead => .closingSeen
  | .haveReq => .reqmodStart
  | .inReqmod => .reqmodEnd
  | .postReqmod => if h.conn = .no then .rtStart else .dialStart
  | .inRoundTrip => .rtEnd false
  | .dialing => .dialEnd false
  | .postRoundTrip => .resmodStart
  | .inResmod => .resmodEnd
  | .postResmod => if h.conn = .no then .decide else .cwriteStart
  | .decided _ => .writeStart
  | .writing _ => .writeEnd
  | .cwriting => .cwriteEnd
  | .h2session => .h2Stop
  | .tunnel => .tunnelEnd
  | .mitmPeek => .peeked false
  | .mitmHandshake => .handshakeEnd .fail
  | .drainBody _ => .bodyDone
  | .closingConn => .closeConn
  | _ => .finish

theorem next_enabled {mu r : Bool} {h : Handler} (hc : h.pc.counted = true) :
    (hstep true mu r h h.next).isSome = true ∧ h.next ≠ .spawn ∧
    ∀ k, (Label.h k h.next).internal = true ∨
      (h.pc.peerBlocked = true ∧ (Label.h k h.next).peerMove = true) := by
  cases hp : h.pc <;> rw [hp] at hc
  case accepted | spawned | done => cases hc
  case postReqmod | postResmod =>
    by_cases hcn : h.conn = .no <;>
      simp [Handler.next, hstep, hp, hcn, Label.internal, Label.peerMove]
  all_goals simp [Handler.next, hstep, hp, Pc.readable, Label.internal, Label.peerMove, Pc.peerBlocked]

theorem progress_by_proxy_or_peer {s : Sys} (hr : Reachable s) (hc : s.cpc ≠ .idle) (hnf : ¬ Final s) :
    ∃ l, (step s l).isSome = true ∧
      (l.internal = true ∨ (l.peerMove = true ∧ ∃ h ∈ s.hs, h.pc.peerBlocked = true)) := by
  have g := reachable_good hr
  have enabled {l : Label} {s' : Sys} (st : Step s l s') : (step s l).isSome = true := by
    rw [step_eq_some_iff.mpr st]; rfl
  by_cases hcalled : s.cpc = .called
  · exact ⟨.closeChan, enabled (.closeChan hcalled), .inl rfl⟩
  have hclosing : s.closing = true := by
    rw [g.chan]
    cases hcp : s.cpc
    case idle => exact absurd hcp hc
    case called => exact absurd hcp hcalled
    all_goals rfl
  by_cases hex : ∃ h ∈ s.hs, h.pc.counted = true
  · -- a counted handler always has a next move once `closing` is closed
    obtain ⟨h, hm, hcnt⟩ := hex
    obtain ⟨k, hk⟩ := List.getElem?_of_mem hm
    obtain ⟨hen, hns, hmove⟩ := next_enabled (mu := s.cpc.holdsMu) (r := decide (s.cpc = .returned)) hcnt
    obtain ⟨h', hh⟩ := Option.isSome_iff_exists.mp hen
    rw [← hclosing] at hh
    refine ⟨.h k h.next, enabled (.h hk (absurd · hns) (hstep_eq_some_iff.mp hh)), ?_⟩
    exact (hmove k).imp_right fun ⟨h1, h2⟩ => ⟨h2, h, hm, h1⟩
  · have hunc : ∀ h ∈ s.hs, h.pc.counted = false := fun h hm =>
      Bool.eq_false_iff.mpr fun hcn => hex ⟨h, hm, hcn⟩
    have hwg : s.wg = 0 := by rw [g.wg]; exact cnt_eq_zero.mpr hunc
    cases hcp : s.cpc with
    | idle => exact absurd hcp hc
    | called => exact absurd hcp hcalled
    | chanClosed => exact ⟨.lock, enabled (.lock hcp), .inl rfl⟩
    | locked => exact ⟨.waitZero, enabled (.waitZero ⟨hcp, hwg⟩), .inl rfl⟩
    | zeroSeen => exact ⟨.ret, enabled (.ret hcp), .inl rfl⟩
    | returned =>
      -- `Close` has returned but some handler is not done: it was never counted
      have : ∃ h ∈ s.hs, h.pc ≠ .done :=
        Classical.byContradiction fun hno =>
          hnf ⟨hcp, fun h hm => Classical.byContradiction fun hne => hno ⟨h, hm, hne⟩⟩
      obtain ⟨h, hm, hnd⟩ := this
      obtain ⟨k, hk⟩ := List.getElem?_of_mem hm
      rcases Pc.counted_eq_false_iff.mp (hunc h hm) with hp | hp | hp
      · -- accepted: `Serve` holds it, the `go` statement is enabled
        have hacc := (g.acc k h hk).mp hp
        exact ⟨.h k .spawn, enabled (.h hk (fun _ => hacc) (.spawn hp)), .inl rfl⟩
      · -- spawned: `connsMu` is free again, `conns.Add(1)` is enabled
        exact ⟨.h k .add, enabled (.h hk nofun (.add ⟨hp, by rw [hcp]; rfl⟩)), .inl rfl⟩
      · exact absurd hp hnd

/-- Progress by drain moves. -/
theorem progress {s : Sys} (hr : Reachable s) (hc : s.cpc ≠ .idle) (hnf : ¬ Final s) :
    ∃ l, l.drain = true ∧ (step s l).isSome = true := by
  obtain ⟨l, h1, h2⟩ := progress_by_proxy_or_peer hr hc hnf
  refine ⟨l, ?_, h1⟩
  rcases h2 with h2 | ⟨h2, _⟩ <;> simp [Label.drain, h2]

/-- `D`: the moves the schedule may use (all of them drain moves); `I`: an invariant of those moves under which
one of them stays enabled until `Final`. Each move lowers `measure`, which bounds the length of the schedule. -/
theorem completes_by {D : Label → Bool} {I : Sys → Prop} (hD : ∀ l, D l = true → l.drain = true)
    (hI : ∀ {s s' l}, I s → D l = true → step s l = some s' → I s')
    (hprog : ∀ {s}, Reachable s → s.cpc ≠ .idle → I s → ¬ Final s → ∃ l, D l = true ∧ (step s l).isSome = true)
    {s : Sys} (hr : Reachable s) (hc : s.cpc ≠ .idle) (hi : I s) :
    ∃ sched s', (∀ l ∈ sched, D l = true) ∧ sched.length ≤ measure s ∧ run s sched = some s' ∧ Final s' := by
  generalize hn : measure s = n
  induction n using Nat.strongRecOn generalizing s with
  | _ n ih =>
    by_cases hf : Final s
    · exact ⟨[], s, nofun, Nat.zero_le _, rfl, hf⟩
    · obtain ⟨l, hl, hen⟩ := hprog hr hc hi hf
      obtain ⟨s1, hs⟩ := Option.isSome_iff_exists.mp hen
      have hlt := drain_step_decreases hs (hD l hl)
      obtain ⟨sched, s', h1, h2, h3, h4⟩ :=
        ih (measure s1) (by omega) (reachable_step hr hs) (step_cpc_ne_idle hs hc) (hI hi hl hs) rfl
      refine ⟨l :: sched, s', List.forall_mem_cons.mpr ⟨hl, h1⟩, ?_, ?_, h4⟩
      · simp only [List.length_cons]; omega
      · simp [run, hs, h3]

theorem step_closing_mono {s s' : Sys} {l : Label} (hs : step s l = some s') (hc : s.closing = true) :
    s'.closing = true := by
  cases step_eq_some_iff.mp hs with
  | closeChan => rfl
  | _ => exact hc

/-- The exchange is started and its close decision is still ahead. -/
def Pc.beforeDecision : Pc → Bool
  | .inReqmod | .postReqmod | .inRoundTrip | .postRoundTrip | .inResmod | .postResmod => true
  | _ => false

theorem PcEdge.beforeDecision {p p' : Pc} {l : HL} (e : PcEdge p l p')
    (hp : p.beforeDecision = true ∨ p = .dialing) (k : Nat) :
    (Label.h k l).internal = true ∧ (l.readsShared = false ∨ l = .decide) := by
  cases e
  case decide => exact ⟨rfl, .inr rfl⟩
  case reqmodEnd | rtStart | hijackReq | hijackRes | dialStart | dialEnd | mitmAccept | cwriteStart | rtEnd | rtFail |
      resmodStart | resmodEnd =>
    exact ⟨rfl, .inl rfl⟩
  all_goals simp [Pc.beforeDecision] at hp

/-- Tracking the (non-CONNECT) exchange that will produce recorded response number `i` of a handler:
either it is still in flight and can only be decided "close", or it is complete and recorded as marked,
or it was dropped (hijacked by a modifier, or its write failed because the client went away) and the
handler is on its way out, so that no further response is ever recorded. -/
def Track (i : Nat) (h : Handler) : Prop :=
  (h.marks.length = i ∧ h.conn = .no ∧
    (h.pc.beforeDecision = true ∨ h.pc = .decided true ∨ h.pc = .writing true)) ∨
  (i < h.marks.length ∧ ∃ o a, h.marks[i]? = some (o, a, true)) ∨
  (h.marks.length = i ∧ h.pc.winding = true)

theorem PcEdge.inFlight {p p' : Pc} {l : HL} (e : PcEdge p l p')
    (hp : p.beforeDecision = true ∨ p = .decided true ∨ p = .writing true) :
    l = .reqmodEnd ∨ l = .rtStart ∨ (∃ rc, l = .rtEnd rc) ∨ l = .rtFail ∨ l = .resmodStart ∨ l = .resmodEnd ∨
      l = .hijack ∨ l = .decide ∨ l = .writeStart ∨ l = .writeEnd ∨ l = .writeErr ∨
      l = .dialStart ∨ l = .mitmAccept ∨ l = .cwriteStart := by
  cases e <;> simp [Pc.beforeDecision] at hp ⊢

theorem HStep.track {i : Nat} {mu r : Bool} {h h' : Handler} {l : HL}
    (ht : Track i h) (st : HStep true mu r h l h') : Track i h' := by
  have e := st.edge
  rcases ht with ⟨h2, hcn, h3⟩ | ⟨hlt, o, a, h2⟩ | ⟨h2, hw⟩
  · cases st
    case reqmodEnd | rtStart | rtEnd | rtFail | resmodStart | resmodEnd => exact .inl ⟨h2, hcn, .inl rfl⟩
    case hijack | writeErr => exact .inr (.inr ⟨h2, rfl⟩)
    case decide => exact .inl ⟨h2, hcn, .inr (.inl (congrArg Pc.decided (Bool.or_true _)))⟩
    case writeStart b hp =>
      rw [hp] at h3; simp [Pc.beforeDecision] at h3; subst h3
      exact .inl ⟨h2, hcn, .inr (.inr rfl)⟩
    case writeEnd b hp =>
      -- the response is recorded as number `i`, and it was decided `true`
      rw [hp] at h3; simp [Pc.beforeDecision] at h3; subst h3
      refine .inr (.inl ⟨by simp [h2], h.obsAtDecision, h.reqClose || h.resClose, ?_⟩)
      simp [← h2]
    case dialStart hp | mitmAccept hp | cwriteStart hp => exact absurd hcn hp.2
    case cwriteErr hp => rw [hp] at h3; simp [Pc.beforeDecision] at h3
    all_goals exact absurd (e.inFlight h3) (by simp)
  · cases st
    case writeEnd =>
      exact .inr (.inl ⟨by rw [List.length_append]; omega, o, a, by rw [List.getElem?_append_left hlt]; exact h2⟩)
    all_goals exact .inr (.inl ⟨hlt, o, a, h2⟩)
  · cases st
    case writeEnd b hp => rw [hp] at hw; cases hw
    all_goals exact .inr (.inr ⟨h2, e.winding hw⟩)

theorem track_after_run {sched : List Label} {s s' : Sys} {k i : Nat} {h h' : Handler}
    (hc : s.closing = true) (hk : s.hs[k]? = some h) (ht : Track i h) (hr : run s sched = some s')
    (hk' : s'.hs[k]? = some h') : Track i h' := by
  obtain ⟨_, h2, hk2, ht2⟩ :=
    run_invariant (P := fun s => s.closing = true ∧ ∃ h', s.hs[k]? = some h' ∧ Track i h') (Q := fun _ => True)
      (fun ⟨hc, h, hk, ht⟩ _ hs => ⟨step_closing_mono hs hc, by
        rcases (step_eq_some_iff.mp hs).getElem hk with hk' | ⟨l', h', _, st, hk'⟩
        · exact ⟨h, hk', ht⟩
        · rw [hc] at st; exact ⟨h', hk', st.track ht⟩⟩)
      ⟨hc, h, hk, ht⟩ (fun _ _ => trivial) hr
  rw [hk'] at hk2; cases hk2
  exact ht2

/-- The two labels after which an exchange gets no complete response from the proxy: the client went away
during the write, a modifier hijacked the connection. -/
def Label.isFault : Label → Bool
  | .h _ .writeErr | .h _ .hijack => true
  | _ => false

/-- A handler from which no tunnel can arise without a new request: it is not waiting for a peer, not
inside the CONNECT-only steps, has no request body left open, and the exchange it is in (if any) is not a
CONNECT. -/
def Handler.plain (h : Handler) : Bool :=
  !h.pc.peerBlocked && h.pc != .dialing && h.pc != .cwriting && !h.bodyOpen &&
    (!(h.pc.inExchange || h.pc == .haveReq) || h.conn == .no)

theorem Handler.plain_iff {h : Handler} :
    h.plain = true ↔ h.pc.peerBlocked = false ∧ h.pc ≠ .dialing ∧ h.pc ≠ .cwriting ∧ h.bodyOpen = false ∧
      (h.pc.inExchange = true ∨ h.pc = .haveReq → h.conn = .no) := by
  by_cases hq : h.pc = .haveReq <;> cases hx : h.pc.inExchange <;> simp [Handler.plain, hq, hx, and_assoc]

theorem HStep.plain {c mu r : Bool} {h h' : Handler} {l : HL} (st : HStep c mu r h l h')
    (hp : h.plain = true) (hl : l ≠ .gotConnect) (hl2 : ∀ rc, l ≠ .gotReqOpen rc) : h'.plain = true := by
  -- the steps out of the plain states need a CONNECT in the exchange or an open body, or start from a
  -- program counter that is not plain: `hp` contradicts their guards
  rw [Handler.plain_iff] at hp ⊢
  obtain ⟨h1, h2, h3, h4, h5⟩ := hp
  cases st
  case gotConnect => exact absurd rfl hl
  case gotReqOpen => exact absurd rfl (hl2 _)
  case checkClosing => cases c <;> simp_all [Pc.peerBlocked, Pc.inExchange]
  case bodyDone b _ => cases b <;> simp_all [Pc.peerBlocked]
  case writeEnd b _ => cases b <;> simp_all [Pc.peerBlocked, Pc.inExchange]
  all_goals simp_all [Pc.peerBlocked, Pc.inExchange]

def AllPlain (s : Sys) : Prop := ∀ h ∈ s.hs, h.plain = true

theorem step_allPlain {s s' : Sys} {l : Label} (hp : AllPlain s) (hl : ∀ k, l ≠ .h k .gotConnect)
    (hl2 : ∀ k rc, l ≠ .h k (.gotReqOpen rc)) (hs : step s l = some s') : AllPlain s' := by
  refine (step_eq_some_iff.mp hs).forall_handlers hp rfl ?_
  intro k l' h h' e st h0
  subst e
  exact st.plain h0 (fun e => hl k (congrArg _ e)) (fun rc e => hl2 k rc (congrArg _ e))

end Martian.Shutdown
