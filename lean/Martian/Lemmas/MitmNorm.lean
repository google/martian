import Martian.Lemmas.Mitm
/-!
Helper lemmas for host normalisation (C06): positions of the last colon and the first
`]`, `net.SplitHostPort` on the spellings `host:port`, `[v6]:port`, bare names and bare IPv6 literals,
its commutation with ASCII case mapping, and the shape of what `net.ParseIP` accepts (no port to strip).
-/
namespace Martian.Mitm
open Martian Martian.Go

theorem indexOf_append_cons {c : UInt8} {x : Bytes} (y : Bytes) (h : c ∉ x) : indexOf (x ++ c :: y) c = some x.length := by
  simp [indexOf, List.idxOf_append, h]

theorem lastIndexOf_append_cons {c : UInt8} (x : Bytes) {y : Bytes} (h : c ∉ y) :
    lastIndexOf (x ++ c :: y) c = some x.length := by
  have hy : c ∉ y.reverse := by simpa using h
  simp [lastIndexOf, List.idxOf_append, hy]
  omega

theorem lastIndexOf_of_not_mem {c : UInt8} {x : Bytes} (h : c ∉ x) : lastIndexOf x c = none := by
  have hy : c ∉ x.reverse := by simpa using h
  simp [lastIndexOf, List.idxOf_eq_length hy]

theorem exists_last_split {c : UInt8} {l : Bytes} (h : c ∈ l) : ∃ x y, l = x ++ c :: y ∧ c ∉ y := by
  obtain ⟨as, bs, e, hn⟩ := List.eq_append_cons_of_mem (List.mem_reverse.mpr h)
  exact ⟨bs.reverse, as.reverse, by simpa using congrArg List.reverse e, by simpa using hn⟩

theorem contains_false_of_not_mem {l : Bytes} {c : UInt8} (h : c ∉ l) : l.contains c = false := by
  simp [h]

theorem splitHostPort_host_port {d p : Bytes}
    (d1 : colon ∉ d) (d2 : lbr ∉ d) (d3 : rbr ∉ d) (p1 : colon ∉ p) (p2 : lbr ∉ p) (p3 : rbr ∉ p) :
    splitHostPort (d ++ colon :: p) = some (d, p) := by
  have hhead : (d ++ colon :: p).head? ≠ some lbr :=
    mt List.mem_of_mem_head? (by simp only [List.mem_append, List.mem_cons, not_or]; exact ⟨d2, by decide, p2⟩)
  have hdrop : (d ++ colon :: p).drop (d.length + 1) = p := by
    rw [List.append_cons, List.drop_left' (by simp)]
  unfold splitHostPort
  rw [lastIndexOf_append_cons d p1]
  simp only [if_neg hhead, hdrop]
  simp [d1, d2, d3, p2, p3, show lbr ≠ colon by decide, show rbr ≠ colon by decide]

theorem splitHostPort_bracketed {a p : Bytes}
    (a2 : lbr ∉ a) (a3 : rbr ∉ a) (p1 : colon ∉ p) (p2 : lbr ∉ p) (p3 : rbr ∉ p) :
    splitHostPort (lbr :: a ++ rbr :: colon :: p) = some (a, p) := by
  have hlast : lastIndexOf (lbr :: a ++ rbr :: colon :: p) colon = some (a.length + 2) := by
    have := lastIndexOf_append_cons (lbr :: a ++ [rbr]) p1
    simpa using this
  have hidx : indexOf (lbr :: a ++ rbr :: colon :: p) rbr = some (a.length + 1) :=
    indexOf_append_cons (x := lbr :: a) (colon :: p) (by simp only [List.mem_cons, not_or]; exact ⟨by decide, a3⟩)
  have hdrop2 : (lbr :: a ++ rbr :: colon :: p).drop (a.length + 1 + 1) = colon :: p := by
    rw [List.append_cons, List.drop_left' (by simp)]
  have hdrop3 : (lbr :: a ++ rbr :: colon :: p).drop (a.length + 2 + 1) = p := by
    rw [List.append_cons, List.append_cons, List.drop_left' (by simp)]
  unfold splitHostPort
  simp only [hlast, hidx, hdrop2, hdrop3]
  simp [a2, p2, p3, show lbr ≠ colon by decide, show rbr ≠ colon by decide, show lbr ≠ rbr by decide]

/-- No colon at all — "missing port". -/
theorem splitHostPort_no_colon {h : Bytes} (hc : colon ∉ h) : splitHostPort h = none := by
  unfold splitHostPort
  rw [lastIndexOf_of_not_mem hc]

/-- Two or more colons and no leading `[` — "too many colons": whatever the groups look like (in
particular when the last group is all digits) nothing is cut off. -/
theorem splitHostPort_two_colons {h : Bytes} (hh : h.head? ≠ some lbr) (h2 : 2 ≤ h.count colon) :
    splitHostPort h = none := by
  obtain ⟨x, y, e, hy⟩ := exists_last_split (List.count_pos_iff.mp (by omega : 0 < h.count colon))
  have hx : colon ∈ x := by
    apply List.count_pos_iff.mp
    have := List.count_eq_zero.mpr hy
    rw [e, List.count_append, List.count_cons_self] at h2
    omega
  have ht : h.take x.length = x := by rw [e]; simp
  unfold splitHostPort
  rw [e, lastIndexOf_append_cons x hy]
  simp only
  rw [← e, if_neg hh]
  simp [ht, hx]

/-- A byte map that neither creates nor destroys `:`, `[`, `]` (such as `toLowerB`). -/
structure KeepsDelims (f : UInt8 → UInt8) : Prop where
  colon : ∀ c, (f c == colon) = (c == colon)
  lbr : ∀ c, (f c == lbr) = (c == lbr)
  rbr : ∀ c, (f c == rbr) = (c == rbr)

theorem idxOf_map {f : UInt8 → UInt8} {x : UInt8} (hf : ∀ c, (f c == x) = (c == x)) : ∀ (l : Bytes), (l.map f).idxOf x = l.idxOf x
  | [] => rfl
  | a :: l => by simp [List.idxOf_cons, hf, idxOf_map hf l]

theorem contains_map {f : UInt8 → UInt8} {x : UInt8} (hf : ∀ c, (f c == x) = (c == x)) (l : Bytes) :
    (l.map f).contains x = l.contains x := by
  rw [Bool.eq_iff_iff, List.contains_iff_mem, List.contains_iff_mem, ← List.idxOf_lt_length_iff,
    ← List.idxOf_lt_length_iff, idxOf_map hf, List.length_map]

theorem indexOf_map {f : UInt8 → UInt8} {x : UInt8} (hf : ∀ c, (f c == x) = (c == x)) (l : Bytes) :
    indexOf (l.map f) x = indexOf l x := by
  simp [indexOf, idxOf_map hf]

theorem lastIndexOf_map {f : UInt8 → UInt8} {x : UInt8} (hf : ∀ c, (f c == x) = (c == x)) (l : Bytes) :
    lastIndexOf (l.map f) x = lastIndexOf l x := by
  simp [lastIndexOf, ← List.map_reverse, idxOf_map hf]

theorem head?_map_eq {f : UInt8 → UInt8} {x : UInt8} (hf : ∀ c, (f c == x) = (c == x)) (l : Bytes) :
    ((l.map f).head? = some x) ↔ (l.head? = some x) := by
  cases l with
  | nil => simp
  | cons a r =>
    have := hf a
    rw [Bool.eq_iff_iff] at this
    simpa using this

theorem splitHostPort_map {f : UInt8 → UInt8} (hf : KeepsDelims f) (h : Bytes) :
    splitHostPort (h.map f) = (splitHostPort h).map (fun ap => (ap.1.map f, ap.2.map f)) := by
  have hhead : ((h.map f).head? = some lbr) = (h.head? = some lbr) := propext (head?_map_eq hf.lbr h)
  unfold splitHostPort
  -- every test and every piece commutes with `f`; what is left is `Option.map` through the branches
  simp only [lastIndexOf_map hf.colon, indexOf_map hf.rbr, hhead, List.length_map, ← List.map_drop, ← List.map_take,
    contains_map hf.colon, contains_map hf.lbr, contains_map hf.rbr]
  cases lastIndexOf h colon with
  | none => rfl
  | some i =>
    cases indexOf h rbr with
    | none => simp only [apply_ite (Option.map _), Option.map_none, Option.map_some]
    | some e => simp only [apply_ite (Option.map _), Option.map_none, Option.map_some]

theorem keepsDelims_toLowerB : KeepsDelims toLowerB :=
  ⟨fun _ => beq_toLowerB (x := colon) (by decide) (by decide), fun _ => beq_toLowerB (x := lbr) (by decide) (by decide),
   fun _ => beq_toLowerB (x := rbr) (by decide) (by decide)⟩

theorem normalise_map {f : UInt8 → UInt8} (hf : KeepsDelims f) (h : Bytes) : normalise (h.map f) = (normalise h).map f := by
  unfold normalise
  rw [splitHostPort_map hf]
  cases splitHostPort h with
  | none => rfl
  | some ap => rfl

theorem mapM_some {α β : Type} (f : α → Option β) : ∀ (l : List α) (r : List β), l.mapM f = some r →
    r.length = l.length ∧ ∀ x ∈ l, ∃ y, f x = some y
  | [], r, h => by simp at h; subst h; simp
  | a :: l, r, h => by
    simp only [List.mapM_cons, bind, Option.bind_eq_some_iff, pure, Option.some.injEq] at h
    obtain ⟨b, hfa, r', hl, rfl⟩ := h
    have ih := mapM_some f l r' hl
    refine ⟨by simp [ih.1], fun x hx => ?_⟩
    rcases List.mem_cons.mp hx with rfl | e
    · exact ⟨b, hfa⟩
    · exact ih.2 x e

theorem v4Field_digits {f : Bytes} {v : UInt8} (h : v4Field f = some v) : ∀ x ∈ f, isDigit x = true := by
  unfold v4Field at h
  split at h
  · cases h
  · rename_i hc
    simp only [Bool.or_eq_true, Bool.not_eq_true', not_or, Bool.not_eq_false] at hc
    exact List.all_eq_true.mp hc.2

theorem parseV4Fields_some {s : Bytes} {f : List UInt8} (h : parseV4Fields s = some f) :
    f.length = 4 ∧ ∀ x ∈ s, x = dot ∨ isDigit x = true := by
  unfold parseV4Fields at h
  simp only at h
  split at h
  · cases h
  · rename_i hl
    obtain ⟨hlen, hall⟩ := mapM_some v4Field _ _ h
    refine ⟨by omega, fun x hm => ?_⟩
    rcases mem_split_cases (sep := dot) hm with e | ⟨p, hp, hx⟩
    · exact .inl e
    · obtain ⟨v, hv⟩ := hall p hp
      exact .inr (v4Field_digits hv x hx)

theorem count_drop_of_head {l : Bytes} {n : Nat} {c : UInt8} (h : (l.drop n).head? = some c) :
    ((l.drop n).drop 1).count c + 1 ≤ l.count c := by
  have := (List.drop_sublist n l).count_le c
  cases hd : l.drop n with
  | nil => simp [hd] at h
  | cons a r =>
    rw [hd] at h this
    cases h
    simpa using this

/-- What a run of the loop yields: every group but the last is followed by a `:`, a dotted tail adds four
bytes, and an ellipsis found on the way means a `::`. -/
theorem v6Loop_inv (fuel : Nat) (s : Bytes) (acc : List UInt8) (ell : Option Nat) : ∀ {r : Bytes × List UInt8 × Option Nat},
    v6Loop fuel s acc ell = some r →
    r.2.1.length ≤ acc.length + 2 * s.count colon + 4 ∧ (ell = none → r.2.2.isSome → 2 ≤ s.count colon) := by
  fun_induction v6Loop fuel s acc ell
  case case1 | case2 =>  -- out of fuel, or sixteen bytes written
    rintro _ ⟨⟩
    exact ⟨by simp only; omega, fun e => by simp [e]⟩
  case case7 =>  -- dotted tail
    rename_i hf
    rintro _ ⟨⟩
    exact ⟨by simp only [List.length_append, (parseV4Fields_some hf).1]; omega, fun e => by simp [e]⟩
  case case8 =>  -- last group
    rintro _ ⟨⟩
    exact ⟨by simp +zetaDelta only [List.length_append, List.length_cons, List.length_nil]; omega, fun e => by simp [e]⟩
  case case12 =>  -- group, then `::` at the end
    rename_i hc _ _ hc2 _ _ _
    rintro _ ⟨⟩
    have c1 := count_drop_of_head (Decidable.not_not.mp hc)
    have c2 := count_drop_of_head (n := 0) hc2
    simp +zetaDelta only [List.length_append, List.length_cons, List.length_nil, List.drop_zero] at c1 c2 ⊢
    exact ⟨by omega, fun _ _ => by omega⟩
  case case13 =>  -- group, `::`, more
    rename_i hc _ _ hc2 _ _ _ ih
    intro _ h
    have c1 := count_drop_of_head (Decidable.not_not.mp hc)
    have c2 := count_drop_of_head (n := 0) hc2
    have hi := (ih h).1
    simp +zetaDelta only [List.length_append, List.length_cons, List.length_nil, List.drop_zero] at c1 c2 hi
    exact ⟨by omega, fun _ _ => by omega⟩
  case case14 =>  -- group, `:`, more
    rename_i hc _ _ _ ih
    intro _ h
    have c1 := count_drop_of_head (Decidable.not_not.mp hc)
    have ⟨hi, he⟩ := ih h
    simp +zetaDelta only [List.length_append, List.length_cons, List.length_nil] at c1 hi he
    exact ⟨by omega, fun e1 e2 => by have := he e1 e2; omega⟩
  all_goals nofun  -- every other branch returns `none`

theorem v6Loop_head {n : Nat} {s : Bytes} {acc : List UInt8} {ell : Option Nat} {r : Bytes × List UInt8 × Option Nat}
    (hacc : acc.length < 16) (h : v6Loop (n + 1) s acc ell = some r) : ∃ c t, s = c :: t ∧ isHex c = true := by
  have h0 : (s.takeWhile isHex).length ≠ 0 := by
    intro h0
    rw [v6Loop, if_neg (Nat.not_le.mpr hacc)] at h
    simp only [h0, decide_true, Bool.or_true, if_true] at h
    cases h
  match s with
  | [] => exact absurd rfl h0
  | c :: t =>
    refine ⟨c, t, rfl, ?_⟩
    cases hc : isHex c with
    | true => rfl
    | false => simp [hc] at h0

theorem parseV6_shape {s : Bytes} {ip : IP} (h : parseV6 s = some ip) : s.head? ≠ some lbr ∧ 2 ≤ s.count colon := by
  unfold parseV6 at h
  simp only at h
  cases hl : (s.take 2 == [colon, colon]) with
  | true =>
    rw [← List.take_append_drop 2 s, show s.take 2 = [colon, colon] by simpa using hl]
    exact ⟨by simp only [List.cons_append, List.head?_cons, ne_eq, Option.some.injEq]; decide, by simp⟩
  | false =>
    simp only [hl, Bool.false_eq_true, if_false, Bool.false_and] at h
    cases hv : v6Loop 9 s [] none with
    | none => rw [hv] at h; cases h
    | some r =>
      obtain ⟨rest, acc, ell⟩ := r
      obtain ⟨c, t, rfl, hc⟩ := v6Loop_head (by decide) hv
      obtain ⟨hlen, hell⟩ := v6Loop_inv 9 _ [] none hv
      refine ⟨fun e => ?_, ?_⟩
      · cases e; exact absurd hc (by decide)
      -- sixteen bytes need six colons; fewer are accepted only with an ellipsis, which is two
      · rcases Nat.lt_or_ge acc.length 16 with hlt | hge
        · cases ell with
          | none => simp [hv, hlt] at h
          | some e => exact hell rfl rfl
        · simp only [List.length_nil] at hlen; omega

theorem parseIP_shape {s : Bytes} {ip : IP} (h : parseIP s = some ip) :
    s.head? ≠ some lbr ∧ (colon ∉ s ∨ 2 ≤ s.count colon) := by
  unfold parseIP at h
  split at h
  · cases h
  · split at h
    · cases h
    · split at h
      · cases hp : parseV4Fields s with
        | none => rw [hp] at h; cases h
        | some f =>
          have hb := (parseV4Fields_some hp).2
          exact ⟨mt List.mem_of_mem_head? fun hm => (hb _ hm).elim (by decide) (by decide),
            .inl fun hm => (hb _ hm).elim (by decide) (by decide)⟩
      · exact (parseV6_shape h).imp id .inr

/-- An IP literal is never touched by `net.SplitHostPort`: an IPv4 literal has no colon ("missing
port"), an IPv6 literal has at least two and no leading bracket ("too many colons"). -/
theorem splitHostPort_of_parseIP {s : Bytes} {ip : IP} (h : parseIP s = some ip) : splitHostPort s = none := by
  obtain ⟨hb, hc | hc⟩ := parseIP_shape h
  · exact splitHostPort_no_colon hc
  · exact splitHostPort_two_colons hb hc

end Martian.Mitm
