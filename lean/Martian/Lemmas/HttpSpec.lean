import Martian.Model.HttpSpec
import Martian.Lemmas.Ascii
import Martian.Lemmas.Strings
/-!
Lemmas for C14: the `http.Header` algebra, each member of the stack read at an arbitrary key,
the generated stack order unfolded, and what a key holds when the via modifier is reached.
-/
namespace Martian.HttpSpec
open Martian Martian.Go Martian.Go.Header

theorem toUpperB_toUpperB' : ∀ c : UInt8, toUpperB (toUpperB c) = toUpperB c := toUpperB_idem
theorem toLowerB_toUpperB : ∀ c : UInt8, toLowerB (toUpperB c) = toLowerB c := Martian.toLowerB_toUpperB

@[simp] theorem index_nil (k : Bytes) : index [] k = [] := rfl

theorem index_cons (e : Bytes × List Bytes) (r : Header) (k : Bytes) :
    index (e :: r) k = if e.1 = k then e.2 else index r k := by
  unfold index
  rw [List.find?_cons]
  by_cases hk : e.1 = k
  · simp [hk]
  · simp [hk, beq_false_of_ne hk]

@[simp] theorem keys_nil : keys ([] : Header) = [] := rfl
@[simp] theorem keys_cons (e : Bytes × List Bytes) (r : Header) : keys (e :: r) = e.1 :: keys r := rfl

theorem index_of_not_mem_keys {h : Header} {k : Bytes} (hk : k ∉ keys h) : index h k = [] := by
  induction h with
  | nil => rfl
  | cons e r ih =>
    rw [keys_cons, List.mem_cons, not_or] at hk
    rw [index_cons, if_neg (Ne.symm hk.1)]
    exact ih hk.2

theorem index_filter_key (q : Bytes → Bool) (h : Header) (k : Bytes) :
    index (h.filter fun e => q e.1) k = if q k then index h k else [] := by
  induction h with
  | nil => simp
  | cons e r ih =>
    rw [List.filter_cons]
    by_cases he : e.1 = k
    · subst he
      cases hq : q e.1 <;> simp [index_cons, hq, ih]
    · cases hq : q e.1 <;> simp [index_cons, he, ih]

theorem keys_filter_key (q : Bytes → Bool) (h : Header) : keys (h.filter fun e => q e.1) = (keys h).filter q := by
  unfold keys
  rw [List.filter_map]
  rfl

theorem mem_keys_delete {h : Header} {k k' : Bytes} : k' ∈ keys (delete h k) ↔ k' ∈ keys h ∧ k' ≠ k := by
  unfold delete
  rw [keys_filter_key (fun x => !(x == k)), List.mem_filter]
  simp

theorem index_delete (h : Header) (k k' : Bytes) :
    index (delete h k) k' = if k' = k then [] else index h k' := by
  unfold delete
  rw [index_filter_key (fun x => !(x == k))]
  by_cases hk : k' = k <;> simp [hk]

theorem index_append (h g : Header) (k : Bytes) :
    index (h ++ g) k = if k ∈ keys h then index h k else index g k := by
  induction h with
  | nil => simp
  | cons e r ih =>
    rw [List.cons_append, index_cons, index_cons, ih, keys_cons]
    by_cases hk : e.1 = k
    · simp [hk]
    · simp [hk, Ne.symm hk]

theorem index_assign (h : Header) (k k' : Bytes) (vs : List Bytes) :
    index (assign h k vs) k' = if k' = k then vs else index h k' := by
  unfold assign
  simp only [index_append, mem_keys_delete, index_delete, index_cons, index_nil]
  by_cases hk : k' = k
  · simp [hk]
  · by_cases hm : k' ∈ keys h
    · simp [hk, hm]
    · simp [hk, hm, Ne.symm hk, index_of_not_mem_keys hm]

theorem mem_keys_assign {h : Header} {k k' : Bytes} {vs : List Bytes} :
    k' ∈ keys (assign h k vs) ↔ k' = k ∨ k' ∈ keys h := by
  unfold assign
  rw [show keys (delete h k ++ [(k, vs)]) = keys (delete h k) ++ [k] from List.map_append, List.mem_append,
    mem_keys_delete, List.mem_singleton]
  by_cases hk : k' = k <;> simp [hk]

theorem index_set (h : Header) (k v k' : Bytes) :
    index (set h k v) k' = if k' = canonKey k then [v] else index h k' := index_assign _ _ _ _

theorem index_del (h : Header) (k k' : Bytes) :
    index (del h k) k' = if k' = canonKey k then [] else index h k' := index_delete _ _ _

theorem mem_keys_set {h : Header} {k v k' : Bytes} :
    k' ∈ keys (set h k v) ↔ k' = canonKey k ∨ k' ∈ keys h := mem_keys_assign

theorem mem_keys_del {h : Header} {k k' : Bytes} :
    k' ∈ keys (del h k) ↔ k' ∈ keys h ∧ k' ≠ canonKey k := mem_keys_delete

theorem foldl_del_eq_filter (ks : List Bytes) : ∀ h : Header,
    ks.foldl del h = h.filter (fun e => !(ks.map canonKey).contains e.1) := by
  induction ks with
  | nil => intro h; exact (List.filter_eq_self.mpr (by simp)).symm
  | cons k r ih =>
    intro h
    simp only [List.foldl_cons, ih, del, delete, List.filter_filter, List.map_cons, List.contains_cons]
    congr 1
    funext e
    cases (e.1 == canonKey k) <;> simp

theorem canon_kVia : canonKey kVia = kVia := by decide +kernel
theorem canon_kCL : canonKey kCL = kCL := by decide +kernel
theorem canon_kTE : canonKey kTE = kTE := by decide +kernel
theorem canon_kXFF : canonKey kXFF = kXFF := by decide +kernel
theorem canon_kXFProto : canonKey kXFProto = kXFProto := by decide +kernel
theorem canon_kXFHost : canonKey kXFHost = kXFHost := by decide +kernel
theorem canon_kXFUrl : canonKey kXFUrl = kXFUrl := by decide +kernel

def fwdKeys : List Bytes := [kXFF, kXFProto, kXFHost, kXFUrl]

/-- The headers the stack itself writes (stamps). -/
def stampedKeys : List Bytes := [kVia, kXFF, kXFProto, kXFHost, kXFUrl]

theorem stamped_distinct : stampedKeys.Nodup ∧ kCL ∉ stampedKeys ∧ kTE ∉ stampedKeys := by decide +kernel

theorem not_mem_stampedKeys {k : Bytes} (hs : k ∉ stampedKeys) : k ≠ kVia ∧ k ∉ fwdKeys :=
  ⟨fun e => hs (e ▸ List.mem_cons_self), fun hm => hs (List.mem_cons_of_mem _ hm)⟩

theorem kVia_notin_fwdKeys : kVia ∉ fwdKeys := (List.nodup_cons.mp stamped_distinct.1).1
theorem kCL_notin_fwdKeys : kCL ∉ fwdKeys := (not_mem_stampedKeys stamped_distinct.2.1).2
theorem kTE_notin_fwdKeys : kTE ∉ fwdKeys := (not_mem_stampedKeys stamped_distinct.2.2).2
theorem kVia_ne_kCL : kVia ≠ kCL := Ne.symm (not_mem_stampedKeys stamped_distinct.2.1).1

theorem fwdKeys_ne : kXFF ≠ kXFProto ∧ kXFF ≠ kXFHost ∧ kXFF ≠ kXFUrl ∧ kXFProto ≠ kXFHost ∧ kXFProto ≠ kXFUrl ∧
    kXFHost ≠ kXFUrl := by
  have hd : fwdKeys.Nodup := (List.nodup_cons.mp stamped_distinct.1).2
  simp only [fwdKeys, List.nodup_cons, List.mem_cons, List.not_mem_nil, or_false, not_or] at hd
  exact ⟨hd.1.1, hd.1.2.1, hd.1.2.2, hd.2.1.1, hd.2.1.2, hd.2.2.1⟩

theorem kTE_kConnection_ne_kCL : kTE ≠ kCL ∧ kConnection ≠ kCL := by decide +kernel

/-- Every key `removeHopByHopHeaders` deletes: the canonicalised Connection tokens and the fixed list. -/
def removedKeys (h : Header) : List Bytes := (connTokens h ++ fixedList).map canonKey

theorem removeHopByHop_eq_filter (h : Header) :
    removeHopByHop h = h.filter (fun e => !(removedKeys h).contains e.1) := by
  unfold removeHopByHop removedKeys
  rw [← List.foldl_append, foldl_del_eq_filter]

theorem index_removeHopByHop (h : Header) (k : Bytes) :
    index (removeHopByHop h) k = if k ∈ removedKeys h then [] else index h k := by
  rw [removeHopByHop_eq_filter, index_filter_key (fun x => !(removedKeys h).contains x)]
  by_cases hk : k ∈ removedKeys h <;> simp [hk]

theorem mem_keys_removeHopByHop {h : Header} {k : Bytes} :
    k ∈ keys (removeHopByHop h) ↔ k ∈ keys h ∧ k ∉ removedKeys h := by
  rw [removeHopByHop_eq_filter, keys_filter_key (fun x => !(removedKeys h).contains x), List.mem_filter]
  simp

theorem removed_not_in_keys {h : Header} {k : Bytes} (hk : k ∈ removedKeys h) : k ∉ keys (removeHopByHop h) :=
  fun hm => (mem_keys_removeHopByHop.mp hm).2 hk

theorem fixed_mem_removedKeys (h : Header) {k : Bytes} (hk : k ∈ fixedList.map canonKey) : k ∈ removedKeys h := by
  unfold removedKeys
  rw [List.map_append]
  exact List.mem_append_right _ hk

theorem connToken_mem_removedKeys {h : Header} {line tok : Bytes} (hl : line ∈ index h kConnection)
    (ht : tok ∈ split line comma) : canonKey (trimSpace tok) ∈ removedKeys h := by
  unfold removedKeys connTokens
  rw [← canonKey_idem]
  apply List.mem_map_of_mem
  apply List.mem_append_left
  exact List.mem_flatMap.mpr ⟨line, hl, List.mem_map_of_mem ht⟩

theorem survivor_ne_any_case {h : Header} {k n : Bytes} (hk : k ∈ keys (removeHopByHop h))
    (hp : k.all validHeaderFieldByte = true ∧ canonKey k = k) (hn : canonKey n ∈ removedKeys h) :
    toLower k ≠ toLower n := by
  intro heq
  have hc := canonKey_eq_of_toLower_eq k n hp.1 heq.symm
  rw [hp.2] at hc
  exact removed_not_in_keys (hc ▸ hn) hk

/-- RFC 7230 §6.1 (and the field definitions that say "hop-by-hop"): the fixed set. -/
def rfcHopByHop : List Bytes := ["Connection", "Keep-Alive", "Proxy-Authenticate", "Proxy-Authorization", "TE", "Trailer",
  "Transfer-Encoding", "Upgrade"].map strBytes

theorem rfcHopByHop_fixed : ∀ k ∈ rfcHopByHop, canonKey k ∈ fixedList.map canonKey := by decide +kernel

theorem hasLoop_nil (t : Bytes) : hasLoop [] t = false := by
  simp [hasLoop, split, splitAux, trimSpace, field2]

/-- The single `Via` line written for a request that is forwarded. -/
def viaLine (env : Env) (old : List Bytes) : Bytes :=
  if join old commaSp = [] then viaEntry env else join old commaSp ++ commaSp ++ viaEntry env

theorem viaReq_eq (env : Env) (s : RS) : viaReq env s =
    if hasLoop (join (index s.hdr kVia) commaSp) (tag env) then ({ s with loopKey := true, skip := true }, some .loop)
    else ({ s with hdr := set s.hdr kVia (viaLine env (index s.hdr kVia)) }, none) := by
  by_cases hv : join (index s.hdr kVia) commaSp = []
  · simp [viaReq, viaLine, hv, hasLoop_nil]
  · simp [viaReq, viaLine, hv]

/-- The single `X-Forwarded-For` line written. -/
def xffLine (env : Env) (old : List Bytes) : Bytes :=
  if join old commaSp = [] then clientOf env.remote else join old commaSp ++ commaSp ++ clientOf env.remote

/-- `if h.Get(k) == "" { h.Set(k, v) }` of the forwarded modifier, for any condition. -/
theorem index_setIf (c : Prop) [Decidable c] (g : Header) (k v k' : Bytes) :
    index (if c then set g k v else g) k' = if k' = canonKey k ∧ c then [v] else index g k' := by
  by_cases hc : c <;> simp [hc, index_set]

theorem get_setIf_ne {c : Prop} [Decidable c] {g : Header} {k v k' : Bytes} (hne : canonKey k' ≠ canonKey k) :
    get (if c then set g k v else g) k' = get g k' := by
  show (index _ (canonKey k')).headD [] = _
  rw [index_setIf, if_neg (fun h => hne h.1)]
  rfl

theorem mem_keys_setIf {g : Header} {c : Prop} [Decidable c] {k v k' : Bytes} :
    k' ∈ keys (if c then set g k v else g) ↔ c ∧ k' = canonKey k ∨ k' ∈ keys g := by
  by_cases hc : c <;> simp [hc, mem_keys_set]

theorem fwd_index (env : Env) (h : Header) (k : Bytes) :
    index (fwdHeader env h) k =
      if k = kXFF then [xffLine env (index h kXFF)]
      else if k = kXFUrl ∧ get h kXFUrl = [] then [env.url]
      else if k = kXFHost ∧ get h kXFHost = [] then [env.host]
      else if k = kXFProto ∧ get h kXFProto = [] then [env.scheme]
      else index h k := by
  obtain ⟨hFP, hFH, hFU, hPH, hPU, hHU⟩ := fwdKeys_ne
  have hUH : canonKey kXFUrl ≠ canonKey kXFHost := by rw [canon_kXFUrl, canon_kXFHost]; exact Ne.symm hHU
  have hUP : canonKey kXFUrl ≠ canonKey kXFProto := by rw [canon_kXFUrl, canon_kXFProto]; exact Ne.symm hPU
  have hHP : canonKey kXFHost ≠ canonKey kXFProto := by rw [canon_kXFHost, canon_kXFProto]; exact Ne.symm hPH
  unfold fwdHeader
  simp only [index_set, index_setIf, get_setIf_ne hUH, get_setIf_ne hUP, get_setIf_ne hHP,
    canon_kXFF, canon_kXFUrl, canon_kXFHost, canon_kXFProto, hFP, hFH, hFU, false_and, if_false, xffLine,
    bne_iff_ne, ne_eq, ite_not, beq_iff_eq]

theorem fwd_index_other {env : Env} {h : Header} {k : Bytes} (hk : k ∉ fwdKeys) :
    index (fwdHeader env h) k = index h k := by
  simp only [fwdKeys, List.mem_cons, List.not_mem_nil, or_false, not_or] at hk
  rw [fwd_index, if_neg hk.1, if_neg (fun c => hk.2.2.2 c.1), if_neg (fun c => hk.2.2.1 c.1), if_neg (fun c => hk.2.1 c.1)]

theorem fwd_keys {env : Env} {h : Header} {k : Bytes} (hm : k ∈ keys (fwdHeader env h)) : k ∈ fwdKeys ∨ k ∈ keys h := by
  simp only [fwdHeader, mem_keys_set, mem_keys_setIf, canon_kXFF, canon_kXFUrl, canon_kXFHost, canon_kXFProto] at hm
  simp only [fwdKeys, List.mem_cons, List.not_mem_nil, or_false]
  rcases hm with h | ⟨_, h⟩ | ⟨_, h⟩ | ⟨_, h⟩ | h <;> simp [h]

theorem clScan_some {ts : List Bytes} {len r : Bytes} (hs : clScan ts len = some r) :
    (len = [] ∨ len = r) ∧ ∀ t ∈ ts, trimSpace t = [] ∨ trimSpace t = r := by
  fun_induction clScan ts len with
  | case1 len => exact ⟨Or.inr (Option.some.inj hs), fun _ h => nomatch h⟩
  | case2 l rest len hl ih =>
    have := ih hs
    exact ⟨Or.inl (by simpa using hl), List.forall_mem_cons.mpr this⟩
  | case3 l rest len hl hne => cases hs
  | case4 l rest len hl hne ih =>
    have := ih hs
    have e : len = trimSpace l := by simpa using hne
    exact ⟨this.1, List.forall_mem_cons.mpr ⟨e ▸ this.1, this.2⟩⟩

/-- Two different non-empty Content-Length values among all lines and comma pieces. -/
def clConflict (h : Header) : Prop :=
  ∃ a ∈ clTokens h, ∃ b ∈ clTokens h, trimSpace a ≠ [] ∧ trimSpace b ≠ [] ∧ trimSpace a ≠ trimSpace b

theorem framingCL_eq (h : Header) : framingCL h =
    if index h kCL = [] then some h else (clScan (clTokens h) []).map (set h kCL) := by
  unfold framingCL
  cases hi : index h kCL with
  | nil => rfl
  | cons a r => cases clScan (clTokens h) [] <;> simp

theorem framingCL_conflict {h : Header} (hc : clConflict h) : framingCL h = none := by
  obtain ⟨a, ha, b, hb, hae, hbe, hab⟩ := hc
  have hi : index h kCL ≠ [] := by
    intro h0
    simp [clTokens, h0] at ha
  rw [framingCL_eq, if_neg hi]
  cases hs : clScan (clTokens h) [] with
  | none => rfl
  | some r =>
    have := (clScan_some hs).2
    exact absurd (((this a ha).resolve_left hae).trans ((this b hb).resolve_left hbe).symm) hab

theorem framingCL_some {h h1 : Header} (hs : framingCL h = some h1) :
    (∀ k, k ≠ kCL → index h1 k = index h k) ∧ (∀ k, k ∈ keys h1 → k ∈ keys h) ∧
    index h1 kCL = if index h kCL = [] then [] else [(clScan (clTokens h) []).getD []] := by
  rw [framingCL_eq] at hs
  split at hs
  · next h0 =>
    cases hs
    exact ⟨fun _ _ => rfl, fun _ hk => hk, by rw [if_pos h0, h0]⟩
  · next hi =>
    obtain ⟨len, hl, rfl⟩ := Option.map_eq_some_iff.mp hs
    refine ⟨fun k hk => by rw [index_set, canon_kCL, if_neg hk], fun k hk => ?_, by rw [index_set, canon_kCL, if_pos rfl, if_neg hi, hl]; rfl⟩
    rcases mem_keys_set.mp hk with rfl | hk
    · rw [canon_kCL]
      exact Classical.byContradiction fun hn => hi (index_of_not_mem_keys hn)
    · exact hk

theorem framingTE_eq (h1 : Header) : framingTE h1 =
    if index h1 kTE = [] then (h1, none) else if teLast h1 = chunked then (del h1 kCL, none) else (h1, some .te) := by
  unfold framingTE
  cases hi : index h1 kTE with
  | nil => rfl
  | cons a r => by_cases hc : teLast h1 = chunked <;> simp [hc]

/-- The Content-Length part leaves `Transfer-Encoding` alone: both later tests read the header as received. -/
theorem framingHeader_eq (h : Header) : framingHeader h =
    match framingCL h with
    | none => (h, some .cl)
    | some h1 =>
      if index h kTE = [] then (h1, none) else if teLast h = chunked then (del h1 kCL, none) else (h1, some .te) := by
  unfold framingHeader
  cases hc : framingCL h with
  | none => rfl
  | some h1 =>
    have hi := (framingCL_some hc).1 kTE kTE_kConnection_ne_kCL.1
    dsimp only
    rw [framingTE_eq, hi, show teLast h1 = teLast h by unfold teLast; rw [hi]]

theorem framing_other (h : Header) :
    (∀ k, k ≠ kCL → index (framingHeader h).1 k = index h k) ∧ (∀ k, k ∈ keys (framingHeader h).1 → k ∈ keys h) := by
  rw [framingHeader_eq]
  cases hs : framingCL h with
  | none => exact ⟨fun _ _ => rfl, fun _ hk => hk⟩
  | some h1 =>
    have a := framingCL_some hs
    dsimp only
    split
    · exact ⟨a.1, a.2.1⟩
    · split
      · exact ⟨fun k hk => by rw [index_del, canon_kCL, if_neg hk]; exact a.1 k hk, fun k hk => a.2.1 k (mem_keys_del.mp hk).1⟩
      · exact ⟨a.1, a.2.1⟩

theorem framingHeader_err (h : Header) :
    (framingHeader h).2 = none ∨ (framingHeader h).2 = some .cl ∨ (framingHeader h).2 = some .te := by
  rw [framingHeader_eq]
  cases framingCL h with
  | none => exact Or.inr (Or.inl rfl)
  | some h1 =>
    dsimp only
    split
    · exact Or.inl rfl
    · split
      · exact Or.inl rfl
      · exact Or.inr (Or.inr rfl)

/-- What the via modifier is handed inside the stack: the framing modifier ran first (on the
header as received), then hop-by-hop removal, then the forwarded modifier. -/
def preVia (env : Env) (h : Header) : Header := fwdHeader env (removeHopByHop (framingHeader h).1)

/-- The framing modifier's verdict on the header as received, as a list of errors. -/
def framingErrs (h : Header) : List Err := (framingHeader h).2.toList

/-- `NewStack`'s request side, as the composition the generated order denotes. If the order in
the source changes (or error aggregation is switched off) this, and everything stated about
the stack, stops checking. -/
theorem stackReq_unfold (env : Env) (h : Header) :
    stackReq env h =
      ((viaReq env { hdr := preVia env h }).1, framingErrs h ++ (viaReq env { hdr := preVia env h }).2.toList) := by
  have ho : Generated.HttpSpec.requestOrder.map reqMod = [framingReq, hbhReq, fwdReq, viaReq, fun _ s => (s, none)] := by
    simp [Generated.HttpSpec.requestOrder, reqMod]
  have ha : Generated.HttpSpec.aggregateErrors = true := rfl
  unfold stackReq preVia framingErrs
  rw [ho, ha]
  rcases hf : framingHeader h with ⟨h1, e1⟩
  rcases hv : viaReq env { hdr := fwdHeader env (removeHopByHop h1) } with ⟨s4, e2⟩
  cases e1 <;> cases e2 <;> simp [runReq, framingReq, hbhReq, fwdReq, hf, hv]

/-- Response side: user group, via, hop-by-hop; all of them run (errors are aggregated). -/
theorem stackRes_unfold (key : Bool) (s : ResS) :
    stackRes key s = if key then ({ hdr := removeHopByHop s.hdr, status := 400 }, [.loop])
      else ({ s with hdr := removeHopByHop s.hdr }, []) := by
  have ho : Generated.HttpSpec.responseOrder.map resMod = [fun _ s => (s, none), viaRes, hbhRes] := by
    simp [Generated.HttpSpec.responseOrder, resMod]
  have ha : Generated.HttpSpec.aggregateErrors = true := rfl
  unfold stackRes
  rw [ho, ha]
  cases key <;> simp [runRes, viaRes, hbhRes]

theorem stackReq_cases (env : Env) (h : Header) :
    (hasLoop (join (index (preVia env h) kVia) commaSp) (tag env) = true ∧
        stackReq env h = ({ hdr := preVia env h, skip := true, loopKey := true }, framingErrs h ++ [.loop])) ∨
    (hasLoop (join (index (preVia env h) kVia) commaSp) (tag env) = false ∧
        stackReq env h = ({ hdr := set (preVia env h) kVia (viaLine env (index (preVia env h) kVia)) }, framingErrs h)) := by
  rw [stackReq_unfold, viaReq_eq]
  cases hasLoop (join (index (preVia env h) kVia) commaSp) (tag env) with
  | true => exact Or.inl ⟨rfl, rfl⟩
  | false => exact Or.inr ⟨rfl, by simp⟩

theorem stackRes_hdr (key : Bool) (s : ResS) : (stackRes key s).1.hdr = removeHopByHop s.hdr := by
  rw [stackRes_unfold]
  cases key <;> simp

theorem exchange_eq (env : Env) (h : Header) (st : Nat) (oh : Header) : exchange env h st oh =
    if (stackReq env h).1.skip then
      { calls := 0, seen := (stackReq env h).1.hdr, reqErrs := (stackReq env h).2, status := 400,
        resHdr := removeHopByHop [], resErrs := [.loop] }
    else
      { calls := 1, seen := (stackReq env h).1.hdr, reqErrs := (stackReq env h).2, status := st,
        resHdr := removeHopByHop oh, resErrs := [] } := by
  have hk : (stackReq env h).1.loopKey = (stackReq env h).1.skip := by
    rcases stackReq_cases env h with ⟨_, hr⟩ | ⟨_, hr⟩ <;> rw [hr]
  unfold exchange sentUpstream
  simp only [hk, stackRes_unfold]
  cases (stackReq env h).1.skip <;> simp

theorem stackReq_index {env : Env} {h : Header} {k : Bytes} (hk : k ≠ kVia) :
    index (stackReq env h).1.hdr k = index (preVia env h) k := by
  rcases stackReq_cases env h with ⟨_, hr⟩ | ⟨_, hr⟩ <;> rw [hr]
  show index (set _ kVia _) k = _
  rw [index_set, canon_kVia, if_neg hk]

theorem removedKeys_framing (h : Header) : removedKeys (framingHeader h).1 = removedKeys h := by
  unfold removedKeys connTokens
  rw [(framing_other h).1 kConnection kTE_kConnection_ne_kCL.2]

theorem fwd_input_index {h : Header} {k : Bytes} (hk : k ∈ fwdKeys) :
    index (removeHopByHop (framingHeader h).1) k = if k ∈ removedKeys h then [] else index h k := by
  rw [index_removeHopByHop, removedKeys_framing, (framing_other h).1 k (ne_of_mem_of_not_mem hk kCL_notin_fwdKeys)]

theorem preVia_index_other {env : Env} {h : Header} {k : Bytes} (hf : k ∉ fwdKeys) :
    index (preVia env h) k = if k ∈ removedKeys h then [] else index (framingHeader h).1 k := by
  unfold preVia
  rw [fwd_index_other hf, index_removeHopByHop, removedKeys_framing]

theorem preVia_index_kVia (env : Env) (h : Header) :
    index (preVia env h) kVia = if kVia ∈ removedKeys h then [] else index h kVia := by
  rw [preVia_index_other kVia_notin_fwdKeys, (framing_other h).1 kVia kVia_ne_kCL]

theorem stackReq_keys {env : Env} {h : Header} {k : Bytes} (hm : k ∈ keys (stackReq env h).1.hdr) :
    k ∈ stampedKeys ∨ k ∈ keys (removeHopByHop h) := by
  have hpre : k = kVia ∨ k ∈ keys (preVia env h) := by
    rcases stackReq_cases env h with ⟨_, hr⟩ | ⟨_, hr⟩ <;> rw [hr] at hm
    · exact Or.inr hm
    · rw [← canon_kVia]; exact mem_keys_set.mp hm
  rcases hpre with rfl | hpre
  · exact Or.inl List.mem_cons_self
  · rcases fwd_keys hpre with h1 | h1
    · exact Or.inl (List.mem_cons_of_mem _ h1)
    · have h2 := mem_keys_removeHopByHop.mp h1
      rw [removedKeys_framing] at h2
      exact Or.inr (mem_keys_removeHopByHop.mpr ⟨(framing_other h).2 k h2.1, h2.2⟩)

/-- A line written as "existing chain, entry" (the entry alone when there is no chain): its
comma-separated elements are the elements of the existing chain, unchanged and in order, followed by
exactly one more — the entry behind the space of ", ". -/
theorem appended_elements (chain entry : Bytes) (hc : comma ∉ entry) :
    split (if chain = [] then entry else chain ++ commaSp ++ entry) comma =
      if chain = [] then [entry] else split chain comma ++ [32 :: entry] := by
  have h32 : comma ∉ (32 :: entry) := by
    simp only [List.mem_cons, not_or]
    exact ⟨by decide, hc⟩
  have : chain ++ commaSp ++ entry = chain ++ comma :: (32 :: entry) := by
    simp [commaSp, comma, strBytes, List.append_assoc]
  split
  · exact split_of_not_mem _ _ hc
  · rw [this, split_append_sep, split_of_not_mem _ _ h32]

theorem natDigits_no_comma (n : Nat) : comma ∉ natDigits n := fun hm =>
  absurd (List.all_eq_true.mp (natDigits_spec n).1 _ hm) (by decide)

/-- The proxy's own Via entry contains no comma when its name and boundary contain none (the
protocol version is digits and a dot). -/
theorem viaEntry_no_comma (env : Env) (hn : comma ∉ env.name) (hb : comma ∉ env.boundary) : comma ∉ viaEntry env := by
  unfold viaEntry tag
  simp only [List.mem_append, List.mem_cons, List.not_mem_nil, not_or]
  exact ⟨⟨⟨⟨natDigits_no_comma _, by decide⟩, natDigits_no_comma _⟩, by decide⟩, ⟨hn, by decide⟩, hb⟩

end Martian.HttpSpec
