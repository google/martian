import Martian.Lemmas.HarLog
import Martian.Model.HarLogConc
/-!
Lemmas for C17 above the critical sections: the API level (`Logger`: options, message errors) as
prelude + critical section, tagged histories, and the concurrent machine of
`Model/HarLogConc.lean` (a defined execution is a sequence of atomic steps, `Conc.Steps`).
Core Lean only.
-/
namespace Martian.HarLog

theorem logger_step_eq (l : Logger) (t : Nat) (c : Call) :
    l.step t c = (⟨l.cfg.next c, (step l.heap t (c.critical l.cfg)).1⟩,
                  (step l.heap t (c.critical l.cfg)).2) := by
  cases c with
  | req id m =>
    simp only [Logger.step, Logger.recordRequest, Call.critical]
    split <;> rfl
  | res id m =>
    simp only [Logger.step, Logger.recordResponse, Call.critical]
    split <;> rfl
  | _ => rfl

theorem slogger_step_eq (l : SLogger) (t : Nat) (c : Call) :
    l.step t c = (⟨l.cfg.next c, (Spec.step l.log t (c.critical l.cfg)).1⟩,
                  (Spec.step l.log t (c.critical l.cfg)).2) := by
  cases c with
  | req id m =>
    simp only [SLogger.step, Call.critical]
    split <;> rfl
  | res id m =>
    simp only [SLogger.step, Call.critical]
    split <;> rfl
  | _ => rfl

theorem logger_run_eq (cs : List Call) : ∀ (l : Logger) (t : Nat),
    Logger.run l t cs = run l.heap t (criticals l.cfg cs) := by
  induction cs with
  | nil => intros; rfl
  | cons c cs ih =>
    intro l t
    simp only [Logger.run, criticals, run, logger_step_eq, ih]

theorem slogger_run_eq (cs : List Call) : ∀ (l : SLogger) (t : Nat),
    SLogger.run l t cs = Spec.run l.log t (criticals l.cfg cs) := by
  induction cs with
  | nil => intros; rfl
  | cons c cs ih =>
    intro l t
    simp only [SLogger.run, criticals, Spec.run, slogger_step_eq, ih]

theorem logger_after_eq (cs : List Call) : ∀ (l : Logger) (t : Nat),
    (Logger.after l t cs).heap = after l.heap t (criticals l.cfg cs) := by
  induction cs with
  | nil => intros; rfl
  | cons c cs ih =>
    intro l t
    simp only [Logger.after, criticals, after, logger_step_eq, ih]

theorem logger_run_init (cs : List Call) :
    Logger.run Logger.init 0 cs = Spec.run [] 0 (criticals Cfg.default cs) := by
  rw [logger_run_eq]
  exact run_refines _ init [] 0 Reach_init

/-- The options in force after a history of calls. -/
def cfgAfter (c : Cfg) (cs : List Call) : Cfg := cs.foldl Cfg.next c

theorem criticals_length (cs : List Call) : ∀ c, (criticals c cs).length = cs.length := by
  induction cs with
  | nil => intro; rfl
  | cons x xs ih => intro c; simp [criticals, ih]

theorem criticals_append (a b : List Call) : ∀ c,
    criticals c (a ++ b) = criticals c a ++ criticals (cfgAfter c a) b := by
  induction a with
  | nil => intro c; rfl
  | cons x xs ih => intro c; simp [criticals, cfgAfter, ih]

theorem critical_eq_record {c : Cfg} {x : Call} {id : String} :
    (x.critical c = .req id → ∃ m, x = .req id m) ∧
    (x.critical c = .res id → ∃ m, x = .res id m) := by
  cases x with
  | req id' m =>
    simp only [Call.critical]
    split
    · exact ⟨nofun, nofun⟩
    · exact ⟨fun h => by cases h; exact ⟨m, rfl⟩, nofun⟩
  | res id' m =>
    simp only [Call.critical]
    split
    · exact ⟨nofun, nofun⟩
    · exact ⟨nofun, fun h => by cases h; exact ⟨m, rfl⟩⟩
  | _ => exact ⟨nofun, nofun⟩

theorem criticals_get (cs : List Call) : ∀ (c : Cfg) (i : Nat) (o : Op),
    (criticals c cs)[i]? = some o → ∃ x c', cs[i]? = some x ∧ x.critical c' = o := by
  induction cs with
  | nil => intro c i o h; simp [criticals] at h
  | cons x xs ih =>
    intro c i o h
    cases i with
    | zero => exact ⟨x, c, rfl, Option.some.inj h⟩
    | succ j => exact ih _ j o h

namespace Spec

def runT (l : Log) : List (Nat × Op) → List Obs
  | [] => []
  | (t, o) :: os => (step l t o).2 :: runT (step l t o).1 os

def afterT (l : Log) : List (Nat × Op) → Log
  | [] => l
  | (t, o) :: os => afterT (step l t o).1 os

end Spec

theorem runT_refines (cs : List (Nat × Op)) : ∀ (h : Heap) (l : Log), Reach h l →
    runT h cs = Spec.runT l cs ∧ Reach (afterT h cs) (Spec.afterT l cs) := by
  induction cs with
  | nil => intro h l hr; exact ⟨rfl, hr⟩
  | cons c cs ih =>
    intro h l hr
    obtain ⟨t, o⟩ := c
    obtain ⟨h1, h2⟩ := step_sim h l t o hr
    obtain ⟨i1, i2⟩ := ih _ _ h1
    exact ⟨by rw [runT, Spec.runT, h2, i1], i2⟩

theorem runT_append (a b : List (Nat × Op)) : ∀ (h : Heap),
    runT h (a ++ b) = runT h a ++ runT (afterT h a) b ∧ afterT h (a ++ b) = afterT (afterT h a) b := by
  induction a with
  | nil => intro h; exact ⟨rfl, rfl⟩
  | cons c cs ih =>
    intro h
    obtain ⟨t, o⟩ := c
    obtain ⟨i1, i2⟩ := ih (step h t o).1
    exact ⟨congrArg (_ :: ·) i1, i2⟩

theorem runT_logs_nodup_ids (cs : List (Nat × Op)) : ∀ (l : Log), (idsOf l).Nodup →
    ∀ es, Obs.log es ∈ Spec.runT l cs → (idsOf es).Nodup := by
  induction cs with
  | nil => intro l _ es h; cases h
  | cons c cs ih =>
    intro l hn es h
    rcases List.mem_cons.mp h with h | h
    · obtain ⟨p, rfl⟩ := Spec.step_log h.symm
      exact hn.sublist (List.filter_sublist.map _)
    · exact ih _ (ids_nodup_step l c.1 c.2 hn) es h

namespace Conc

theorem atomic_of_lockOK {tbl : LockTable} (hl : LockOK tbl = true) (o : Op) : atomicIn tbl o = true := by
  simp only [LockOK, List.all_cons, List.all_nil, Bool.and_true, Bool.and_eq_true] at hl
  cases o with
  | idle => rfl
  | _ => simp only [atomicIn, methodOf, hl.1]

theorem exec_total {tbl : LockTable} (hl : LockOK tbl = true) (sched : List Nat) :
    ∀ c, ∃ r, exec tbl c sched = some r := by
  induction sched with
  | nil => intro c; exact ⟨_, rfl⟩
  | cons i is ih =>
    intro c
    unfold exec
    cases hf : fire tbl c i with
    | stuck =>
      unfold fire at hf
      split at hf
      · rw [if_pos (atomic_of_lockOK hl _)] at hf; cases hf
      · cases hf
    | none => exact ih c
    | ev c' e =>
      obtain ⟨r, hr⟩ := ih c'
      exact ⟨(r.1, e :: r.2), by simp [hr]⟩

/-- What a defined execution is: a sequence of critical sections, each run in one piece by a
    thread whose next call it is. -/
inductive Steps : Conf → Conf → List Ev → Prop
  | nil (c : Conf) : Steps c c []
  | cons {c cf : Conf} {i t : Nat} {o : Op} {rest : Prog} {tr : List Ev} :
    c.progs[i]? = some ((t, o) :: rest) →
    Steps ⟨(step c.heap t o).1, c.progs.set i rest⟩ cf tr →
    Steps c cf (⟨i, t, o, (step c.heap t o).2⟩ :: tr)

theorem exec_steps {tbl : LockTable} (sched : List Nat) : ∀ {c cf : Conf} {tr : List Ev},
    exec tbl c sched = some (cf, tr) → Steps c cf tr := by
  induction sched with
  | nil => intro c cf tr h; cases h; exact .nil c
  | cons i is ih =>
    intro c cf tr h
    rw [exec] at h
    cases hf : fire tbl c i with
    | stuck => rw [hf] at h; cases h
    | none => rw [hf] at h; exact ih h
    | ev c' e =>
      rw [hf] at h
      obtain ⟨⟨cf', tr'⟩, hr, heq⟩ := Option.map_eq_some_iff.mp h
      cases heq
      unfold fire at hf
      split at hf
      · rename_i t o rest hp
        by_cases ha : atomicIn tbl o = true
        · rw [if_pos ha] at hf; cases hf; exact .cons hp (ih hr)
        · rw [if_neg ha] at hf; cases hf
      · cases hf

theorem Steps.sound {c cf : Conf} {tr : List Ev} (h : Steps c cf tr) :
    tr.map (·.obs) = runT c.heap (callsOf tr) ∧ cf.heap = afterT c.heap (callsOf tr) := by
  induction h with
  | nil c => exact ⟨rfl, rfl⟩
  | cons _ _ ih => exact ⟨congrArg (_ :: ·) ih.1, ih.2⟩

theorem Steps.program_order {c cf : Conf} {tr : List Ev} (h : Steps c cf tr) (i : Nat) :
    (c.progs[i]?).getD [] = ofThread i tr ++ (cf.progs[i]?).getD [] := by
  induction h with
  | nil c => rfl
  | @cons c cf j t o rest tr hp _ ih =>
    by_cases hij : j = i
    · subst hij
      have hlt : j < c.progs.length := (List.getElem?_eq_some_iff.mp hp).1
      rw [List.getElem?_set_self hlt] at ih
      rw [hp, Option.getD_some, ofThread, List.filter_cons, if_pos (beq_self_eq_true j)]
      exact congrArg (_ :: ·) ih
    · rw [List.getElem?_set_ne hij] at ih
      rw [ofThread, List.filter_cons, if_neg (by simpa using hij)]
      exact ih

theorem exec_sequential {tbl : LockTable} (hl : LockOK tbl = true) (c : Conf) (l : Log)
    (hr : Reach c.heap l) (sched : List Nat) :
    ∃ cf tr, exec tbl c sched = some (cf, tr) ∧
      tr.map (·.obs) = Spec.runT l (callsOf tr) ∧
      Reach cf.heap (Spec.afterT l (callsOf tr)) ∧
      ∀ i, (c.progs[i]?).getD [] = ofThread i tr ++ (cf.progs[i]?).getD [] := by
  obtain ⟨⟨cf, tr⟩, he⟩ := exec_total hl sched c
  have hs := exec_steps sched he
  obtain ⟨r1, r2⟩ := runT_refines (callsOf tr) c.heap l hr
  exact ⟨cf, tr, he, hs.sound.1.trans r1, hs.sound.2 ▸ r2, hs.program_order⟩

end Conc

end Martian.HarLog
