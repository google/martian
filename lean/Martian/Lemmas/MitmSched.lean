import Martian.Lemmas.Mitm
/-!
Invariant of the fine-grained concurrent semantics of `Config.cert` (`stepF`/`runF`, Model/Mitm.lean):
seven program points per requester, a global clock that only moves forward, arbitrary interleaving.
-/
namespace Martian.Mitm
open Martian Martian.Go

/-- Right SAN, CA signature, proxy key, configured organisation. -/
def GoodOrg (cfg : Config) (k : Bytes) (c : Cert) : Prop := GoodFor k c ∧ c.org = cfg.org

/-- What is known about an answer that was checked (cache hit: `Verify`; fresh: second `time.Now()`
of the template) at time `tchk`, for the port-stripped host `k` of the requester. -/
def RetGood (cfg : Config) (k : Bytes) : Outcome → Int → Prop
  | .refused, _ => k = []
  | .served c f, tchk => k ≠ [] ∧ GoodOrg cfg k c ∧
      (f = false → goVerify c k tchk = true) ∧
      (f = true → c.notBefore ≤ tchk - cfg.validity ∧ c.notAfter = floorSec (tchk + cfg.validity))

def FPcGood (cfg : Config) (clock : Int) (hostname : Bytes) : FPc → Prop
  | .start h => h = hostname
  | .looked host c => host = normalise hostname ∧ host ≠ [] ∧ GoodOrg cfg host c
  | .miss host => host = normalise hostname ∧ host ≠ []
  | .tmplNB host _ nb => host = normalise hostname ∧ host ≠ [] ∧ nb ≤ clock - cfg.validity
  | .signed host c t => host = normalise hostname ∧ host ≠ [] ∧ GoodOrg cfg host c ∧ t ≤ clock ∧
      c.notBefore ≤ t - cfg.validity ∧ c.notAfter = floorSec (t + cfg.validity)
  | .ret o tchk => tchk ≤ clock ∧ RetGood cfg (normalise hostname) o tchk
  | .done o tchk tret => tchk ≤ tret ∧ tret ≤ clock ∧ RetGood cfg (normalise hostname) o tchk

def FCacheInv (cfg : Config) (s : State) : Prop := ∀ k c, (k, c) ∈ s.cache → GoodOrg cfg k c

def FInv (cfg : Config) (hosts : List Bytes) (sys : FSys) : Prop :=
  FCacheInv cfg sys.st ∧
  ∀ (i : Nat) (pc : FPc), sys.threads[i]? = some pc → ∃ h, hosts[i]? = some h ∧ FPcGood cfg sys.clock h pc

theorem fpcGood_mono {cfg : Config} {c1 c2 : Int} (hle : c1 ≤ c2) {h : Bytes} {pc : FPc}
    (hg : FPcGood cfg c1 h pc) : FPcGood cfg c2 h pc := by
  cases pc with
  | start _ => exact hg
  | looked _ _ => exact hg
  | miss _ => exact hg
  | tmplNB host ser nb => exact ⟨hg.1, hg.2.1, by have := hg.2.2; omega⟩
  | signed host c t => exact ⟨hg.1, hg.2.1, hg.2.2.1, by have := hg.2.2.2.1; omega, hg.2.2.2.2⟩
  | ret o t => exact ⟨by have := hg.1; omega, hg.2⟩
  | done o t t' => exact ⟨hg.1, by have := hg.2.1; omega, hg.2.2⟩

theorem finv_step {cfg : Config} {hosts : List Bytes} {sys : FSys} (i d : Nat)
    (hi : FInv cfg hosts sys) : FInv cfg hosts (stepF cfg sys i d) := by
  obtain ⟨hc, ht0⟩ := hi
  have ht : ∀ (j : Nat) (pc : FPc), sys.threads[j]? = some pc →
      ∃ h, hosts[j]? = some h ∧ FPcGood cfg (sys.clock + (d : Int)) h pc :=
    fun j pc hj => (ht0 j pc hj).imp fun h hh => ⟨hh.1, fpcGood_mono (by omega) hh.2⟩
  fun_cases stepF cfg sys i d with
  | case1 | case11 => exact ⟨hc, ht⟩  -- no such thread, or `.done`
  | case2 _ _ hostname hti _ hem =>  -- `.start`, the normalised name is empty
    refine ⟨hc, getElem?_set_rel ht hti fun h hg => ?_⟩
    cases (hg : hostname = h)
    exact ⟨Int.le_refl _, by simpa [RetGood] using hem⟩
  | case3 _ _ hostname hti _ hne c hl =>  -- `.start`, hit
    refine ⟨hc, getElem?_set_rel ht hti fun h hg => ?_⟩
    cases (hg : hostname = h)
    exact ⟨rfl, mt List.isEmpty_iff.mpr hne, hc _ _ (mem_of_lookup hl)⟩
  | case4 _ _ hostname hti _ hne =>  -- `.start`, miss
    refine ⟨hc, getElem?_set_rel ht hti fun h hg => ?_⟩
    cases (hg : hostname = h)
    exact ⟨rfl, mt List.isEmpty_iff.mpr hne⟩
  | case5 _ _ host c hti hv =>  -- `.looked`, the certificate verifies
    exact ⟨hc, getElem?_set_rel ht hti fun h ⟨hk, hkne, hgo⟩ =>
      ⟨Int.le_refl _, hk ▸ ⟨hkne, hgo, fun _ => hv, nofun⟩⟩⟩
  | case6 _ _ host c hti =>  -- `.looked`, it does not
    exact ⟨hc, getElem?_set_rel ht hti fun h ⟨hk, hkne, _⟩ => ⟨hk, hkne⟩⟩
  | case7 _ _ host hti =>  -- `.miss`
    exact ⟨hc, getElem?_set_rel ht hti fun h ⟨hk, hkne⟩ => ⟨hk, hkne, floorSec_le _⟩⟩
  | case8 _ _ host ser nb hti =>  -- `.tmplNB`
    refine ⟨hc, getElem?_set_rel ht hti fun h ⟨hk, hkne, hnb⟩ => ⟨hk, hkne, ?_, Int.le_refl _, hnb, rfl⟩⟩
    -- SAN, signature, key and organisation are the template's own fields
    show GoodOrg cfg host _
    exact ⟨⟨rfl, rfl, rfl⟩, rfl⟩
  | case9 _ _ host c t hti =>  -- `.signed`: the insert
    obtain ⟨_, _, _, _, hgo, _⟩ := ht i _ hti
    refine ⟨?_, getElem?_set_rel ht hti fun h ⟨hk, hkne, hgo, htle, hnb, hna⟩ =>
      ⟨htle, hk ▸ ⟨hkne, hgo, nofun, fun _ => ⟨hnb, hna⟩⟩⟩⟩
    intro k' c' hm
    rcases List.mem_cons.mp hm with e | hm
    · cases e; exact hgo
    · exact hc _ _ hm
  | case10 _ _ o t hti =>  -- `.ret`
    exact ⟨hc, getElem?_set_rel ht hti fun h hg => ⟨hg.1, Int.le_refl _, hg.2⟩⟩

theorem finv_run {cfg : Config} {hosts : List Bytes} :
    ∀ (sched : List (Nat × Nat)) {sys : FSys}, FInv cfg hosts sys → FInv cfg hosts (runF cfg sched sys)
  | [], _, hi => hi
  | (i, d) :: rest, _, hi => finv_run rest (finv_step i d hi)

theorem finv_start {cfg : Config} {hosts : List Bytes} {s : State} {t0 : Int} (hc : FCacheInv cfg s) :
    FInv cfg hosts { st := s, clock := t0, threads := hosts.map FPc.start } :=
  ⟨hc, getElem?_map_rel (R := FPcGood cfg t0) (f := FPc.start) (fun _ => rfl) hosts⟩

theorem stepF_clock (cfg : Config) (sys : FSys) (i d : Nat) : (stepF cfg sys i d).clock = sys.clock + (d : Int) := by
  fun_cases stepF cfg sys i d <;> rfl

/-- The clock never runs backwards. -/
theorem clock_mono_step (cfg : Config) (sys : FSys) (i d : Nat) : sys.clock ≤ (stepF cfg sys i d).clock := by
  rw [stepF_clock]; omega

theorem inWindow_of_between {c : Cert} {t1 t2 : Int} (h1 : inWindow c t1 = true) (hle : t1 ≤ t2) (h2 : t2 ≤ c.notAfter) :
    inWindow c t2 = true := by
  simp only [inWindow, Bool.and_eq_true, decide_eq_true_eq] at h1 ⊢
  constructor
  · have := h1.1; omega
  · exact h2

end Martian.Mitm
