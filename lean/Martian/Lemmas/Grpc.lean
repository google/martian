import Martian.Model.Grpc
import Martian.Lemmas.Be32
/-! Lemmas about the model `Grpc` (C11). The fragmentation results all come from `loop_app`: feeding
`x ++ y` is feeding `x`, then `y`. Core Lean only. -/
namespace Martian.Grpc
open Martian

theorem getD_append_left {xs : Bytes} {i : Nat} (b : Bytes) (h : i < xs.length) :
    (xs ++ b).getD i 0 = xs.getD i 0 := by
  simp only [List.getD_eq_getElem?_getD, List.getElem?_append_left h]

theorem be32_append (xs b : Bytes) (h : 4 ≤ xs.length) : be32 (xs ++ b) = be32 xs := by
  simp only [be32, getD_append_left b (show 0 < xs.length by omega), getD_append_left b (show 1 < xs.length by omega),
    getD_append_left b (show 2 < xs.length by omega), getD_append_left b (show 3 < xs.length by omega)]

theorem u32_of_lt {n : Nat} (h : n < 4294967296) : u32 n = n := Nat.mod_eq_of_lt h

theorem u32_le (n : Nat) : u32 n ≤ n := Nat.mod_le _ _

theorem u32_lt (n : Nat) : u32 n < 4294967296 := Nat.mod_lt _ (by decide)

/-- `uint32` wrap-around: 2^32 more bytes are invisible to `uint32(len(data))`, the emitter's prefix
(and, before fix ba75971, were invisible to the comparison of the buffer length with `a.length`) -/
theorem u32_add_wrap (n : Nat) : u32 (n + 4294967296) = u32 n := by simp [u32]

theorem be32_lt (b : Bytes) : be32 b < 4294967296 := by
  have h0 := (b.getD 0 0).toNat_lt
  have h1 := (b.getD 1 0).toNat_lt
  have h2 := (b.getD 2 0).toNat_lt
  have h3 := (b.getD 3 0).toNat_lt
  simp only [be32]
  omega

/-- `binary.Write(.., uint32(n))` writes the truncated value -/
theorem putBe32_u32 (n : Nat) : putBe32 (u32 n) = putBe32 n := by
  have e1 : n % 4294967296 / 16777216 % 256 = n / 16777216 % 256 := Be32.digit_mod n 16777216 1
  have e2 : n % 4294967296 / 65536 % 256 = n / 65536 % 256 := Be32.digit_mod n 65536 256
  have e3 : n % 4294967296 / 256 % 256 = n / 256 % 256 := Be32.digit_mod n 256 65536
  have e4 : n % 4294967296 % 256 = n % 256 := Nat.mod_mod_of_dvd n (by decide)
  simp only [putBe32, u32, e1, e2, e3, e4]

theorem be32_putBe32_u32 (n : Nat) (rest : Bytes) : be32 (putBe32 n ++ rest) = u32 n := by
  simp [be32, putBe32, u32]
  rw [Be32.weights, ← Be32.mod_two32]

theorem be32_putBe32 (n : Nat) (h : n < 4294967296) (rest : Bytes) : be32 (putBe32 n ++ rest) = n := by
  rw [be32_putBe32_u32, u32_of_lt h]

theorem putBe32_length (n : Nat) : (putBe32 n).length = 4 := by simp [putBe32]

/-- the `a2` of `loop`: the payload taken off the buffer, back to `readingMetadata` -/
def Adapter.afterMsg (a : Adapter) : Adapter := { a with buf := a.buf.drop a.length, reading := false }

/-- the `a1` of `loop`: the 5-byte prefix taken off the buffer, flag and length stored -/
def Adapter.afterPrefix (a : Adapter) : Adapter :=
  { a with compressed := a.buf.getD 0 0 > 0, length := be32 (a.buf.drop 1), buf := a.buf.drop 5, reading := true }

theorem res_eta (r : Res) : (⟨r.calls, r.next⟩ : Res) = r := by cases r; rfl

/-! One equation per branch of `loop`. `fun_induction loop` numbers the branches: reading the
payload — 1 incomplete (`loop_reading_lt`), 2 decoding fails (`loop_reading_err`), 3 delivered and
the buffer is empty, 4 delivered and the loop goes on (`loop_reading_some`); reading the prefix —
5 incomplete (`loop_meta_lt`), 6 read, the buffer is empty and the length is not 0, 7 read and the
loop goes on (`loop_meta_prefix`). -/

theorem loop_reading_lt (cd : Codec) (es : Bool) (a : Adapter) (hr : a.reading = true)
    (h : a.buf.length < a.length) : loop cd es a = ⟨[], some a⟩ := by
  conv => lhs; rw [loop]
  simp [hr, h]

theorem loop_reading_err (cd : Codec) (es : Bool) (a : Adapter) (hr : a.reading = true)
    (h : a.length ≤ a.buf.length) (hd : decode cd a.enc a.compressed (a.buf.take a.length) = none) :
    loop cd es a = ⟨[], none⟩ := by
  conv => lhs; rw [loop]
  simp [hr, Nat.not_lt.mpr h, hd]

theorem loop_reading_some (cd : Codec) (es : Bool) (a : Adapter) (hr : a.reading = true)
    (h : a.length ≤ a.buf.length) (d : Bytes) (hd : decode cd a.enc a.compressed (a.buf.take a.length) = some d) :
    loop cd es a =
      if a.buf.drop a.length = [] then ⟨[⟨a.compressed, d, es⟩], some a.afterMsg⟩
      else Res.cons ⟨a.compressed, d, false⟩ (loop cd es a.afterMsg) := by
  conv => lhs; rw [loop]
  by_cases he : a.buf.drop a.length = []
  · simp [hr, Nat.not_lt.mpr h, hd, he, Adapter.afterMsg]
  · simp [hr, Nat.not_lt.mpr h, hd, he, List.isEmpty_eq_false_iff.mpr he, Adapter.afterMsg]

theorem loop_meta_lt (cd : Codec) (es : Bool) (a : Adapter) (hr : a.reading = false)
    (h : a.buf.length < 5) :
    loop cd es a = ⟨if es && a.buf.isEmpty then [⟨a.compressed, [], true⟩] else [], some a⟩ := by
  conv => lhs; rw [loop]
  simp [hr, h]

theorem loop_meta_prefix (cd : Codec) (es : Bool) (a : Adapter) (hr : a.reading = false) (h : 5 ≤ a.buf.length) :
    loop cd es a =
      if a.buf.drop 5 = [] ∧ be32 (a.buf.drop 1) ≠ 0 then ⟨[], some a.afterPrefix⟩
      else loop cd es a.afterPrefix := by
  have hne : a.buf ≠ [] := List.ne_nil_of_length_pos (by omega)
  conv => lhs; rw [loop]
  simp [hr, Nat.not_lt.mpr h, hne, Adapter.afterPrefix, List.drop_one, res_eta]

theorem loop_quiescent (cd : Codec) (a : Adapter)
    (h : (a.reading = false → a.buf.length < 5) ∧ (a.reading = true → a.buf.length < a.length)) :
    loop cd false a = ⟨[], some a⟩ := by
  cases hr : a.reading with
  | true => exact loop_reading_lt cd false a hr (h.2 hr)
  | false => rw [loop_meta_lt cd false a hr (h.1 hr)]; rfl

/-- What `loop` leaves behind when it returns without error. -/
structure Next (a a' : Adapter) : Prop where
  enc : a'.enc = a.enc
  length : a.length < 4294967296 → a'.length < 4294967296
  /-- `a'` waits for the rest of a prefix or of a payload -/
  waits : (a'.reading = false → a'.buf.length < 5) ∧ (a'.reading = true → a'.buf.length < a'.length)

theorem loop_next (cd : Codec) (es : Bool) (a a' : Adapter) (h : (loop cd es a).next = some a') : Next a a' := by
  fun_induction loop cd es a with
  | case1 a hr hlt => cases h; exact ⟨rfl, id, by simp [hr], fun _ => hlt⟩
  | case2 a hr hlt hd => cases h
  | case3 a hr hlt d hd a2 c he =>
    obtain rfl := Option.some.inj h
    have : a.buf.drop a.length = [] := by simpa [a2] using he
    exact ⟨rfl, id, by simp [a2, this], by simp [a2]⟩
  | case4 a hr hlt d hd a2 c he ih => exact ⟨(ih h).enc, (ih h).length, (ih h).waits⟩
  | case5 a hr pre hlt => cases h; exact ⟨rfl, id, fun _ => hlt, fun h' => absurd h' hr⟩
  | case6 a hr pre hlt a1 he =>
    obtain rfl := Option.some.inj h
    have he' : a.buf.length ≤ 5 ∧ be32 (a.buf.drop 1) ≠ 0 := by simpa [a1] using he
    refine ⟨rfl, fun _ => be32_lt _, by simp [a1], fun _ => ?_⟩
    show (a.buf.drop 5).length < be32 (a.buf.drop 1)
    rw [List.length_drop]; omega
  | case7 a hr pre hlt a1 he r ih =>
    have := ih h
    exact ⟨this.enc, fun _ => this.length (be32_lt _), this.waits⟩

theorem app_nil (a : Adapter) : a.app [] = a := by simp [Adapter.app]

theorem app_app (a : Adapter) (x y : Bytes) : (a.app x).app y = a.app (x ++ y) := by simp [Adapter.app]

theorem cons_andThen (c : Call) (r : Res) (f : Adapter → Res) :
    (Res.cons c r).andThen f = Res.cons c (r.andThen f) := by
  cases r with
  | mk calls next => cases next <;> simp [Res.cons, Res.andThen]

theorem andThen_assoc (r : Res) (f g : Adapter → Res) :
    (r.andThen f).andThen g = r.andThen (fun a => (f a).andThen g) := by
  obtain ⟨calls, _ | a⟩ := r
  · rfl
  · cases h : (f a).next <;> simp [Res.andThen, h]

theorem andThen_ret (r : Res) : r.andThen (fun a' => ⟨[], some a'⟩) = r := by
  cases r with
  | mk calls next => cases next <;> simp [Res.andThen]

theorem andThen_pure (a : Adapter) (f : Adapter → Res) : (⟨[], some a⟩ : Res).andThen f = f a := by
  simp [Res.andThen]

/- `take`, `drop` and `getD` of `a.buf ++ b` at positions inside `a.buf` do not see `b`: below a
complete message or prefix the loop does on `a.app b` what it does on `a`, and goes on. -/

theorem loop_app_msg (cd : Codec) (es : Bool) (a : Adapter) (b : Bytes) (hr : a.reading = true)
    (hle : a.length ≤ a.buf.length) (d : Bytes) (hd : decode cd a.enc a.compressed (a.buf.take a.length) = some d)
    (hb : b ≠ []) :
    loop cd es (a.app b) = Res.cons ⟨a.compressed, d, false⟩ (loop cd es (a.afterMsg.app b)) := by
  have htake : (a.buf ++ b).take a.length = a.buf.take a.length := List.take_append_of_le_length hle
  have hdrop : (a.buf ++ b).drop a.length = a.buf.drop a.length ++ b := List.drop_append_of_le_length hle
  have hmore : (a.app b).buf.drop (a.app b).length ≠ [] := by simp [Adapter.app, hdrop, hb]
  rw [show a.afterMsg.app b = (a.app b).afterMsg by simp [Adapter.afterMsg, Adapter.app, hdrop],
    loop_reading_some cd es (a.app b) hr (by simp [Adapter.app]; omega) d (by simpa [Adapter.app, htake] using hd),
    if_neg hmore]
  rfl

theorem loop_app_prefix (cd : Codec) (es : Bool) (a : Adapter) (b : Bytes) (hr : a.reading = false)
    (hle : 5 ≤ a.buf.length) (hb : b ≠ []) : loop cd es (a.app b) = loop cd es (a.afterPrefix.app b) := by
  have hflag : (a.buf ++ b).getD 0 0 = a.buf.getD 0 0 := getD_append_left b (by omega)
  have hlen : be32 ((a.buf ++ b).drop 1) = be32 (a.buf.drop 1) := by
    rw [List.drop_append_of_le_length (by omega), be32_append _ _ (by simp; omega)]
  have hdrop : (a.buf ++ b).drop 5 = a.buf.drop 5 ++ b := List.drop_append_of_le_length hle
  have hmore : ¬((a.app b).buf.drop 5 = [] ∧ be32 ((a.app b).buf.drop 1) ≠ 0) := by simp [Adapter.app, hdrop, hb]
  rw [show a.afterPrefix.app b = (a.app b).afterPrefix by simp only [Adapter.afterPrefix, Adapter.app, hflag, hlen, hdrop]]
  exact (loop_meta_prefix cd es (a.app b) hr (by simp [Adapter.app]; omega)).trans (if_neg hmore)

/-- Core of "streaming = batch": running the loop on `buffer ++ b` is running it on `buffer`
(not at end of stream) and then on what is left with `b` appended - unless the second step would
be an END_STREAM with nothing appended (that case is the empty end-of-stream frame). -/
theorem loop_app (cd : Codec) (es : Bool) (a : Adapter) (b : Bytes) (h : b ≠ [] ∨ es = false) :
    loop cd es (a.app b) = (loop cd false a).andThen (fun a' => loop cd es (a'.app b)) := by
  by_cases hb : b = []
  · -- nothing appended, no end of stream: on the adapter the first run leaves, the loop returns at once
    obtain rfl : es = false := h.resolve_left (· hb)
    subst hb
    simp only [app_nil, Res.andThen]
    cases hn : (loop cd false a).next with
    | none => rfl
    | some a' =>
      simp only [loop_quiescent cd a' (loop_next cd false a a' hn).waits, List.append_nil]
      rw [← hn, res_eta]
  clear h
  fun_induction loop cd false a with
  | case1 a hr hlt => simp [Res.andThen]
  | case2 a hr hlt hd =>
    have hle : a.length ≤ a.buf.length := Nat.le_of_not_lt hlt
    rw [loop_reading_err cd es (a.app b) hr (by simp [Adapter.app]; omega)
      (by simpa [Adapter.app, List.take_append_of_le_length hle] using hd)]
    rfl
  | case3 a hr hlt d hd a2 c he =>
    rw [loop_app_msg cd es a b hr (Nat.le_of_not_lt hlt) d hd hb]
    rfl
  | case4 a hr hlt d hd a2 c he ih =>
    rw [loop_app_msg cd es a b hr (Nat.le_of_not_lt hlt) d hd hb, cons_andThen, ← ih]
    rfl
  | case5 a hr pre hlt => simp [Res.andThen, pre]
  | case6 a hr pre hlt a1 he =>
    rw [loop_app_prefix cd es a b (by simpa using hr) (Nat.le_of_not_lt hlt) hb]
    simp [Res.andThen, pre, a1, Adapter.afterPrefix]
  | case7 a hr pre hlt a1 he r ih =>
    rw [loop_app_prefix cd es a b (by simpa using hr) (Nat.le_of_not_lt hlt) hb, show a.afterPrefix = a1 from rfl, ih]
    simp [pre, r, res_eta]

theorem flatten_ne_nil_of_getLast (fs : List Bytes) (h : fs ≠ []) (hl : fs.getLast? ≠ some []) :
    fs.flatten ≠ [] := by
  intro hc
  rw [List.getLast?_eq_some_getLast h] at hl
  exact hl (congrArg some (List.flatten_eq_nil_iff.mp hc _ (List.getLast_mem h)))

theorem runFrames_cons (cd : Codec) (a : Adapter) (f : Bytes) (rest : List Bytes) (es : Bool) (h : rest ≠ []) :
    runFrames cd a (f :: rest) es = (data cd a f false).andThen (fun a' => runFrames cd a' rest es) := by
  cases rest with
  | nil => exact absurd rfl h
  | cons g gs => rfl

theorem runFrames_snoc (cd : Codec) (a : Adapter) (fs : List Bytes) (g : Bytes) (es : Bool) :
    runFrames cd a (fs ++ [g]) es = (runFrames cd a fs false).andThen (fun a' => data cd a' g es) := by
  induction fs generalizing a with
  | nil => simp [runFrames, Res.andThen]
  | cons f fs ih =>
    cases fs with
    | nil => rfl
    | cons h hs =>
      simp only [List.cons_append, runFrames] at ih ⊢
      rw [andThen_assoc]
      congr 1; funext a'; exact ih a'

theorem frame_length (m : GMsg) : m.frame.length = 5 + m.wire.length := by
  simp [GMsg.frame, putBe32_length]; omega

theorem frame_ne_nil (m : GMsg) : m.frame ≠ [] := by simp [GMsg.frame]

theorem stream_cons (m : GMsg) (ms : List GMsg) : stream (m :: ms) = m.frame ++ stream ms := by
  simp [stream]

theorem stream_append (xs ys : List GMsg) : stream (xs ++ ys) = stream xs ++ stream ys := by
  simp [stream]

theorem loop_frame (cd : Codec) (es : Bool) (a : Adapter) (m : GMsg) (rest : Bytes)
    (hr : a.reading = false) (hb : a.buf = m.frame ++ rest) (hok : m.ok cd a.enc) :
    loop cd es a =
      if rest = [] then ⟨[⟨m.compressed, m.plain, es⟩], some (a.afterDelivery m [])⟩
      else Res.cons ⟨m.compressed, m.plain, false⟩ (loop cd es (a.afterDelivery m rest)) := by
  have hlen : 5 ≤ a.buf.length := by rw [hb]; simp [frame_length]; omega
  have hd5 : a.buf.drop 5 = m.wire ++ rest := by
    rw [hb]; simp [GMsg.frame, putBe32]
  have hbe : be32 (a.buf.drop 1) = m.wire.length := by
    rw [hb]
    simp only [GMsg.frame, List.cons_append, List.drop_one, List.tail_cons, List.append_assoc]
    exact be32_putBe32 _ hok.2 _
  have hflag : decide (a.buf.getD 0 0 > 0) = m.compressed := by
    rw [hb]; cases hc : m.compressed <;> simp [GMsg.frame, hc]
  -- an empty payload is announced by a zero prefix
  have hgo : ¬(a.buf.drop 5 = [] ∧ be32 (a.buf.drop 1) ≠ 0) := fun h => by
    have hw : m.wire = [] := (List.append_eq_nil_iff.mp (hd5 ▸ h.1)).1
    exact h.2 (by rw [hbe, hw]; rfl)
  have hap : a.afterPrefix =
      { enc := a.enc, buf := m.wire ++ rest, reading := true, compressed := m.compressed, length := m.wire.length } := by
    simp only [Adapter.afterPrefix, hd5, hbe, hflag]
  rw [loop_meta_prefix cd es a hr hlen, if_neg hgo, hap,
    loop_reading_some cd es _ rfl (by simp) m.plain (by simpa using hok.1)]
  by_cases hrest : rest = [] <;> simp [Adapter.afterMsg, Adapter.afterDelivery, hrest]

theorem afterDelivery_app (a : Adapter) (m : GMsg) (rest : Bytes) :
    (a.afterDelivery m []).app rest = a.afterDelivery m rest := by
  simp [Adapter.afterDelivery, Adapter.app]

theorem stream_ne_nil (ms : List GMsg) (h : ms ≠ []) : stream ms ≠ [] := by
  cases ms with
  | nil => exact absurd rfl h
  | cons m ms => simp [stream_cons, frame_ne_nil]

theorem loop_stream (cd : Codec) (es : Bool) (ms : List GMsg) (hne : ms ≠ [] ∨ es = false) (a : Adapter)
    (hr : a.reading = false) (hb : a.buf = stream ms) (hok : ∀ m ∈ ms, m.ok cd a.enc) :
    ∃ a', loop cd es a = ⟨expCalls ms es, some a'⟩ ∧ a'.atRest ∧ a'.enc = a.enc := by
  induction ms generalizing a with
  | nil =>
    obtain rfl : es = false := hne.resolve_left (· rfl)
    exact ⟨a, by rw [loop_meta_lt cd false a hr (by simp [hb, stream])]; rfl, ⟨hr, hb⟩, rfl⟩
  | cons m ms ih =>
    rw [loop_frame cd es a m (stream ms) hr (by rw [hb, stream_cons]) (hok m (List.mem_cons_self ..))]
    cases ms with
    | nil => exact ⟨a.afterDelivery m [], by simp [stream, expCalls], ⟨rfl, rfl⟩, rfl⟩
    | cons m' ms' =>
      obtain ⟨a', h1, h2, h3⟩ := ih (Or.inl (by simp)) (a.afterDelivery m (stream (m' :: ms'))) rfl rfl
        (fun x hx => hok x (List.mem_cons_of_mem _ hx))
      exact ⟨a', by rw [if_neg (stream_ne_nil _ (by simp)), h1]; rfl, h2, h3⟩

theorem data_stream (cd : Codec) (es : Bool) (ms : List GMsg) (hne : ms ≠ [] ∨ es = false) (a : Adapter)
    (ha : a.atRest) (hok : ∀ m ∈ ms, m.ok cd a.enc) :
    ∃ a', data cd a (stream ms) es = ⟨expCalls ms es, some a'⟩ ∧ a'.atRest ∧ a'.enc = a.enc :=
  loop_stream cd es ms hne (a.app (stream ms)) ha.1 (by simp [Adapter.app, ha.2]) hok

/-- the known defect F11b, exactly: END_STREAM on an empty DATA frame while no message is
pending is one `Message(nil, true)` call -/
theorem data_nil_true (cd : Codec) (a : Adapter) (ha : a.atRest) :
    data cd a [] true = ⟨[⟨a.compressed, [], true⟩], some a⟩ := by
  unfold data
  rw [app_nil, loop_meta_lt cd true a ha.1 (by simp [ha.2])]
  simp [ha.2]

theorem msgs_ne_nil_of_frames {ms : List GMsg} {fs : List Bytes} (hne : fs ≠ []) (hlast : fs.getLast? ≠ some [])
    (hfl : fs.flatten = stream ms) : ms ≠ [] := by
  rintro rfl
  exact flatten_ne_nil_of_getLast fs hne hlast hfl

theorem emit_expected (cd : Codec) (e : Enc) (m : GMsg) (es : Bool) :
    emit cd e ⟨m.compressed, m.plain, es⟩ = ((m.reenc cd e).frame, es) := by
  cases hc : m.compressed <;> simp [emit, GMsg.reenc, GMsg.frame, hc]

theorem sink_payloads (cd : Codec) (e : Enc) (ms : List GMsg) (es : Bool) :
    (((expCalls ms es).map (emit cd e)).map Prod.fst).flatten = stream (ms.map (GMsg.reenc cd e)) := by
  fun_induction expCalls ms es with
  | case1 => rfl
  | case2 m es => simp [stream, emit_expected]
  | case3 m m' ms es ih => simpa [stream, emit_expected] using ih

theorem sink_flags (cd : Codec) (e : Enc) (ms : List GMsg) (es : Bool) (hne : ms ≠ []) :
    ((expCalls ms es).map (emit cd e)).map Prod.snd = List.replicate (ms.length - 1) false ++ [es] := by
  fun_induction expCalls ms es with
  | case1 => exact absurd rfl hne
  | case2 m es => rfl
  | case3 m m' ms es ih => simpa [emit, List.replicate_succ] using ih

theorem expCalls_length (ms : List GMsg) (es : Bool) : (expCalls ms es).length = ms.length := by
  fun_induction expCalls ms es with
  | case1 => rfl
  | case2 => rfl
  | case3 m m' ms es ih => simpa using ih

theorem expCalls_reenc (cd : Codec) (e : Enc) (ms : List GMsg) (es : Bool) :
    expCalls (ms.map (GMsg.reenc cd e)) es = expCalls ms es := by
  fun_induction expCalls ms es with
  | case1 => rfl
  | case2 => rfl
  | case3 m m' ms es ih => simpa [expCalls, GMsg.reenc] using ih

theorem decode_encode (cd : Codec) (hrt : cd.RoundTrip) (e : Enc) (c : Bool) (x : Bytes) :
    decode cd e c (encode cd e c x) = some x := by
  cases c <;> cases e <;> simp [decode, encode, hrt _ _]

theorem run_not_grpc (cd : Codec) (s : Stream) (fs : List Frame) (hs : s.enabled = false)
    (hf : ∀ f ∈ fs, f.announcesGrpc = false) : Stream.run cd s fs = fs.map Frame.forwarded := by
  induction fs generalizing s with
  | nil => simp [Stream.run]
  | cons f fs ih =>
    have hrest := ih s hs (fun g hg => hf g (by simp [hg]))
    cases f with
    | headers d hds es =>
      have h1 : isGrpcHeaders hds = false := by simpa [Frame.announcesGrpc] using hf (.headers d hds es) (by simp)
      simp [Stream.run, Stream.header, hs, h1, Frame.forwarded, hrest]
    | data d b es =>
      simp [Stream.run, Stream.data, hs, Frame.forwarded, hrest]

theorem scanEncoding_append (e : Enc) (xs ys : List Header) :
    scanEncoding e (xs ++ ys) =
      if (scanEncoding e xs).2 then scanEncoding (scanEncoding e xs).1 ys else scanEncoding e xs := by
  fun_induction scanEncoding e xs with
  | case1 => rfl
  | case2 e v hs e' hv ih => simpa [scanEncoding, hv] using ih
  | case3 e v hs hv => simp [scanEncoding, hv]
  | case4 e n v hs hn ih => simpa [scanEncoding, hn] using ih

theorem Stream.get_set (s : Stream) (d d' : Dir) (a : Adapter) :
    (s.set d a).get d' = if d' = d then a else s.get d' := by
  cases d <;> cases d' <;> rfl

theorem Stream.set_enabled (s : Stream) (d : Dir) (a : Adapter) : (s.set d a).enabled = s.enabled := by
  cases d <;> rfl

theorem Stream.get_enable (s : Stream) (b : Bool) (d : Dir) : ({ s with enabled := b }).get d = s.get d := by
  cases d <;> rfl

/-- `Stream.header` with the scan result projected instead of matched and the state, which is the same
whether or not the scan succeeds, written once -/
theorem Stream.header_eq (s : Stream) (d : Dir) (hs : List Header) (es : Bool) :
    s.header d hs es =
      if (s.enabled || isGrpcHeaders hs) = true then
        ({ s with enabled := true }.set d { s.get d with enc := (scanEncoding (s.get d).enc hs).1 },
          if (scanEncoding (s.get d).enc hs).2 = true then [.procHeader hs es, .sinkHeader hs es]
          else [.error "encoding"])
      else (s, [.sinkHeader hs es]) := by
  unfold Stream.header
  cases s.enabled || isGrpcHeaders hs with
  | false => rfl
  | true =>
    generalize scanEncoding (s.get d).enc hs = r
    obtain ⟨e, ok⟩ := r
    cases d <;> cases ok <;> rfl

theorem Stream.header_get (s : Stream) (d d' : Dir) (hs : List Header) (es : Bool) :
    (s.header d hs es).1.get d' =
      if (s.enabled || isGrpcHeaders hs) = true ∧ d' = d then
        { s.get d with enc := (scanEncoding (s.get d).enc hs).1 }
      else s.get d' := by
  rw [Stream.header_eq]
  by_cases h : (s.enabled || isGrpcHeaders hs) = true
  · by_cases hd : d' = d <;> simp [h, hd, Stream.get_set, Stream.get_enable]
  · simp [h]

theorem Stream.data_some {cd : Codec} {s s' : Stream} {d : Dir} {b : Bytes} {es : Bool} {evs : List Ev}
    (h : Stream.data cd s d b es = (some s', evs)) :
    s' = s ∨ ∃ a', (Grpc.data cd (s.get d) b es).next = some a' ∧ s' = s.set d a' := by
  unfold Stream.data at h
  cases hen : s.enabled with
  | false => simp [hen] at h; exact Or.inl h.1.symm
  | true =>
    simp only [hen] at h
    cases hn : (Grpc.data cd (s.get d) b es).next with
    | none => simp [hn] at h
    | some a' => simp [hn] at h; exact Or.inr ⟨a', rfl, h.1.symm⟩

theorem runO_none (cd : Codec) (fs : List Frame) : Stream.runO cd none fs = [] := by
  cases fs <;> rfl

theorem run_eq_runO (cd : Codec) (s : Stream) (fs : List Frame) : Stream.run cd s fs = Stream.runO cd (some s) fs := by
  induction fs generalizing s with
  | nil => rfl
  | cons f fs ih =>
    cases f with
    | headers d hs es =>
      simp only [Stream.run, Stream.runO, Stream.step]
      cases h : (s.header d hs es).2.any (fun e => match e with | .error _ => true | _ => false) with
      | true => simp [runO_none]
      | false => simp [ih]
    | data d b es =>
      simp only [Stream.run, Stream.runO, Stream.step]
      cases h : (Stream.data cd s d b es).1 with
      | none => simp [runO_none]
      | some s' => simp [ih]

theorem multi_get_set (m : Multi) (sid sid' : Nat) (s : Option Stream) :
    (m.set sid s).get sid' = if sid' = sid then s else m.get sid' := by
  by_cases h : sid' = sid
  · subst h; simp [Multi.get, Multi.set]
  · have : (sid' == sid) = false := by simpa using h
    simp [Multi.get, Multi.set, List.lookup, this, h]

end Martian.Grpc
