import Martian.Model.HarLog
/-!
Refinement of the pointer-level HAR log (`HarLog.Heap`) to the list specification (`HarLog.Spec`).

`Rep h ns` : the heap `h` represents the address list `ns` (arrival order): the ring reached from
`tail` is exactly `ns`, the map indexes exactly `ns` by ID, `len(entries) = |ns|`.
For every operation: `Rep` is preserved and the observation equals the specification's (`step_sim`).

The second half (from `rqs` on) reasons about histories of the specification alone: an observation
of a run is that of one operation on the log its predecessors left (`Spec.mem_run`), so what is
handed out inherits every invariant of the log (`WF`, `Own`).
-/
namespace Martian.HarLog

theorem upd_same {β : Type} (f : Nat → β) (a : Nat) (v : β) : upd f a v a = v := by simp [upd]
theorem upd_other {β : Type} (f : Nat → β) (a : Nat) (v : β) (x : Nat) (h : x ≠ a) :
    upd f a v x = f x := by simp [upd, h]

def lastOr (a : Nat) (l : List Nat) : Nat := (l.getLast?).getD a
@[simp] theorem lastOr_nil (a : Nat) : lastOr a [] = a := rfl
@[simp] theorem lastOr_snoc (a : Nat) (l : List Nat) (c : Nat) : lastOr a (l ++ [c]) = c := by
  simp [lastOr]
theorem lastOr_cons (a b : Nat) (l : List Nat) : lastOr a (b :: l) = lastOr b l := by
  simp [lastOr, List.getLast?_cons]
theorem lastOr_mem_cons (a : Nat) (l : List Nat) : lastOr a l ∈ a :: l :=
  List.mem_of_getLast? List.getLast?_cons

/-- `Link nx a k`: `nx a = k[0]`, `nx k[i] = k[i+1]` (nothing about the last element). -/
def Link (nx : Nat → Nat) : Nat → List Nat → Prop
  | _, [] => True
  | a, b :: k => nx a = b ∧ Link nx b k

theorem Link_append (nx : Nat → Nat) (a : Nat) (k1 k2 : List Nat) :
    Link nx a (k1 ++ k2) ↔ Link nx a k1 ∧ Link nx (lastOr a k1) k2 := by
  induction k1 generalizing a with
  | nil => simp [Link]
  | cons b k ih => simp only [List.cons_append, Link, ih b, and_assoc, lastOr_cons]

theorem Link_snoc (nx : Nat → Nat) (a : Nat) (k : List Nat) (c : Nat) :
    Link nx a (k ++ [c]) ↔ Link nx a k ∧ nx (lastOr a k) = c := by
  rw [Link_append]; simp [Link]

theorem Link_upd_notin {nx : Nat → Nat} {a : Nat} {k : List Nat} {y : Nat} (v : Nat)
    (hy : y ∉ a :: k) : Link nx a k → Link (upd nx y v) a k := by
  induction k generalizing a with
  | nil => exact id
  | cons b k ih =>
    intro ⟨h1, h2⟩
    exact ⟨(upd_other _ _ _ _ fun he => hy (by rw [← he]; exact List.mem_cons_self)).trans h1,
      ih (fun hm => hy (List.mem_cons_of_mem _ hm)) h2⟩

theorem Link_upd_last {nx : Nat → Nat} {a : Nat} {k : List Nat} (v : Nat)
    (hnd : (a :: k).Nodup) : Link nx a k → Link (upd nx (lastOr a k) v) a k := by
  induction k generalizing a with
  | nil => exact id
  | cons b k ih =>
    intro ⟨h1, h2⟩
    have hnd' := List.nodup_cons.mp hnd
    rw [lastOr_cons]
    refine ⟨(upd_other _ _ _ _ fun he => hnd'.1 ?_).trans h1, ih hnd'.2 h2⟩
    rw [he]; exact lastOr_mem_cons b k

/-- `ns`: the addresses of the ring's nodes in arrival order. `apos`, `pos`: address 0 is nil, nodes
lie below the allocation pointer; `tl`, `link`: `tail` is the last node and `nx` leads from `tail`
through `ns`; `idx`, `cnt`: `entries` maps exactly the IDs of `ns`. -/
structure Rep (h : Heap) (ns : List Nat) : Prop where
  nd : ns.Nodup
  apos : 0 < h.alloc
  pos : ∀ a ∈ ns, 0 < a ∧ a < h.alloc
  tl : h.tail = lastOr 0 ns
  link : Link h.nx h.tail ns
  idx : ∀ id a, h.entries.get id = some a ↔ (a ∈ ns ∧ h.ident a = id)
  cnt : h.entries.len = ns.length

def absOf (h : Heap) (ns : List Nat) : Log := ns.map (entOf h)

/-- `Reach h l`: the heap `h` is a well-formed ring + index representing the abstract log `l`. -/
def Reach (h : Heap) (l : Log) : Prop := ∃ ns, Rep h ns ∧ absOf h ns = l

theorem Rep_init : Rep init [] := by
  constructor <;> simp [init, Link, GoMap.empty]

theorem Reach_init : Reach init [] := ⟨[], Rep_init, rfl⟩

theorem absOf_congr (h h' : Heap) (ns : List Nat)
    (hf : ∀ a ∈ ns, h'.ident a = h.ident a ∧ h'.rq a = h.rq a ∧ h'.rs a = h.rs a) :
    absOf h' ns = absOf h ns := by
  apply List.map_congr_left
  intro a ha
  obtain ⟨h1, h2, h3⟩ := hf a ha
  simp only [entOf, h1, h2, h3]

theorem Rep.tail_mem {h : Heap} {ns : List Nat} (r : Rep h ns) (hne : ns ≠ []) : h.tail ∈ ns := by
  rw [r.tl]
  cases ns with
  | nil => exact absurd rfl hne
  | cons b k => rw [lastOr_cons]; exact lastOr_mem_cons b k

theorem Rep.tail_zero_iff {h : Heap} {ns : List Nat} (r : Rep h ns) : h.tail = 0 ↔ ns = [] := by
  constructor
  · intro ht
    by_cases hne : ns = []
    · exact hne
    · have := (r.pos _ (r.tail_mem hne)).1; omega
  · intro hn; rw [r.tl, hn]; rfl

theorem Rep.ident_inj {h : Heap} {ns : List Nat} (r : Rep h ns) {a b : Nat}
    (ha : a ∈ ns) (hb : b ∈ ns) (he : h.ident a = h.ident b) : a = b :=
  Option.some.inj (((r.idx _ a).mpr ⟨ha, he⟩).symm.trans ((r.idx _ b).mpr ⟨hb, rfl⟩))

theorem Rep.get_none {h : Heap} {ns : List Nat} (r : Rep h ns) {id : String}
    (hg : h.entries.get id = none) : ∀ a ∈ ns, h.ident a ≠ id := by
  intro a ha he
  rw [(r.idx id a).mpr ⟨ha, he⟩] at hg
  cases hg

theorem Rep.hasId {h : Heap} {ns : List Nat} (r : Rep h ns) (id : String) :
    Spec.hasId (absOf h ns) id = (h.entries.get id).isSome := by
  rw [Bool.eq_iff_iff, Option.isSome_iff_exists, Spec.hasId, absOf, List.any_map, List.any_eq_true]
  exact exists_congr fun a => (and_congr_right fun _ => beq_iff_eq).trans (r.idx id a).symm

/-- The pointer surgery of `RecordRequest` (what follows the duplicate check), for a node `a`
    that is allocated and initialised but not yet in the ring; `tl` is the tail it is linked
    behind (itself, when the ring is empty). -/
theorem Rep.link_last {g : Heap} {ns : List Nat} (r : Rep g ns) {a : Nat} {id : String}
    (ha : a ∉ ns) (h0 : 0 < a) (hlt : a < g.alloc) (hid : g.ident a = id)
    (hget : g.entries.get id = none) {tl : Nat} (htl : tl = if g.tail = 0 then a else g.tail) :
    Rep { g with entries := g.entries.insert id a, nx := upd (upd g.nx a (g.nx tl)) tl a,
                 tail := a } (ns ++ [a]) := by
  refine ⟨?_, r.apos, fun x hx => ?_, (lastOr_snoc 0 ns a).symm, ?_, fun id' x => ?_, ?_⟩
  · exact List.nodup_append.mpr ⟨r.nd, by simp, fun x hx b hb he =>
      ha (by rwa [← List.mem_singleton.mp hb, ← he])⟩
  · rcases List.mem_append.mp hx with hx | hx
    · exact r.pos x hx
    · rw [List.mem_singleton.mp hx]; exact ⟨h0, hlt⟩
  · show Link (upd (upd g.nx a (g.nx tl)) tl a) a (ns ++ [a])
    cases ns with
    | nil => exact ⟨by rw [htl, if_pos (r.tail_zero_iff.mpr rfl), upd_same], trivial⟩
    | cons b k =>
      have htm : g.tail ∈ b :: k := r.tail_mem (List.cons_ne_nil _ _)
      rw [if_neg fun h0 => List.cons_ne_nil b k (r.tail_zero_iff.mp h0)] at htl
      have hl : lastOr b k = tl := by rw [htl, r.tl]; exact (lastOr_cons 0 b k).symm
      refine (Link_snoc _ _ _ _).mpr
        ⟨⟨?_, hl ▸ Link_upd_last a r.nd (Link_upd_notin _ ha r.link.2)⟩,
         by rw [lastOr_cons, hl, upd_same]⟩
      rw [upd_other _ _ _ _ fun he => ha (by rw [he, htl]; exact htm), upd_same, htl]
      exact r.link.1
  · rw [List.mem_append, List.mem_singleton]
    show (if id' = id then some a else g.entries.get id') = some x ↔ _
    by_cases hi : id' = id
    · rw [if_pos hi, hi]
      constructor
      · rintro ⟨⟩; exact ⟨.inr rfl, hid⟩
      · rintro ⟨hm | rfl, he⟩
        · exact absurd he (r.get_none hget x hm)
        · rfl
    · rw [if_neg hi, r.idx]
      refine and_congr_left fun he => (or_iff_left fun hxa => hi ?_).symm
      rw [← he, hxa, hid]
  · simp [GoMap.insert, hget, r.cnt]

theorem recordRequest_sim (h : Heap) (ns : List Nat) (id : String) (t : Nat) (r : Rep h ns) :
    Reach (recordRequest h id t).1 (Spec.req (absOf h ns) id t).1 ∧
      (recordRequest h id t).2 = (Spec.req (absOf h ns) id t).2 := by
  have hne : ∀ a ∈ ns, a ≠ h.alloc := fun a ha => Nat.ne_of_lt (r.pos a ha).2
  -- the entry is allocated first, at an address the ring and the index do not reach
  let g : Heap := { h with alloc := h.alloc + 1, ident := upd h.ident h.alloc id,
                           rq := upd h.rq h.alloc t, rs := upd h.rs h.alloc none,
                           nx := upd h.nx h.alloc 0 }
  have rg : Rep g ns := by
    refine ⟨r.nd, Nat.succ_pos _, fun a ha => ⟨(r.pos a ha).1, Nat.lt_succ_of_lt (r.pos a ha).2⟩,
      r.tl, ?_, fun id' a => ?_, r.cnt⟩
    · by_cases hn : ns = []
      · subst hn; trivial
      · refine Link_upd_notin 0 (fun hm => ?_) r.link
        rcases List.mem_cons.mp hm with he | hm
        · exact hne _ (r.tail_mem hn) he.symm
        · exact hne _ hm rfl
    · exact (r.idx id' a).trans (and_congr_right fun ha => by
        show _ ↔ upd h.ident h.alloc id a = id'; rw [upd_other _ _ _ _ (hne a ha)])
  have hag : absOf g ns = absOf h ns := absOf_congr h g ns fun a ha =>
    ⟨upd_other _ _ _ _ (hne a ha), upd_other _ _ _ _ (hne a ha), upd_other _ _ _ _ (hne a ha)⟩
  unfold Spec.req
  rw [r.hasId]
  cases hd : (h.entries.get id).isSome with
  | true =>
    simp only [recordRequest, hd, if_true]
    exact ⟨⟨ns, rg, hag⟩, trivial⟩
  | false =>
    have hl := fun tl => rg.link_last (tl := tl) (fun hm => hne _ hm rfl) r.apos
      (Nat.lt_succ_self _) (upd_same _ _ _) (by simpa using hd)
    have hs : absOf g (ns ++ [h.alloc]) = absOf h ns ++ [⟨id, t, none⟩] := by
      rw [absOf, List.map_append]
      show absOf g ns ++ [Ent.mk (upd _ _ _ _) (upd _ _ _ _) (upd _ _ _ _)] = _
      rw [hag, upd_same, upd_same, upd_same]
    -- the linking leaves `ident`, `rq`, `rs` alone
    simp only [recordRequest, hd, Bool.false_eq_true, if_false]
    split
    next ht => exact ⟨⟨_, hl _ (if_pos ht).symm, hs⟩, trivial⟩
    next ht => exact ⟨⟨_, hl _ (if_neg ht).symm, hs⟩, trivial⟩

theorem recordResponse_sim (h : Heap) (ns : List Nat) (id : String) (t : Nat) (r : Rep h ns) :
    Rep (recordResponse h id t) ns ∧
      absOf (recordResponse h id t) ns = Spec.res (absOf h ns) id t := by
  unfold recordResponse Spec.res absOf
  rw [List.map_map]
  cases hg : h.entries.get id with
  | none =>
    refine ⟨r, List.map_congr_left fun b hb => ?_⟩
    exact (if_neg (r.get_none hg b hb)).symm
  | some a =>
    obtain ⟨ha, hia⟩ := (r.idx id a).mp hg
    -- `Rep` does not mention `rs`
    refine ⟨⟨r.nd, r.apos, r.pos, r.tl, r.link, r.idx, r.cnt⟩, List.map_congr_left fun b hb => ?_⟩
    by_cases hba : b = a
    · subst hba; simp [entOf, hia, upd_same]
    · have : h.ident b ≠ id := fun he => hba (r.ident_inj hb ha (he.trans hia.symm))
      simp [entOf, this, upd_other _ _ _ _ hba]

theorem walk_spec (nx : Nat → Nat) (tail : Nat) : ∀ (q : List Nat) (c : Nat) (es : List Nat) (f : Nat),
    Link nx c (q ++ [tail]) → tail ∉ q → (∀ x ∈ q, x ≠ 0) → q.length < f →
    walk nx tail f c es = some (es ++ q ++ [tail]) := by
  intro q
  induction q with
  | nil =>
    intro c es f hl _ _ hf
    cases f with
    | zero => exact absurd hf (Nat.lt_irrefl 0)
    | succ f => simp only [walk, hl.1, if_true, List.append_nil]
  | cons b q ih =>
    intro c es f hl ht hz hf
    cases f with
    | zero => exact absurd hf (Nat.not_lt_zero _)
    | succ f =>
      have hbt : b ≠ tail := fun he => ht (he ▸ List.mem_cons_self)
      have hb0 : b ≠ 0 := hz b List.mem_cons_self
      simp only [walk, hl.1, hbt, hb0, if_false]
      rw [ih b (es ++ [b]) f hl.2 (fun hm => ht (List.mem_cons_of_mem _ hm))
        (fun x hx => hz x (List.mem_cons_of_mem _ hx)) (Nat.lt_of_succ_lt_succ hf),
        List.append_assoc es, List.singleton_append]

theorem Rep.eq_snoc_tail {h : Heap} {ns : List Nat} (r : Rep h ns) (hne : ns ≠ []) :
    ∃ q, ns = q ++ [h.tail] := by
  rcases List.eq_nil_or_concat ns with rfl | ⟨q, d, rfl⟩
  · exact absurd rfl hne
  · exact ⟨q, by rw [r.tl, List.concat_eq_append, lastOr_snoc]⟩

theorem Rep.tail_notin {h : Heap} {ns q : List Nat} (r : Rep h ns) (hq : ns = q ++ [h.tail]) :
    h.tail ∉ q := fun hm =>
  (List.nodup_append.mp (hq ▸ r.nd)).2.2 _ hm _ (List.mem_singleton_self _) rfl

theorem exportLog_sim (h : Heap) (ns : List Nat) (r : Rep h ns) :
    exportLog h = .log (absOf h ns) := by
  unfold exportLog
  by_cases hn : ns = []
  · simp [r.tail_zero_iff.mpr hn, hn, absOf]
  · have ht : h.tail ≠ 0 := fun h0 => hn (r.tail_zero_iff.mp h0)
    obtain ⟨q, hq⟩ := r.eq_snoc_tail hn
    have hw := walk_spec h.nx h.tail q h.tail [] h.entries.len (by rw [← hq]; exact r.link)
      (r.tail_notin hq) (fun x hx => Nat.ne_of_gt (r.pos x (by rw [hq]; simp [hx])).1)
      (by rw [r.cnt, hq]; simp)
    simp only [ht, if_false, hw, List.nil_append, ← hq, absOf]

theorem reset_sim (h : Heap) (ns : List Nat) (r : Rep h ns) : Rep (reset h) [] := by
  constructor <;> simp [reset, Link, GoMap.empty, r.apos]

/-- The entry at `a` has its response: `ExportAndReset` hands out and unlinks exactly these. -/
def dn (h0 : Heap) (a : Nat) : Bool := (h0.rs a).isSome
/-- The nodes among `p` that stay in the ring. -/
def pend (h0 : Heap) (p : List Nat) : List Nat := p.filter (fun c => !dn h0 c)
/-- The nodes among `p` that are handed out. -/
def fin (h0 : Heap) (p : List Nat) : List Nat := p.filter (fun c => dn h0 c)

theorem pend_snoc (h0 : Heap) (p : List Nat) (c : Nat) :
    pend h0 (p ++ [c]) = if dn h0 c then pend h0 p else pend h0 p ++ [c] := by
  by_cases h : dn h0 c <;> simp [pend, List.filter_append, h]
theorem fin_snoc (h0 : Heap) (p : List Nat) (c : Nat) :
    fin h0 (p ++ [c]) = if dn h0 c then fin h0 p ++ [c] else fin h0 p := by
  by_cases h : dn h0 c <;> simp [fin, List.filter_append, h]
theorem mem_pend {h0 : Heap} {p : List Nat} {x : Nat} (h : x ∈ pend h0 p) : x ∈ p :=
  (List.mem_filter.mp h).1
theorem fin_pend_length (h0 : Heap) (p : List Nat) :
    (fin h0 p).length + (pend h0 p).length = p.length := by
  rw [← List.length_append]
  exact (List.filter_append_perm (dn h0) p).length_eq

theorem Rep.any_fin {h : Heap} {ns p : List Nat} (r : Rep h ns) (hp : ∀ x ∈ p, x ∈ ns)
    (id : String) : (fin h p).any (fun c => h.ident c == id) = true ↔
      ∃ a ∈ p, dn h a = true ∧ h.entries.get id = some a := by
  rw [fin, List.any_filter, List.any_eq_true]
  exact exists_congr fun a => and_congr_right fun ha => Bool.and_eq_true_iff.trans
    (and_congr_right fun _ => beq_iff_eq.trans
      ⟨fun he => (r.idx id a).mpr ⟨hp a ha, he⟩, fun hg => ((r.idx id a).mp hg).2⟩)

/-- Invariant of the `ExportAndReset` loop after the prefix `p` of the ring has been visited.
`frame`: only `tail` and the kept nodes have had `next` written. `last`: until the walk is back at
`tail`, the last kept node still has its original `next`, so every `curr.next` the loop reads is
the original pointer (`XInv_read`) although `tail.next` is overwritten on the way. -/
structure XInv (h0 : Heap) (p : List Nat) (s : XS) : Prop where
  curr : s.curr = lastOr h0.tail p
  prev : s.prev = lastOr h0.tail (pend h0 p)
  first : s.first = (pend h0 p).head?.getD 0
  es : s.es = fin h0 p
  link : Link s.h.nx h0.tail (pend h0 p)
  frame : ∀ x, x ≠ h0.tail → x ∉ pend h0 p → s.h.nx x = h0.nx x
  last : h0.tail ∉ p → s.h.nx s.prev = h0.nx s.prev
  hrs : s.h.rs = h0.rs
  hid : s.h.ident = h0.ident
  hrq : s.h.rq = h0.rq
  hal : s.h.alloc = h0.alloc
  get : ∀ id, s.h.entries.get id =
    if (fin h0 p).any (fun c => h0.ident c == id) then none else h0.entries.get id
  len : s.h.entries.len = h0.entries.len - (fin h0 p).length

theorem XInv_init (h0 : Heap) : XInv h0 [] ⟨h0, h0.tail, h0.tail, 0, []⟩ := by
  constructor <;> simp [pend, fin, Link]

/-- The read `curr.next` sees the original pointer although `tail.next` may have been overwritten. -/
theorem XInv_read (h0 : Heap) (p : List Nat) (c : Nat) (s : XS)
    (hinv : XInv h0 p s) (hnext : h0.nx (lastOr h0.tail p) = c)
    (htp : h0.tail ∉ p) (hnd : p.Nodup) : s.h.nx s.curr = c := by
  rw [← hnext, hinv.curr]
  have hl := hinv.last htp
  rw [hinv.prev] at hl
  rcases List.eq_nil_or_concat p with rfl | ⟨p', d, hp⟩
  · exact hl
  · rw [List.concat_eq_append] at hp; subst hp
    rw [lastOr_snoc]
    rw [pend_snoc] at hl
    by_cases hd : dn h0 d
    · -- a completed entry was unlinked, not relinked
      refine hinv.frame d (fun h => htp (by simp [h])) fun hm => ?_
      rw [pend_snoc, if_pos hd] at hm
      exact (List.nodup_append.mp hnd).2.2 d (mem_pend hm) d (by simp) rfl
    · rwa [if_neg hd, lastOr_snoc] at hl

theorem xbody_curr (s : XS) : (xbody s).curr = s.h.nx s.curr := by
  by_cases h : (s.h.rs (s.h.nx s.curr)).isSome <;> simp [xbody, h]

theorem XInv_step (h0 : Heap) (ns p : List Nat) (c : Nat) (s : XS) (r : Rep h0 ns)
    (hinv : XInv h0 p s) (hnext : h0.nx (lastOr h0.tail p) = c)
    (hp : ∀ x ∈ p, x ∈ ns) (hc : c ∈ ns)
    (htp : h0.tail ∉ p) (hcp : c ∉ p) (hnd : p.Nodup) :
    XInv h0 (p ++ [c]) (xbody s) := by
  have hread := XInv_read h0 p c s hinv hnext htp hnd
  have hrsc : (s.h.rs c).isSome = dn h0 c := by rw [hinv.hrs]; rfl
  unfold xbody
  simp only [hread, hrsc]
  by_cases hcd : dn h0 c
  · have hpe : pend h0 (p ++ [c]) = pend h0 p := by rw [pend_snoc, if_pos hcd]
    have hfe : fin h0 (p ++ [c]) = fin h0 p ++ [c] := by rw [fin_snoc, if_pos hcd]
    have hgc : h0.entries.get (h0.ident c) = some c := (r.idx _ c).mpr ⟨hc, rfl⟩
    have hgetc : s.h.entries.get (h0.ident c) = some c := by
      rw [hinv.get, if_neg fun ha => ?_]
      · exact hgc
      · obtain ⟨a, hap, _, hg⟩ := (r.any_fin hp _).mp ha
        rw [hgc] at hg
        exact hcp (Option.some.inj hg ▸ hap)
    simp only [hcd, if_true]
    refine ⟨(lastOr_snoc _ _ _).symm, hpe ▸ hinv.prev, hpe ▸ hinv.first,
      hfe ▸ congrArg (· ++ [c]) hinv.es, hpe ▸ hinv.link, hpe ▸ hinv.frame,
      fun _ => hinv.last htp, hinv.hrs, hinv.hid, hinv.hrq, hinv.hal, fun id => ?_, ?_⟩
    · show (if id = s.h.ident c then none else s.h.entries.get id) = _
      have hc1 : [c].any (fun c' => h0.ident c' == id) = (h0.ident c == id) := Bool.or_false _
      rw [hinv.hid, hfe, List.any_append, hc1, hinv.get]
      by_cases hi : id = h0.ident c
      · rw [if_pos hi, beq_iff_eq.mpr hi.symm, Bool.or_true, if_pos rfl]
      · rw [if_neg hi, beq_eq_false_iff_ne.mpr (Ne.symm hi), Bool.or_false]
    · simp only [GoMap.delete, hinv.hid, hgetc, hfe, List.length_append,
        List.length_singleton, Option.isSome_some, if_true, hinv.len]
      omega
  · have hpe : pend h0 (p ++ [c]) = pend h0 p ++ [c] := by rw [pend_snoc, if_neg hcd]
    have hfe : fin h0 (p ++ [c]) = fin h0 p := by rw [fin_snoc, if_neg hcd]
    have hck : c ∉ pend h0 p := fun h => hcp (mem_pend h)
    have htk : h0.tail ∉ pend h0 p := fun h => htp (mem_pend h)
    -- the one pointer written, `prev.next`, lies on the chain kept so far
    have hnx : ∀ x, x ≠ h0.tail → x ∉ pend h0 p → upd s.h.nx s.prev c x = h0.nx x := by
      intro x hx hxp
      refine (upd_other _ _ _ _ fun he => ?_).trans (hinv.frame x hx hxp)
      rw [he, hinv.prev] at hx hxp
      exact (List.mem_cons.mp (lastOr_mem_cons h0.tail (pend h0 p))).elim hx hxp
    simp only [hcd, Bool.false_eq_true, if_false]
    refine ⟨(lastOr_snoc _ _ _).symm, hpe ▸ (lastOr_snoc _ _ _).symm, ?_, hfe ▸ hinv.es,
      ?_, fun x hx hxp => ?_, fun ht => ?_, hinv.hrs, hinv.hid, hinv.hrq, hinv.hal,
      hfe ▸ hinv.get, hfe ▸ hinv.len⟩
    · rw [hpe, hinv.first]
      cases hk : pend h0 p with
      | nil => rfl
      | cons b k =>
        have hb : b ∈ pend h0 p := hk ▸ List.mem_cons_self
        exact if_neg (Nat.ne_of_gt (r.pos b (hp b (mem_pend hb))).1)
    · rw [hpe]
      exact (Link_snoc _ _ _ _).mpr ⟨hinv.prev ▸ Link_upd_last c
        (List.nodup_cons.mpr ⟨htk, hnd.filter _⟩) hinv.link, hinv.prev ▸ upd_same _ _ _⟩
    · exact hnx x hx fun h => hxp (hpe ▸ List.mem_append_left _ h)
    · exact hnx c (fun h => ht (by simp [h])) hck

/-- The whole loop: from the initial state it terminates (within `len(entries)` iterations, without
    a nil dereference) in a state satisfying the invariant for the complete ring. -/
theorem xloop_spec (h0 : Heap) (ns q : List Nat) (r : Rep h0 ns) (hq : ns = q ++ [h0.tail]) :
    ∀ (rest p : List Nat) (s : XS) (f : Nat), p ++ rest = q → XInv h0 p s → rest.length < f →
      ∃ s', xloop h0.tail f s = .fin s' ∧ XInv h0 ns s' := by
  have htq := r.tail_notin hq
  -- one round: the body runs on the node `c` that follows the visited prefix `p`
  have hround : ∀ (p : List Nat) (c : Nat) (k : List Nat) (s : XS) (f : Nat), ns = p ++ c :: k →
      h0.tail ∉ p → XInv h0 p s →
      xloop h0.tail (f + 1) s =
        (if c = h0.tail then .fin (xbody s) else xloop h0.tail f (xbody s)) ∧
      XInv h0 (p ++ [c]) (xbody s) := by
    intro p c k s f hns htp hinv
    have hndp := List.nodup_append.mp (hns ▸ r.nd)
    have hcn : c ∈ ns := by rw [hns]; simp
    have hnext : h0.nx (lastOr h0.tail p) = c :=
      ((Link_append h0.nx h0.tail p (c :: k)).mp (hns ▸ r.link)).2.1
    have hread := XInv_read h0 p c s hinv hnext htp hndp.1
    refine ⟨?_, XInv_step h0 ns p c s r hinv hnext (fun x hx => by rw [hns]; simp [hx]) hcn htp
      (fun hm => hndp.2.2 c hm c List.mem_cons_self rfl) hndp.1⟩
    rw [xloop, if_neg (by rw [hread]; exact Nat.ne_of_gt (r.pos _ hcn).1)]
    show (if (xbody s).curr = h0.tail then _ else _) = _
    rw [xbody_curr, hread]
  intro rest
  induction rest with
  | nil =>
    intro p s f hpq hinv hf
    rw [List.append_nil] at hpq; subst hpq
    cases f with
    | zero => omega
    | succ f =>
      obtain ⟨h1, h2⟩ := hround p h0.tail [] s f hq htq hinv
      exact ⟨xbody s, h1.trans (if_pos rfl), hq ▸ h2⟩
  | cons c rest ih =>
    intro p s f hpq hinv hf
    subst hpq
    cases f with
    | zero => simp at hf
    | succ f =>
      obtain ⟨h1, h2⟩ := hround p c (rest ++ [h0.tail]) s f (by rw [hq]; simp)
        (fun hm => htq (by simp [hm])) hinv
      rw [h1, if_neg fun (he : c = h0.tail) => htq (by simp [he])]
      exact ih (p ++ [c]) (xbody s) f (by simp) h2 (by simp at hf; omega)

theorem filter_done_absOf (h : Heap) (ns : List Nat) :
    (absOf h ns).filter (fun e => e.done) = absOf h (fin h ns) :=
  List.filter_map

theorem filter_pend_absOf (h : Heap) (ns : List Nat) :
    (absOf h ns).filter (fun e => !e.done) = absOf h (pend h ns) :=
  List.filter_map

theorem exportAndReset_sim (h : Heap) (ns : List Nat) (r : Rep h ns) :
    (exportAndReset h).2 = .log ((absOf h ns).filter (fun e => e.done)) ∧
    Rep (exportAndReset h).1 (pend h ns) ∧
    absOf (exportAndReset h).1 (pend h ns) = (absOf h ns).filter (fun e => !e.done) := by
  rw [filter_done_absOf, filter_pend_absOf]
  unfold exportAndReset
  by_cases hn : ns = []
  · have ht : h.tail = 0 := r.tail_zero_iff.mpr hn
    have hl : h.entries.len = 0 := by rw [r.cnt, hn]; rfl
    subst hn
    simp only [ht, hl, if_true]
    exact ⟨rfl, r, trivial⟩
  · have ht : h.tail ≠ 0 := fun h0 => hn (r.tail_zero_iff.mp h0)
    obtain ⟨q, hq⟩ := r.eq_snoc_tail hn
    obtain ⟨s, hs, hinv⟩ := xloop_spec h ns q r hq q [] ⟨h, h.tail, h.tail, 0, []⟩ h.entries.len
      (by simp) (XInv_init h) (by rw [r.cnt, hq]; simp)
    simp only [ht, if_false, hs]
    have hlen : s.h.entries.len = (pend h ns).length := by
      rw [hinv.len, r.cnt]; have := fin_pend_length h ns; omega
    have hidx : ∀ id a, s.h.entries.get id = some a ↔ (a ∈ pend h ns ∧ s.h.ident a = id) := by
      intro id a
      rw [hinv.get, hinv.hid, Option.ite_none_left_eq_some, r.any_fin (fun _ hx => hx), pend,
        List.mem_filter, Bool.not_eq_true', ← Bool.not_eq_true, and_right_comm, ← r.idx]
      exact and_comm.trans (and_congr_right fun hg => not_congr
        ⟨fun ⟨a', _, hd, hg'⟩ => Option.some.inj (hg.symm.trans hg') ▸ hd,
         fun hd => ⟨a, ((r.idx id a).mp hg).1, hd, hg⟩⟩)
    -- what the code after the loop still decides: the tail pointer and the link that closes the ring
    have hrep : ∀ (tl : Nat) (nx : Nat → Nat), tl = lastOr 0 (pend h ns) → Link nx tl (pend h ns) →
        Rep { s.h with tail := tl, nx := nx } (pend h ns) ∧
        absOf { s.h with tail := tl, nx := nx } (pend h ns) = absOf h (pend h ns) :=
      fun tl nx h1 h2 =>
      ⟨⟨r.nd.filter _, hinv.hal ▸ r.apos, fun a ha => hinv.hal ▸ r.pos a (mem_pend ha), h1, h2,
        hidx, hlen⟩,
       absOf_congr h _ _ fun a _ => ⟨congrFun hinv.hid a, congrFun hinv.hrq a, congrFun hinv.hrs a⟩⟩
    have hlink := hinv.link
    have hfirst := hinv.first
    have hprev := hinv.prev
    have hndk : (pend h ns).Nodup := r.nd.filter _
    rw [hinv.es]
    generalize pend h ns = k at *
    cases k with
    | nil =>
      simp only [hlen, List.length_nil, if_true]
      exact ⟨rfl, hrep 0 s.h.nx rfl trivial⟩
    | cons b k =>
      rw [lastOr_cons] at hprev
      simp only [hlen, List.length_cons, Nat.succ_ne_zero, if_false]
      exact ⟨rfl, hrep s.prev _ (hprev.trans (lastOr_cons 0 b k).symm)
        ⟨(upd_same _ _ _).trans hfirst, hprev ▸ Link_upd_last _ hndk hlink.2⟩⟩

theorem step_sim (h : Heap) (l : Log) (t : Nat) (o : Op) (hr : Reach h l) :
    Reach (step h t o).1 (Spec.step l t o).1 ∧ (step h t o).2 = (Spec.step l t o).2 := by
  obtain ⟨ns, r, rfl⟩ := hr
  cases o with
  | req id => exact recordRequest_sim h ns id t r
  | res id =>
    obtain ⟨h1, h2⟩ := recordResponse_sim h ns id t r
    exact ⟨⟨ns, h1, h2⟩, rfl⟩
  | exp =>
    exact ⟨⟨ns, r, rfl⟩, exportLog_sim h ns r⟩
  | xreset =>
    obtain ⟨h1, h2, h3⟩ := exportAndReset_sim h ns r
    exact ⟨⟨_, h2, h3⟩, h1⟩
  | reset =>
    exact ⟨⟨[], reset_sim h ns r, rfl⟩, rfl⟩
  | idle f =>
    exact ⟨⟨ns, r, rfl⟩, rfl⟩

theorem run_refines (ops : List Op) : ∀ (h : Heap) (l : Log) (t : Nat), Reach h l →
    run h t ops = Spec.run l t ops := by
  induction ops with
  | nil => intros; rfl
  | cons o os ih =>
    intro h l t hr
    obtain ⟨h1, h2⟩ := step_sim h l t o hr
    simp only [run, Spec.run, h2, ih _ _ _ h1]

theorem after_reach (ops : List Op) : ∀ (h : Heap) (l : Log) (t : Nat), Reach h l →
    Reach (after h t ops) (Spec.after l t ops) := by
  induction ops with
  | nil => intro h l t hr; exact hr
  | cons o os ih =>
    intro h l t hr
    exact ih _ _ _ (step_sim h l t o hr).1

def rqs (l : Log) : List Nat := l.map (·.rq)
def idsOf (l : Log) : List String := l.map (·.id)

/-- Well-formed abstract log at clock `t`: request tags strictly increasing (arrival order) and
    below the clock, IDs pairwise different. -/
structure WF (l : Log) (t : Nat) : Prop where
  sorted : (rqs l).Pairwise (· < ·)
  bound : ∀ x ∈ rqs l, x < t
  uniq : (idsOf l).Nodup

theorem WF_nil (t : Nat) : WF [] t := ⟨.nil, nofun, .nil⟩

theorem WF.filter {l : Log} {t : Nat} (w : WF l t) (p : Ent → Bool) : WF (l.filter p) t := by
  have hs : (l.filter p).Sublist l := List.filter_sublist
  exact ⟨w.sorted.sublist (hs.map _), fun x hx => w.bound x ((hs.map _).subset hx),
    w.uniq.sublist (hs.map _)⟩

theorem WF.nodup_rqs {l : Log} {t : Nat} (w : WF l t) : (rqs l).Nodup :=
  w.sorted.imp (fun h => Nat.ne_of_lt h)

theorem hasId_iff (l : Log) (id : String) : Spec.hasId l id = true ↔ id ∈ idsOf l := by
  simp only [Spec.hasId, idsOf, List.any_eq_true, List.mem_map, beq_iff_eq]

theorem Spec.map_res {α : Type} (f : Ent → α) (hf : ∀ e j, f { e with rs := j } = f e)
    (l : Log) (id : String) (t : Nat) : (Spec.res l id t).map f = l.map f := by
  rw [Spec.res, List.map_map]
  exact List.map_congr_left fun e _ => (apply_ite f _ _ _).trans (by rw [hf, ite_self])

theorem rqs_res (l : Log) (id : String) (t : Nat) : rqs (Spec.res l id t) = rqs l :=
  Spec.map_res _ (fun _ _ => rfl) l id t

theorem idsOf_res (l : Log) (id : String) (t : Nat) : idsOf (Spec.res l id t) = idsOf l :=
  Spec.map_res _ (fun _ _ => rfl) l id t

theorem rqs_step_sublist (l : Log) (t : Nat) (o : Op) :
    (rqs (Spec.step l t o).1).Sublist (rqs l ++ [t]) := by
  cases o with
  | req id =>
    simp only [Spec.step, Spec.req]
    split
    · exact List.sublist_append_left _ _
    · simp [rqs]
  | res id => rw [Spec.step, rqs_res]; exact List.sublist_append_left _ _
  | exp => exact List.sublist_append_left _ _
  | xreset => exact (List.filter_sublist.map _).trans (List.sublist_append_left _ _)
  | reset => exact List.nil_sublist _
  | idle f => exact List.sublist_append_left _ _

theorem ids_nodup_step (l : Log) (t : Nat) (o : Op) (hn : (idsOf l).Nodup) :
    (idsOf (Spec.step l t o).1).Nodup := by
  cases o with
  | req id =>
    simp only [Spec.step, Spec.req]
    split
    · exact hn
    · rename_i hd
      simp only [idsOf, List.map_append, List.map_cons, List.map_nil]
      refine List.nodup_append.mpr ⟨hn, by simp, fun a ha b hb he => ?_⟩
      rw [List.mem_singleton.mp hb] at he
      exact hd ((hasId_iff l id).mpr (he ▸ ha))
  | res id => rw [Spec.step, idsOf_res]; exact hn
  | exp => exact hn
  | xreset => exact hn.sublist (List.filter_sublist.map _)
  | reset => exact List.nodup_nil
  | idle f => exact hn

theorem WF_step (l : Log) (t : Nat) (o : Op) (w : WF l t) : WF (Spec.step l t o).1 (t + 1) := by
  have hs := rqs_step_sublist l t o
  refine ⟨.sublist hs ?_, fun x hx => ?_, ids_nodup_step l t o w.uniq⟩
  · exact List.pairwise_append.mpr ⟨w.sorted, List.pairwise_singleton _ _,
      fun a ha b hb => by rw [List.mem_singleton.mp hb]; exact w.bound a ha⟩
  · rcases List.mem_append.mp (hs.subset hx) with h | h
    · exact Nat.lt_succ_of_lt (w.bound x h)
    · rw [List.mem_singleton.mp h]; exact Nat.lt_succ_self t

theorem WF_after (ops : List Op) : ∀ (l : Log) (t : Nat), WF l t →
    WF (Spec.after l t ops) (t + ops.length) := by
  induction ops with
  | nil => intro l t w; exact w
  | cons o os ih =>
    intro l t w
    rw [List.length_cons, Nat.add_comm os.length, ← Nat.add_assoc]
    exact ih _ _ (WF_step l t o w)

theorem Spec.run_append (a b : List Op) : ∀ (l : Log) (t : Nat),
    Spec.run l t (a ++ b) = Spec.run l t a ++ Spec.run (Spec.after l t a) (t + a.length) b := by
  induction a with
  | nil => intro l t; rfl
  | cons o os ih =>
    intro l t
    simp only [List.cons_append, Spec.run, Spec.after, ih, List.length_cons]
    rw [Nat.add_comm os.length, Nat.add_assoc]

theorem Spec.after_append (a b : List Op) : ∀ (l : Log) (t : Nat),
    Spec.after l t (a ++ b) = Spec.after (Spec.after l t a) (t + a.length) b := by
  induction a with
  | nil => intro l t; rfl
  | cons o os ih =>
    intro l t
    simp only [List.cons_append, Spec.after, ih, List.length_cons]
    rw [Nat.add_comm os.length, Nat.add_assoc]

theorem Spec.mem_run {b : Obs} (ops : List Op) : ∀ (l : Log) (t : Nat), b ∈ Spec.run l t ops →
    ∃ pre o suf, ops = pre ++ o :: suf ∧
      b = (Spec.step (Spec.after l t pre) (t + pre.length) o).2 := by
  induction ops with
  | nil => intro l t h; cases h
  | cons o os ih =>
    intro l t h
    rcases List.mem_cons.mp h with h | h
    · exact ⟨[], o, os, rfl, h⟩
    · obtain ⟨pre, o', suf, rfl, hb⟩ := ih _ _ h
      refine ⟨o :: pre, o', suf, rfl, ?_⟩
      rw [List.length_cons, Nat.add_comm pre.length, ← Nat.add_assoc]
      exact hb

theorem Spec.step_log {l : Log} {t : Nat} {o : Op} {es : List Ent}
    (h : (Spec.step l t o).2 = .log es) : ∃ p, es = l.filter p := by
  cases o with
  | req id => simp only [Spec.step, Spec.req] at h; split at h <;> cases h
  | res id => cases h
  | exp => cases h; exact ⟨fun _ => true, (List.filter_eq_self.mpr fun _ _ => rfl).symm⟩
  | xreset => cases h; exact ⟨_, rfl⟩
  | reset => cases h
  | idle f => simp only [Spec.step] at h; split at h <;> cases h

theorem Spec.step_err {l : Log} {t : Nat} {o : Op} (h : (Spec.step l t o).2 = .err) :
    o = .idle true := by
  cases o with
  | req id => simp only [Spec.step, Spec.req] at h; split at h <;> cases h
  | idle f =>
    cases f with
    | true => rfl
    | false => cases h
  | _ => cases h

theorem sorted_outputs (ops : List Op) (l : Log) (t : Nat) (w : WF l t) (es : List Ent)
    (h : Obs.log es ∈ Spec.run l t ops) : (rqs es).Pairwise (· < ·) := by
  obtain ⟨pre, o, suf, _, hb⟩ := Spec.mem_run ops l t h
  obtain ⟨p, rfl⟩ := Spec.step_log hb.symm
  exact ((WF_after pre l t w).filter p).sorted

/-- What one operation hands to the caller of export-and-reset. -/
def returnedOf (o : Op) (b : Obs) : List Ent :=
  match o, b with
  | .xreset, .log es => es
  | _, _ => []

/-- All entries returned by the export-and-reset calls of a history, in order. -/
def returned : List Op → List Obs → List Ent
  | o :: os, b :: bs => returnedOf o b ++ returned os bs
  | _, _ => []

theorem returnedOf_step (l : Log) (t : Nat) (o : Op) :
    returnedOf o (Spec.step l t o).2 = if o = .xreset then l.filter (fun e => e.done) else [] := by
  cases o <;> rfl

theorem rqs_filter_disjoint (l : Log) (p : Ent → Bool) (hn : (rqs l).Nodup) :
    ∀ x, x ∈ rqs (l.filter p) → x ∉ rqs (l.filter (fun e => !p e)) := by
  have hnd := ((List.filter_append_perm p l).map Ent.rq).nodup_iff.mpr hn
  rw [List.map_append] at hnd
  exact fun x hx hx' => (List.nodup_append.mp hnd).2.2 x hx x hx' rfl

theorem returned_inv (ops : List Op) : ∀ (l : Log) (t : Nat), WF l t →
    (rqs (returned ops (Spec.run l t ops))).Nodup ∧
    ∀ x ∈ rqs (returned ops (Spec.run l t ops)), x ∈ rqs l ∨ t ≤ x := by
  induction ops with
  | nil => exact fun _ _ _ => ⟨.nil, nofun⟩
  | cons o os ih =>
    intro l t w
    obtain ⟨ihn, ihm⟩ := ih _ _ (WF_step l t o w)
    -- what later calls return was in the log already or is recorded from now on
    have hrest : ∀ x ∈ rqs (returned os (Spec.run (Spec.step l t o).1 (t + 1) os)),
        x ∈ rqs l ∨ t ≤ x := by
      intro x hx
      rcases ihm x hx with h | h
      · rcases List.mem_append.mp ((rqs_step_sublist l t o).subset h) with h | h
        · exact Or.inl h
        · exact Or.inr (Nat.le_of_eq (List.mem_singleton.mp h).symm)
      · exact Or.inr (Nat.le_of_succ_le h)
    rw [Spec.run, returned, returnedOf_step]
    split
    · rename_i hx
      subst hx
      rw [rqs, List.map_append]
      refine ⟨List.nodup_append.mpr ⟨(w.filter _).nodup_rqs, ihn, fun a ha b hb hab => ?_⟩,
        fun x hx => ?_⟩
      · subst hab
        rcases ihm a hb with h | h
        · exact rqs_filter_disjoint l (fun e => e.done) w.nodup_rqs a ha h
        · exact Nat.lt_irrefl _ (Nat.lt_of_lt_of_le ((w.filter _).bound a ha) (Nat.le_of_succ_le h))
      · rcases List.mem_append.mp hx with hx | hx
        · exact Or.inl ((List.filter_sublist.map _).subset hx)
        · exact hrest x hx
    · exact ⟨ihn, hrest⟩

theorem returned_done (ops : List Op) : ∀ (l : Log) (t : Nat),
    ∀ e ∈ returned ops (Spec.run l t ops), e.done = true := by
  induction ops with
  | nil => intro l t e h; cases h
  | cons o os ih =>
    intro l t e h
    rw [Spec.run, returned, returnedOf_step, List.mem_append] at h
    rcases h with h | h
    · split at h
      · exact (List.mem_filter.mp h).2
      · cases h
    · exact ih _ _ e h

/-- Operations that do not remove entries. -/
def quiet : Op → Bool
  | .reset => false
  | .xreset => false
  | _ => true

theorem Spec.mem_step {l : Log} {e : Ent} (t : Nat) {o : Op} (he : e ∈ l) (hr : o ≠ .reset)
    (hx : o = .xreset → e.done = false) :
    (if o = .res e.id then { e with rs := some t } else e) ∈ (Spec.step l t o).1 := by
  by_cases ho : o = .res e.id
  · subst ho
    rw [if_pos rfl]
    exact List.mem_map.mpr ⟨e, he, if_pos rfl⟩
  · rw [if_neg ho]
    cases o with
    | req id =>
      rw [Spec.step, Spec.req]
      split
      · exact he
      · exact List.mem_append_left _ he
    | res id => exact List.mem_map.mpr ⟨e, he, if_neg fun h => ho (by rw [h])⟩
    | exp => exact he
    | xreset => exact List.mem_filter.mpr ⟨he, by rw [hx rfl]; rfl⟩
    | reset => exact absurd rfl hr
    | idle f => exact he

theorem after_quiet (mid : List Op) : ∀ (l : Log) (t : Nat) (e : Ent), e ∈ l →
    (∀ o ∈ mid, quiet o = true) →
    ∃ e' ∈ Spec.after l t mid, e'.id = e.id ∧ e'.rq = e.rq ∧
      (e'.done = true ↔ e.done = true ∨ Op.res e.id ∈ mid) := by
  induction mid with
  | nil => intro l t e he _; exact ⟨e, he, rfl, rfl, by simp⟩
  | cons o os ih =>
    intro l t e he hq
    have hqo : quiet o = true := hq o List.mem_cons_self
    have hm := Spec.mem_step (o := o) t he (fun h => by rw [h] at hqo; cases hqo)
      (fun h => by rw [h] at hqo; cases hqo)
    obtain ⟨e', h1, h2, h3, h4⟩ := ih _ (t + 1) _ hm (fun o ho => hq o (List.mem_cons_of_mem _ ho))
    refine ⟨e', h1, ?_⟩
    by_cases ho : o = .res e.id
    · rw [if_pos ho] at h2 h3 h4
      exact ⟨h2, h3, fun _ => Or.inr (ho ▸ List.mem_cons_self), fun _ => h4.mpr (Or.inl rfl)⟩
    · rw [if_neg ho] at h2 h3 h4
      refine ⟨h2, h3, h4.trans ?_⟩
      rw [List.mem_cons, or_iff_right (Ne.symm ho)]

theorem pending_stays (mid : List Op) : ∀ (l : Log) (t : Nat) (e : Ent), e ∈ l → e.done = false →
    (∀ o ∈ mid, o ≠ .reset ∧ o ≠ .res e.id) → e ∈ Spec.after l t mid := by
  induction mid with
  | nil => intro l t e he _ _; exact he
  | cons o os ih =>
    intro l t e he hp hm
    have ho := hm o List.mem_cons_self
    have := Spec.mem_step t he ho.1 (fun _ => hp)
    rw [if_neg ho.2] at this
    exact ih _ (t + 1) e this hp (fun o' h' => hm o' (List.mem_cons_of_mem _ h'))

/-- The abstract log after a history that starts with the empty log. -/
abbrev logAfter (ops : List Op) : Log := Spec.after [] 0 ops

theorem logAfter_append (a b : List Op) :
    logAfter (a ++ b) = Spec.after (logAfter a) a.length b := by
  rw [logAfter, Spec.after_append, Nat.zero_add]

theorem Spec.run_safe (ops : List Op) (l : Log) (t : Nat) :
    Obs.panic ∉ Spec.run l t ops ∧ Obs.diverge ∉ Spec.run l t ops := by
  have ho : ∀ b ∈ Spec.run l t ops, b ≠ .panic ∧ b ≠ .diverge := by
    intro b h
    obtain ⟨pre, o, suf, _, rfl⟩ := Spec.mem_run ops l t h
    cases o with
    | req id => simp only [Spec.step, Spec.req]; split <;> simp
    | idle f => simp only [Spec.step]; split <;> simp
    | _ => simp [Spec.step]
  exact ⟨fun h => (ho _ h).1 rfl, fun h => (ho _ h).2 rfl⟩

/-- `Own hist e`: the entry's request tag points at a `req` of its ID in the history and its
    response tag (if any) at a later `res` of the same ID. -/
def Own (hist : List Op) (e : Ent) : Prop :=
  hist[e.rq]? = some (.req e.id) ∧ ∀ j, e.rs = some j → hist[j]? = some (.res e.id) ∧ e.rq < j

theorem Own.mono {hist : List Op} {e : Ent} (suf : List Op) (h : Own hist e) :
    Own (hist ++ suf) e := by
  have key : ∀ i x, hist[i]? = some x → (hist ++ suf)[i]? = some x := fun i x hx => by
    rw [List.getElem?_append_left (List.getElem?_eq_some_iff.mp hx).1]; exact hx
  exact ⟨key _ _ h.1, fun j hj => ⟨key _ _ (h.2 j hj).1, (h.2 j hj).2⟩⟩

theorem own_step (pre : List Op) (l : Log) (o : Op) (hl : ∀ e ∈ l, Own pre e) :
    ∀ e ∈ (Spec.step l pre.length o).1, Own (pre ++ [o]) e := by
  intro e he
  have hnew : (pre ++ [o])[pre.length]? = some o := List.getElem?_concat_length
  cases o with
  | req id =>
    simp only [Spec.step, Spec.req] at he
    split at he
    · exact (hl e he).mono _
    · rcases List.mem_append.mp he with he | he
      · exact (hl e he).mono _
      · rw [List.mem_singleton.mp he]
        exact ⟨hnew, nofun⟩
  | res id =>
    obtain ⟨e0, he0, rfl⟩ := List.mem_map.mp he
    have h0 := hl e0 he0
    split
    · rename_i hid
      subst hid
      refine ⟨(h0.mono _).1, fun j hj => ?_⟩
      rw [← Option.some.inj hj]
      exact ⟨hnew, (List.getElem?_eq_some_iff.mp h0.1).1⟩
    · exact h0.mono _
  | exp => exact (hl e he).mono _
  | xreset => exact (hl e (List.mem_filter.mp he).1).mono _
  | reset => cases he
  | idle f => exact (hl e he).mono _

theorem own_after (ops : List Op) : ∀ (pre : List Op) (l : Log), (∀ e ∈ l, Own pre e) →
    ∀ e ∈ Spec.after l pre.length ops, Own (pre ++ ops) e := by
  induction ops with
  | nil => intro pre l hl e he; rw [List.append_nil]; exact hl e he
  | cons o os ih =>
    intro pre l hl e he
    have := ih (pre ++ [o]) _ (own_step pre l o hl) e (by rw [List.length_append]; exact he)
    rwa [List.append_assoc] at this

theorem own_outputs (ops : List Op) (es : List Ent) (h : Obs.log es ∈ Spec.run [] 0 ops) :
    ∀ e ∈ es, Own ops e := by
  obtain ⟨pre, o, suf, rfl, hb⟩ := Spec.mem_run ops [] 0 h
  obtain ⟨p, rfl⟩ := Spec.step_log hb.symm
  intro e he
  exact (own_after pre [] [] nofun e (List.mem_filter.mp he).1).mono (o :: suf)

end Martian.HarLog
