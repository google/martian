import Martian.Model.Verify
/-! Helper lemmas for C13. -/
namespace Martian.Verify
open Martian Martian.Go

theorem visits_perm (side : Side) : verifyVisits side = [true, false] ∨ verifyVisits side = [false, true] := by
  cases side <;> decide +kernel

theorem reset_visits_perm (side : Side) : resetVisits side = [true, false] ∨ resetVisits side = [false, true] := by
  cases side <;> decide +kernel

theorem skips_api (side : Side) (k : Kind) : skipsApi (k.apiKey side) = true := by
  cases k <;> cases side <;> simp only [Kind.apiKey] <;> decide

theorem skips_api_ping : skipsApi "pingback.req" = true := by decide +kernel

theorem T.modify_ver (side : Side) (m : Msg) (k : Kind) (errs : List Bytes) :
    (T.ver k errs).modify side m = (.ver k (errs ++ if m.api then [] else (check side k m).toList), false) := by
  simp only [T.modify, skips_api, Bool.true_and]
  cases m.api
  · cases check side k m <;> simp
  · simp

theorem T.modify_ping (side : Side) (m : Msg) (s h p q : Bytes) (pend : Bool) :
    (T.ping s h p q pend).modify side m = (.ping s h p q (pend && !(!m.api && pingMatch s h p q m)), false) := by
  simp only [T.modify, skips_api_ping, Bool.true_and]
  cases m.api <;> cases pingMatch s h p q m <;> simp

mutual
theorem T.clear_modify (side : Side) (m : Msg) : ∀ t : T, (t.modify side m).1.clear = t.clear
  | .ver .. => by rw [T.modify_ver]; rfl
  | .ping .. => by rw [T.modify_ping]; rfl
  | .nop | .fail | .hide _ => rfl
  | .group agg ms => congrArg (T.group agg) (TL.clear_modify side m agg ms)
  | .filter c t f => by
    simp only [T.modify]
    split
    · simp [T.clear, T.clear_modify side m t]
    · simp [T.clear, T.clear_modify side m f]
theorem TL.clear_modify (side : Side) (m : Msg) (agg : Bool) : ∀ l : TL, (l.modify side m agg).1.clear = l.clear
  | .nil => rfl
  | .cons t l => by
    simp only [TL.modify]
    split
    · simp [TL.clear, T.clear_modify side m t]
    · simp [TL.clear, T.clear_modify side m t, TL.clear_modify side m agg l]
end

mutual
theorem T.reset_eq_clear (side : Side) : ∀ t : T, t.reset side = t.clear
  | .ver .. | .ping .. | .nop | .fail | .hide _ => rfl
  | .group agg ms => congrArg (T.group agg) (TL.reset_eq_clear side ms)
  | .filter c t f => by
    rcases reset_visits_perm side with hv | hv <;>
      simp [T.reset, T.clear, hv, T.reset_eq_clear side t, T.reset_eq_clear side f]
theorem TL.reset_eq_clear (side : Side) : ∀ l : TL, l.reset side = l.clear
  | .nil => rfl
  | .cons t l => by simp [TL.reset, TL.clear, T.reset_eq_clear side t, TL.reset_eq_clear side l]
end

mutual
theorem T.clear_clear : ∀ t : T, t.clear.clear = t.clear
  | .ver .. | .ping .. | .nop | .fail | .hide _ => rfl
  | .group agg ms => congrArg (T.group agg) (TL.clear_clear ms)
  | .filter c t f => by simp [T.clear, T.clear_clear t, T.clear_clear f]
theorem TL.clear_clear : ∀ l : TL, l.clear.clear = l.clear
  | .nil => rfl
  | .cons t l => by simp [TL.clear, T.clear_clear t, TL.clear_clear l]
end

mutual
theorem T.errors_clear (side : Side) (m : Msg) : ∀ t : T, t.clear.errors side m = t.errors side m
  | .ver .. | .ping .. | .nop | .fail | .hide _ => rfl
  | .group agg ms => TL.errors_clear side m agg ms
  | .filter c t f => by simp [T.clear, T.errors, T.errors_clear side m t, T.errors_clear side m f]
theorem TL.errors_clear (side : Side) (m : Msg) (agg : Bool) : ∀ l : TL, l.clear.errors side m agg = l.errors side m agg
  | .nil => rfl
  | .cons t l => by simp [TL.clear, TL.errors, T.errors_clear side m t, TL.errors_clear side m agg l]
end

mutual
theorem T.spec_clear (side : Side) : ∀ (t : T) (ms : List Msg), t.clear.spec side ms = t.spec side ms
  | .ver .., _ | .ping .., _ | .nop, _ | .fail, _ | .hide _, _ => rfl
  | .group agg l, ms => TL.spec_clear side agg l ms
  | .filter c t f, ms => by simp [T.clear, T.spec, T.spec_clear side t, T.spec_clear side f]
theorem TL.spec_clear (side : Side) (agg : Bool) : ∀ (l : TL) (ms : List Msg), l.clear.spec side agg ms = l.spec side agg ms
  | .nil, _ => rfl
  | .cons t l, ms => by simp [TL.clear, TL.spec, T.spec_clear side t, TL.spec_clear side agg l, T.errors_clear side]
end

mutual
theorem T.modify_snd (side : Side) (m : Msg) : ∀ t : T, (t.modify side m).2 = t.errors side m
  | .ver .. => by rw [T.modify_ver]; rfl
  | .ping .. => by rw [T.modify_ping]; rfl
  | .nop | .fail | .hide _ => rfl
  | .group agg ms => TL.modify_snd side m agg ms
  | .filter c t f => by
    simp only [T.modify, T.errors]
    split
    · exact T.modify_snd side m t
    · exact T.modify_snd side m f
theorem TL.modify_snd (side : Side) (m : Msg) (agg : Bool) : ∀ l : TL, (l.modify side m agg).2 = l.errors side m agg
  | .nil => rfl
  | .cons t l => by
    simp only [TL.modify, TL.errors, T.modify_snd side m t]
    split
    · rfl
    · simp [TL.modify_snd side m agg l]
end

theorem T.errors_modify (side : Side) (m m' : Msg) (t : T) : (t.modify side m).1.errors side m' = t.errors side m' := by
  rw [← T.errors_clear, T.clear_modify, T.errors_clear]

mutual
/-- The state invariant: every verifier holds exactly what the exchanges that reached it call for. -/
def T.tracks (side : Side) : T → List Msg → Prop
  | .ver k errs, ms => errs = leafSpec side k ms
  | .ping s h p q pend, ms => pend = !pingSeen s h p q ms
  | .nop, _ => True
  | .fail, _ => True
  | .group agg l, ms => l.tracks side agg ms
  | .filter c t f, ms =>
    t.tracks side (ms.filter (fun m => c.holds side m)) ∧ f.tracks side (ms.filter (fun m => !c.holds side m))
  | .hide _, _ => True
def TL.tracks (side : Side) (agg : Bool) : TL → List Msg → Prop
  | .nil, _ => True
  | .cons t l, ms => t.tracks side ms ∧ l.tracks side agg (ms.filter (fun m => agg || !t.errors side m))
end

mutual
theorem T.tracks_clear (side : Side) : ∀ t : T, t.clear.tracks side []
  | .ver .. | .ping .. => rfl
  | .nop | .fail | .hide _ => trivial
  | .group agg ms => TL.tracks_clear side agg ms
  | .filter _ t f => ⟨T.tracks_clear side t, T.tracks_clear side f⟩
theorem TL.tracks_clear (side : Side) (agg : Bool) : ∀ l : TL, l.clear.tracks side agg []
  | .nil => trivial
  | .cons t l => ⟨T.tracks_clear side t, TL.tracks_clear side agg l⟩
end

theorem leafSpec_append (side : Side) (k : Kind) (ms : List Msg) (m : Msg) :
    leafSpec side k (ms ++ [m]) = leafSpec side k ms ++ (if m.api then [] else (check side k m).toList) := by
  unfold leafSpec
  cases h : m.api
  · cases hc : check side k m <;> simp [List.filter_append, List.filterMap_append, h, hc]
  · simp [List.filter_append, h]

theorem pingSeen_append (s h p q : Bytes) (ms : List Msg) (m : Msg) :
    pingSeen s h p q (ms ++ [m]) = (pingSeen s h p q ms || (!m.api && pingMatch s h p q m)) := by
  simp [pingSeen, List.any_append]

mutual
theorem T.tracks_modify (side : Side) (m : Msg) : ∀ (t : T) (ms : List Msg),
    t.tracks side ms → (t.modify side m).1.tracks side (ms ++ [m])
  | .ver k errs, ms, h => by
    rw [T.modify_ver]
    simp only [T.tracks] at h ⊢
    rw [leafSpec_append, h]
  | .ping s hh p q pend, ms, h => by
    rw [T.modify_ping]
    simp only [T.tracks] at h ⊢
    rw [pingSeen_append, h, Bool.not_or]
  | .nop, _, _ | .fail, _, _ | .hide _, _, _ => trivial
  | .group agg l, ms, h => TL.tracks_modify side m agg l ms h
  | .filter c t f, ms, h => by
    simp only [T.modify]
    cases hc : c.holds side m
    · simpa [T.tracks, hc] using ⟨h.1, T.tracks_modify side m f _ h.2⟩
    · simpa [T.tracks, hc] using ⟨T.tracks_modify side m t _ h.1, h.2⟩
theorem TL.tracks_modify (side : Side) (m : Msg) (agg : Bool) : ∀ (l : TL) (ms : List Msg),
    l.tracks side agg ms → (l.modify side m agg).1.tracks side agg (ms ++ [m])
  | .nil, _, _ => trivial
  | .cons t l, ms, h => by
    simp only [TL.modify, T.modify_snd]
    have hk : (agg || !t.errors side m) = !(t.errors side m && !agg) := by
      cases agg <;> cases t.errors side m <;> rfl
    cases he : (t.errors side m && !agg)
    · simpa [TL.tracks, T.errors_modify, hk, he] using
        ⟨T.tracks_modify side m t ms h.1, TL.tracks_modify side m agg l _ h.2⟩
    · simpa [TL.tracks, T.errors_modify, hk, he] using ⟨T.tracks_modify side m t ms h.1, h.2⟩
end

/-- What `MultiError.Add` appends for a verify result. -/
def errsOf : Option Err → List Err
  | none => []
  | some (.multi es) => es
  | some (.one m) => [.one m]

theorem addOpt_eq (acc : List Err) (o : Option Err) : addOpt acc o = acc ++ errsOf o := by
  cases o with
  | none => simp [addOpt, errsOf]
  -- rests on the regenerated fact that `MultiError.Add` unwraps a `*MultiError` argument
  | some e => cases e <;> simp [addOpt, addErr, errsOf, show Generated.Verify.multiErrorAddFlattens = true from rfl]

theorem errsOf_wrap (es : List Err) : errsOf (if es.isEmpty then none else some (.multi es)) = es := by
  cases es <;> simp [errsOf]

theorem handlerErrors_eq (o : Option Err) : handlerErrors o = (errsOf o).map Err.render := by
  cases o with
  | none => simp [handlerErrors, errsOf]
  | some e => cases e <;> simp [handlerErrors, errsOf, Err.render]

theorem render_one (l : List Bytes) : (l.map Err.one).map Err.render = l := by
  rw [List.map_map]
  exact List.map_id'' (fun _ => rfl) l

mutual
theorem T.verify_spec (side : Side) : ∀ (t : T) (ms : List Msg), t.tracks side ms →
    errsOf (t.verify side) = (t.spec side ms).map .one
  | .ver k errs, ms, h => by
    simp only [T.tracks] at h
    simp only [T.verify, T.spec, ← h]
    cases errs <;> simp [errsOf]
  | .ping s hh p q pend, ms, h => by
    simp only [T.tracks] at h
    simp only [T.verify, T.spec, pingSpec, h]
    cases pingSeen s hh p q ms <;> simp [errsOf]
  | .nop, _, _ | .fail, _, _ | .hide _, _, _ => rfl
  | .group agg l, ms, h => (errsOf_wrap _).trans (TL.verify_spec side agg l ms h)
  | .filter c t f, ms, h => by
    have ht := T.verify_spec side t _ h.1
    have hf := T.verify_spec side f _ h.2
    simp only [T.verify, T.spec, errsOf_wrap, elseFirst]
    rcases visits_perm side with hv | hv <;>
      simp [hv, addOpt_eq, ht, hf]
theorem TL.verify_spec (side : Side) (agg : Bool) : ∀ (l : TL) (ms : List Msg), l.tracks side agg ms →
    l.verify side = (l.spec side agg ms).map .one
  | .nil, _, _ => rfl
  | .cons t l, ms, h => by
    simp only [TL.verify, TL.spec, addOpt_eq, List.nil_append, List.map_append]
    rw [T.verify_spec side t ms h.1, TL.verify_spec side agg l _ h.2]
end

theorem T.report_eq_spec (side : Side) (t : T) (ms : List Msg) (h : t.tracks side ms) :
    handlerErrors (t.verify side) = t.spec side ms := by
  rw [handlerErrors_eq, T.verify_spec side t ms h, render_one]

theorem T.verify_depth_one (side : Side) (t : T) (ms : List Msg) (h : t.tracks side ms) :
    ∀ e ∈ errsOf (t.verify side), ∃ m, e = .one m := by
  rw [T.verify_spec side t ms h]
  exact List.forall_mem_map.mpr fun a _ => ⟨a, rfl⟩

mutual
theorem T.modify_api (side : Side) (m : Msg) (ha : m.api = true) : ∀ t : T, (t.modify side m).1 = t
  | .ver .. => by simp [T.modify_ver, ha]
  | .ping .. => by simp [T.modify_ping, ha]
  | .nop | .fail | .hide _ => rfl
  | .group agg l => congrArg (T.group agg) (TL.modify_api side m ha agg l)
  | .filter c t f => by
    simp only [T.modify]
    split
    · simp [T.modify_api side m ha t]
    · simp [T.modify_api side m ha f]
theorem TL.modify_api (side : Side) (m : Msg) (ha : m.api = true) (agg : Bool) : ∀ l : TL, (l.modify side m agg).1 = l
  | .nil => rfl
  | .cons t l => by
    simp only [TL.modify]
    split
    · simp [T.modify_api side m ha t]
    · simp [T.modify_api side m ha t, TL.modify_api side m ha agg l]
end

theorem Leaf.toT_fresh (l : Leaf) : l.toT.clear = l.toT := by cases l <;> rfl

/-- The match every constructor of `Cfg.compile` ends with. -/
theorem scoped_some {sel : Option Bool} {x : T} {o : Option T}
    (h : (match sel with | none => none | some false => some none | some true => some (some x)) = some o) :
    o = none ∨ o = some x := by
  cases sel with
  | none => cases h
  | some b => cases b <;> cases h <;> simp

mutual
theorem Cfg.compile_fresh (side : Side) : ∀ (c : Cfg) (o : Option T), c.compile side = some o →
    (o.getD .nop).clear = o.getD .nop
  | .leaf l sc, o, h => by
    simp only [Cfg.compile] at h
    split at h
    · cases h
    · rcases scoped_some h with rfl | rfl
      · rfl
      · exact Leaf.toT_fresh l
  | .group agg sc ms, o, h => by
    simp only [Cfg.compile] at h
    split at h
    · cases h
    · rename_i l hl
      rcases scoped_some h with rfl | rfl
      · rfl
      · simp [T.clear, CfgL.compile_fresh side ms l hl]
  | .filter c sc tt ff, o, h => by
    simp only [Cfg.compile] at h
    split at h
    · cases h
    · rename_i ot hot
      split at h
      · cases h
      · rename_i of hof
        rcases scoped_some h with rfl | rfl
        · rfl
        · simp [T.clear, Cfg.compile_fresh side tt ot hot, Cfg.compile_fresh side ff of hof]
  | .prio sc ms, o, h => by
    simp only [Cfg.compile] at h
    split at h
    · cases h
    · rcases scoped_some h with rfl | rfl <;> rfl
  | .absent, o, h => by
    simp only [Cfg.compile, Option.some.injEq] at h
    subst h; rfl
theorem CfgL.compile_fresh (side : Side) : ∀ (c : CfgL) (l : TL), c.compile side = some l → l.clear = l
  | .nil, l, h => by simp [CfgL.compile] at h; subst h; simp [TL.clear]
  | .cons c cs, l, h => by
    simp only [CfgL.compile] at h
    split at h
    · rename_i t l' hc hl
      simp at h; subst h
      have ht : t.clear = t := Cfg.compile_fresh side c (some t) hc
      simp [TL.clear, ht, CfgL.compile_fresh side cs l' hl]
    · rename_i l' hc hl
      simp at h; subst h
      exact CfgL.compile_fresh side cs l' hl
    · cases h
end

end Martian.Verify
