import Martian.Model.JsonString
import Martian.Lemmas.Har
/-!
Lemmas about the model of `encoding/json`'s string coder: `unquote (quote s) = sanitize s` for every
byte string, `sanitize s = s` exactly for valid UTF-8. Every loop of the model advances by one
character per unit of fuel; `fuel_induction` is the induction over strings this gives.
-/
namespace Martian.Har
open Martian Martian.MessageView

theorem isCont_iff (b : UInt8) : isCont b = true ↔ 128 ≤ b.toNat ∧ b.toNat ≤ 191 := by
  simp [isCont, UInt8.le_iff_toNat_le]

theorem ofNat_cont {b : UInt8} (h : isCont b = true) : UInt8.ofNat (0x80 + b.toNat % 64) = b :=
  ofNat_eq b _ (by have := (isCont_iff b).1 h; omega)

/-! `encodeRune` on a rune given by its base-64 digits. What it asks about `r` is gathered in one
conjunction: with constants of this size every `omega` call is slow to check, whatever it proves. -/

theorem encodeRune_one {r : Nat} (h : r ≤ 0x7F) : encodeRune r = [UInt8.ofNat r] := by
  simp [encodeRune, h]

theorem encodeRune_two {x y : Nat} (hy : y < 64) (lo : 2 ≤ x) (hi : x < 32) :
    encodeRune (x * 64 + y) = [UInt8.ofNat (0xC0 + x), UInt8.ofNat (0x80 + y)] := by
  generalize hr : x * 64 + y = r
  have : ¬ r ≤ 0x7F ∧ r ≤ 0x7FF ∧ r / 64 = x ∧ r % 64 = y := by omega
  simp [encodeRune, this]

theorem encodeRune_three {x y z : Nat} (hy : y < 64) (hz : z < 64) (hi : x < 16)
    (lo : x = 0 → 32 ≤ y) (sur : x = 13 → y < 32) :
    encodeRune (x * 4096 + y * 64 + z) =
      [UInt8.ofNat (0xE0 + x), UInt8.ofNat (0x80 + y), UInt8.ofNat (0x80 + z)] := by
  generalize hr : x * 4096 + y * 64 + z = r
  have : ¬ r ≤ 0x7F ∧ ¬ r ≤ 0x7FF ∧ ¬ 0x10FFFF < r ∧ ¬ (0xD800 ≤ r ∧ r ≤ 0xDFFF) ∧ r ≤ 0xFFFF ∧
      r / 4096 = x ∧ r / 64 % 64 = y ∧ r % 64 = z := by omega
  simp [encodeRune, this]

theorem encodeRune_four {x y z u : Nat} (hy : y < 64) (hz : z < 64) (hu : u < 64) (hi : x < 5)
    (lo : x = 0 → 16 ≤ y) (top : x = 4 → y < 16) :
    encodeRune (x * 262144 + y * 4096 + z * 64 + u) =
      [UInt8.ofNat (0xF0 + x), UInt8.ofNat (0x80 + y), UInt8.ofNat (0x80 + z), UInt8.ofNat (0x80 + u)] := by
  generalize hr : x * 262144 + y * 4096 + z * 64 + u = r
  have : ¬ r ≤ 0x7F ∧ ¬ r ≤ 0x7FF ∧ ¬ 0x10FFFF < r ∧ ¬ r ≤ 0xDFFF ∧ ¬ r ≤ 0xFFFF ∧
      r / 262144 = x ∧ r / 4096 % 64 = y ∧ r / 64 % 64 = z ∧ r % 64 = u := by omega
  simp [encodeRune, this]

/-- `b :: w` is the well-formed UTF-8 sequence of the rune `c`. -/
structure Seq (b : UInt8) (w : Bytes) (c : Nat) : Prop where
  decode : ∀ t, decodeRune (b :: (w ++ t)) = (c, w.length + 1)
  valid : ∀ t, utf8Valid (b :: (w ++ t)) = utf8Valid t
  encode : encodeRune c = b :: w
  high : ∀ x ∈ b :: w, 128 ≤ x.toNat
  ne : w ≠ []

/-- The second byte of a three- or four-byte sequence (`acceptRanges`): from `lo` on after the lead
`x` (no overlong form), up to `hi` after the lead `y` (no surrogate, nothing above U+10FFFF). -/
def second (x y lo hi b b1 : UInt8) : Bool :=
  if b == x then lo ≤ b1 && b1 ≤ 0xBF else if b == y then 0x80 ≤ b1 && b1 ≤ hi else isCont b1

theorem second_range {x y lo hi b b1 : UInt8} (h : second x y lo hi b b1 = true)
    (hlo : 128 ≤ lo.toNat) (hhi : hi.toNat ≤ 191) (hxy : x.toNat ≠ y.toNat) :
    128 ≤ b1.toNat ∧ b1.toNat ≤ 191 ∧ (b.toNat = x.toNat → lo.toNat ≤ b1.toNat) ∧
      (b.toNat = y.toNat → b1.toNat ≤ hi.toNat) := by
  unfold second at h
  by_cases ex : b = x
  · have : lo.toNat ≤ b1.toNat ∧ b1.toNat ≤ 191 := by simpa [ex, UInt8.le_iff_toNat_le] using h
    rw [ex]; omega
  have nx : b.toNat ≠ x.toNat := fun e => ex (UInt8.toNat_inj.1 e)
  rw [if_neg (by simpa using ex)] at h
  by_cases ey : b = y
  · have : 128 ≤ b1.toNat ∧ b1.toNat ≤ hi.toNat := by simpa [ey, UInt8.le_iff_toNat_le] using h
    rw [ey]; omega
  have ny : b.toNat ≠ y.toNat := fun e => ey (UInt8.toNat_inj.1 e)
  rw [if_neg (by simpa using ey)] at h
  have := (isCont_iff b1).1 h
  omega

theorem seq2 {b b1 : UInt8} (ha : ¬ b < 0x80) (h2 : (decide (0xC2 ≤ b) && decide (b ≤ 0xDF)) = true)
    (h1 : isCont b1 = true) : Seq b [b1] (b.toNat % 32 * 64 + b1.toNat % 64) := by
  have hb : 194 ≤ b.toNat ∧ b.toNat ≤ 223 := by simpa [UInt8.le_iff_toNat_le] using h2
  have hc := (isCont_iff b1).1 h1
  have : 2 ≤ b.toNat % 32 ∧ 0xC0 + b.toNat % 32 = b.toNat := by omega
  refine {
    decode := fun t => by simp [decodeRune, ha, h2, h1]
    valid := fun t => by simp [utf8Valid, ha, h2, h1]
    encode := ?_
    high := by simpa using ⟨Nat.le_trans (by decide) hb.1, hc.1⟩
    ne := by simp }
  rw [encodeRune_two (Nat.mod_lt _ (by decide)) this.1 (Nat.mod_lt _ (by decide)), ofNat_eq b _ this.2,
    ofNat_cont h1]

theorem seq3 {b b1 b2 : UInt8} (ha : ¬ b < 0x80) (h2 : ¬ (decide (0xC2 ≤ b) && decide (b ≤ 0xDF)) = true)
    (h3 : (decide (0xE0 ≤ b) && decide (b ≤ 0xEF)) = true)
    (h1 : (second 0xE0 0xED 0xA0 0x9F b b1 && isCont b2) = true) :
    Seq b [b1, b2] (b.toNat % 16 * 4096 + b1.toNat % 64 * 64 + b2.toNat % 64) := by
  have hb : 224 ≤ b.toNat ∧ b.toNat ≤ 239 := by simpa [UInt8.le_iff_toNat_le] using h3
  obtain ⟨h11, h12⟩ := Bool.and_eq_true_iff.1 h1
  have hs := second_range h11 (by decide) (by decide) (by decide)
  have hc := (isCont_iff b2).1 h12
  simp only [UInt8.toNat_ofNat] at hs
  have : (b.toNat % 16 = 0 → 32 ≤ b1.toNat % 64) ∧ (b.toNat % 16 = 13 → b1.toNat % 64 < 32) ∧
      0xE0 + b.toNat % 16 = b.toNat ∧ 0x80 + b1.toNat % 64 = b1.toNat := by omega
  unfold second at h1
  refine {
    decode := fun t => by
      simp only [List.cons_append, List.nil_append, decodeRune, ha, h2, h3, h1, reduceIte]
      rfl
    valid := fun t => by
      simp only [List.cons_append, List.nil_append, utf8Valid, ha, h2, h3, h1, reduceIte, Bool.false_eq_true,
        Bool.true_and]
    encode := ?_
    high := by simpa using ⟨Nat.le_trans (by decide) hb.1, hs.1, hc.1⟩
    ne := by simp }
  rw [encodeRune_three (Nat.mod_lt _ (by decide)) (Nat.mod_lt _ (by decide)) (Nat.mod_lt _ (by decide))
    this.1 this.2.1, ofNat_eq b _ this.2.2.1, ofNat_eq b1 _ this.2.2.2, ofNat_cont h12]

theorem seq4 {b b1 b2 b3 : UInt8} (ha : ¬ b < 0x80) (h2 : ¬ (decide (0xC2 ≤ b) && decide (b ≤ 0xDF)) = true)
    (h3 : ¬ (decide (0xE0 ≤ b) && decide (b ≤ 0xEF)) = true)
    (h4 : (decide (0xF0 ≤ b) && decide (b ≤ 0xF4)) = true)
    (h1 : (second 0xF0 0xF4 0x90 0x8F b b1 && isCont b2 && isCont b3) = true) :
    Seq b [b1, b2, b3]
      (b.toNat % 8 * 262144 + b1.toNat % 64 * 4096 + b2.toNat % 64 * 64 + b3.toNat % 64) := by
  have hb : 240 ≤ b.toNat ∧ b.toNat ≤ 244 := by simpa [UInt8.le_iff_toNat_le] using h4
  obtain ⟨⟨h11, h12⟩, h13⟩ : (second 0xF0 0xF4 0x90 0x8F b b1 = true ∧ isCont b2 = true) ∧ isCont b3 = true := by
    simpa only [Bool.and_eq_true_iff] using h1
  have hs := second_range h11 (by decide) (by decide) (by decide)
  have hc2 := (isCont_iff b2).1 h12
  have hc3 := (isCont_iff b3).1 h13
  simp only [UInt8.toNat_ofNat] at hs
  have : b.toNat % 8 < 5 ∧ (b.toNat % 8 = 0 → 16 ≤ b1.toNat % 64) ∧ (b.toNat % 8 = 4 → b1.toNat % 64 < 16) ∧
      0xF0 + b.toNat % 8 = b.toNat ∧ 0x80 + b1.toNat % 64 = b1.toNat := by omega
  unfold second at h1
  refine {
    decode := fun t => by
      simp only [List.cons_append, List.nil_append, decodeRune, ha, h2, h3, h4, h1, reduceIte]
      rfl
    valid := fun t => by
      simp only [List.cons_append, List.nil_append, utf8Valid, ha, h2, h3, h4, h1, reduceIte,
        Bool.false_eq_true, Bool.true_and]
    encode := ?_
    high := by simpa using ⟨Nat.le_trans (by decide) hb.1, hs.1, hc2.1, hc3.1⟩
    ne := by simp }
  rw [encodeRune_four (Nat.mod_lt _ (by decide)) (Nat.mod_lt _ (by decide)) (Nat.mod_lt _ (by decide))
    this.1 this.2.1 this.2.2.1, ofNat_eq b _ this.2.2.2.1, ofNat_eq b1 _ this.2.2.2.2, ofNat_cont h12,
    ofNat_cont h13]

/-- After a lead byte `b ≥ 0x80`: either the decoder answers U+FFFD of width 1 (and the string is
not valid UTF-8), or `rest` begins with the tail `w` of the well-formed sequence `b :: w`. -/
inductive Head (b : UInt8) (rest : Bytes) : Prop
  | bad : decodeRune (b :: rest) = (runeError, 1) ∧ utf8Valid (b :: rest) = false → Head b rest
  | seq (w r : Bytes) (c : Nat) : rest = w ++ r → Seq b w c → Head b rest

theorem head_cases (b : UInt8) (rest : Bytes) (ha : ¬ b < 0x80) : Head b rest := by
  by_cases h2 : (decide (0xC2 ≤ b) && decide (b ≤ 0xDF)) = true
  · match rest with
    | [] => exact .bad (by simp [decodeRune, utf8Valid, ha, h2])
    | b1 :: t =>
      by_cases h1 : isCont b1 = true
      · exact .seq [b1] t _ rfl (seq2 ha h2 h1)
      · exact .bad (by simp [decodeRune, utf8Valid, ha, h2, h1])
  by_cases h3 : (decide (0xE0 ≤ b) && decide (b ≤ 0xEF)) = true
  · match rest with
    | [] | [_] => exact .bad (by simp [decodeRune, utf8Valid, ha, h2, h3])
    | b1 :: b2 :: t =>
      by_cases h1 : (second 0xE0 0xED 0xA0 0x9F b b1 && isCont b2) = true
      · exact .seq [b1, b2] t _ rfl (seq3 ha h2 h3 h1)
      · unfold second at h1
        exact .bad (by
          simp only [decodeRune, utf8Valid, ha, h2, h3, h1, reduceIte, Bool.false_eq_true, Bool.false_and,
            and_self])
  by_cases h4 : (decide (0xF0 ≤ b) && decide (b ≤ 0xF4)) = true
  · match rest with
    | [] | [_] | [_, _] => exact .bad (by simp [decodeRune, utf8Valid, ha, h2, h3, h4])
    | b1 :: b2 :: b3 :: t =>
      by_cases h1 : (second 0xF0 0xF4 0x90 0x8F b b1 && isCont b2 && isCont b3) = true
      · exact .seq [b1, b2, b3] t _ rfl (seq4 ha h2 h3 h4 h1)
      · unfold second at h1
        exact .bad (by
          simp only [decodeRune, utf8Valid, ha, h2, h3, h4, h1, reduceIte, Bool.false_eq_true, Bool.false_and,
            and_self])
  · exact .bad (by unfold utf8Valid; simp [decodeRune, ha, h2, h3, h4])

theorem fuel_induction {P : Nat → Bytes → Prop} (nil : ∀ f, P f [])
    (ascii : ∀ f b r, b < 0x80 → P f r → P (f + 1) (b :: r))
    (bad : ∀ f b r, ¬ b < 0x80 → decodeRune (b :: r) = (runeError, 1) → utf8Valid (b :: r) = false →
      P f r → P (f + 1) (b :: r))
    (seq : ∀ f b w c r, Seq b w c → P f r → P (f + 1) (b :: (w ++ r))) :
    ∀ f s, s.length ≤ f → P f s := by
  intro f
  induction f with
  | zero =>
    intro s hs
    cases s with
    | nil => exact nil 0
    | cons => simp at hs
  | succ f ih =>
    intro s hs
    match s with
    | [] => exact nil _
    | b :: rest =>
      have hr : rest.length ≤ f := by simpa using hs
      by_cases ha : b < 0x80
      · exact ascii f b rest ha (ih rest hr)
      · cases head_cases b rest ha with
        | bad hd => exact bad f b rest ha hd.1 hd.2 (ih rest hr)
        | seq w r c e hw =>
          subst e
          exact seq f b w c r hw (ih r (by rw [List.length_append] at hr; omega))

theorem Seq.not_ascii {b : UInt8} {w : Bytes} {c : Nat} (h : Seq b w c) : ¬ b < 0x80 :=
  UInt8.not_lt.mpr (h.high b (by simp))

theorem utf8Valid_replacement (t : Bytes) : utf8Valid (replacement ++ t) = utf8Valid t := by
  simp [replacement, utf8Valid, isCont]

theorem quoteAux_ascii (f : Nat) (b : UInt8) (rest : Bytes) (h : b < 0x80) :
    quoteAux (f + 1) (b :: rest) = (if htmlSafe b then [b] else escAscii b) ++ quoteAux f rest := by
  simp [quoteAux, h]

theorem quoteAux_bad (f : Nat) (b : UInt8) (rest : Bytes) (h : ¬ b < 0x80)
    (hd : decodeRune (b :: rest) = (runeError, 1)) :
    quoteAux (f + 1) (b :: rest) = escReplacement ++ quoteAux f rest := by
  simp [quoteAux, h, hd]

theorem Seq.quoteAux {b : UInt8} {w : Bytes} {c : Nat} (h : Seq b w c) (f : Nat) (r : Bytes) :
    quoteAux (f + 1) (b :: (w ++ r)) =
      (if c = 0x2028 ∨ c = 0x2029 then escLineSep c else b :: w) ++ quoteAux f r := by
  simp only [Martian.Har.quoteAux, h.not_ascii, if_false, h.decode]
  by_cases hc : c = 0x2028 ∨ c = 0x2029
  · rcases hc with rfl | rfl <;> simp [h.ne]
  · have h1 : ¬ c = 0x2028 := fun e => hc (Or.inl e)
    have h2 : ¬ c = 0x2029 := fun e => hc (Or.inr e)
    simp [h.ne, h1, h2]

theorem sanitizeAux_ascii (f : Nat) (b : UInt8) (rest : Bytes) (h : b < 0x80) :
    sanitizeAux (f + 1) (b :: rest) = b :: sanitizeAux f rest := by
  simp [sanitizeAux, h]

theorem sanitizeAux_bad (f : Nat) (b : UInt8) (rest : Bytes) (h : ¬ b < 0x80)
    (hd : decodeRune (b :: rest) = (runeError, 1)) :
    sanitizeAux (f + 1) (b :: rest) = replacement ++ sanitizeAux f rest := by
  simp [sanitizeAux, h, hd]

theorem Seq.sanitizeAux {b : UInt8} {w : Bytes} {c : Nat} (h : Seq b w c) (f : Nat) (r : Bytes) :
    sanitizeAux (f + 1) (b :: (w ++ r)) = b :: (w ++ sanitizeAux f r) := by
  simp [Martian.Har.sanitizeAux, h.not_ascii, h.decode, h.ne]

theorem scan_plain (c : UInt8) (h1 : ¬ c = 0x22) (h2 : ¬ c = 0x5C) (h3 : ¬ c < 0x20) (f : Nat) (q : Bytes) :
    scanAux (f + 1) (c :: q) = scanAux f q := by
  simp [scanAux, h1, h2, h3]

theorem scan_high (l : Bytes) (h : ∀ x ∈ l, 128 ≤ x.toNat) (f : Nat) (q : Bytes) :
    scanAux (f + l.length) (l ++ q) = scanAux f q := by
  induction l with
  | nil => rfl
  | cons x l ih =>
    have hx : 128 ≤ x.toNat := h x (by simp)
    rw [List.length_cons, ← Nat.add_assoc, List.cons_append,
      scan_plain x (by intro e; subst e; simp at hx) (by intro e; subst e; simp at hx)
        (by rw [UInt8.lt_iff_toNat_lt]; simp; omega)]
    exact ih fun y hy => h y (by simp [hy])

theorem unquote_nonascii (c : UInt8) (hc : ¬ c < 0x80) (f : Nat) (rest acc : Bytes) :
    unquoteAux (f + 1) (c :: rest) acc =
      unquoteAux f (rest.drop ((decodeRune (c :: rest)).2 - 1)) (acc ++ encodeRune (decodeRune (c :: rest)).1) := by
  have hge : 128 ≤ c.toNat := by rw [UInt8.lt_iff_toNat_lt] at hc; simpa using hc
  have n1 : ¬ c = 0x5C := by intro h; subst h; simp at hge
  have n2 : ¬ c = 0x22 := by intro h; subst h; simp at hge
  have n3 : ¬ c < 0x20 := by rw [UInt8.lt_iff_toNat_lt]; simp; omega
  simp [unquoteAux, n1, n2, n3, hc]

/-- `quote` writes `p` for a character that `sanitize` renders as `v`: the scanner passes `p` in
`k` steps, `unquoteAux` in one. -/
structure Piece (p v : Bytes) (k : Nat) : Prop where
  pos : 0 < k
  le : k ≤ p.length
  scan : ∀ f q, scanAux (f + k) (p ++ q) = scanAux f q
  unquote : ∀ f q acc, unquoteAux (f + 1) (p ++ q) acc = unquoteAux f q (acc ++ v)

theorem piece_safe (c : UInt8) (hc : c < 0x80) (hs : htmlSafe c = true) : Piece [c] [c] 1 := by
  simp only [htmlSafe, Bool.and_eq_true, decide_eq_true_eq, bne_iff_ne, ne_eq] at hs
  obtain ⟨⟨⟨⟨⟨h20, h22⟩, h5c⟩, _⟩, _⟩, _⟩ := hs
  have n20 : ¬ c < 0x20 := by rw [UInt8.lt_iff_toNat_lt]; rw [UInt8.le_iff_toNat_le] at h20; omega
  exact ⟨Nat.one_pos, Nat.le_refl _, fun f q => scan_plain c h22 h5c n20 f q,
    fun f q acc => by simp [unquoteAux, h5c, h22, n20, hc]⟩

theorem piece_u4 {a b c d : UInt8} {r : Nat} (hx : ∀ q, hex4 (a :: b :: c :: d :: q) = some r)
    (hsur : isSurrogate r = false) : Piece [0x5C, 0x75, a, b, c, d] (encodeRune r) 1 :=
  ⟨Nat.one_pos, by simp, fun f q => by simp [scanAux, hx], fun f q acc => by simp [unquoteAux, hx, hsur]⟩

theorem piece_escAscii (c : UInt8) (hc : c < 0x80) : Piece (escAscii c) [c] 1 := by
  by_cases hs : c ∈ [0x5C, 0x22, 0x08, 0x0C, 0x0A, 0x0D, 0x09]
  · simp only [List.mem_cons, List.not_mem_nil, or_false] at hs
    rcases hs with rfl | rfl | rfl | rfl | rfl | rfl | rfl <;>
      exact ⟨Nat.one_pos, by decide, fun f q => by simp [escAscii, scanAux],
        fun f q acc => by simp [escAscii, unquoteAux]⟩
  simp only [List.mem_cons, List.not_mem_nil, or_false, not_or] at hs
  have hlt : c.toNat < 128 := by rw [UInt8.lt_iff_toNat_lt] at hc; simpa using hc
  have h0 : hexValB 0x30 = some 0 := by decide
  have hx (q : Bytes) :
      hex4 (0x30 :: 0x30 :: hexDigitB (c.toNat / 16) :: hexDigitB (c.toNat % 16) :: q) = some c.toNat := by
    simp only [hex4, h0, hexValB_hexDigitB _ (show c.toNat / 16 < 16 by omega),
      hexValB_hexDigitB _ (Nat.mod_lt _ (by decide))]
    congr 1; omega
  have hsur : isSurrogate c.toNat = false := by simp [isSurrogate]; omega
  have henc : encodeRune c.toNat = [c] := by rw [encodeRune_one (by omega), UInt8.ofNat_toNat]
  have he : escAscii c = [0x5C, 0x75, 0x30, 0x30, hexDigitB (c.toNat / 16), hexDigitB (c.toNat % 16)] := by
    simp [escAscii, hs]
  rw [he, ← henc]
  exact piece_u4 hx hsur

theorem piece_escReplacement : Piece escReplacement replacement 1 :=
  have henc : encodeRune runeError = replacement := by decide
  henc ▸ piece_u4 (hx := fun _ => rfl) (hsur := by decide)

theorem piece_escLineSep (c : Nat) (hc : c = 0x2028 ∨ c = 0x2029) : Piece (escLineSep c) (encodeRune c) 1 := by
  rcases hc with rfl | rfl <;> exact piece_u4 (hx := fun _ => rfl) (hsur := by decide)

theorem Seq.piece {b : UInt8} {w : Bytes} {c : Nat} (h : Seq b w c) : Piece (b :: w) (b :: w) (w.length + 1) :=
  ⟨Nat.succ_pos _, Nat.le_refl _, fun f q => scan_high (b :: w) h.high f q, fun f q acc => by
    rw [List.cons_append, unquote_nonascii b h.not_ascii, h.decode, h.encode]
    simp⟩

/-- Given fuel for its length, the scanner accepts `q` with its closing quote and `unquoteAux`
appends `t`. -/
def Reads (q t : Bytes) : Prop :=
  (∀ f, q.length < f → scanAux f (q ++ [0x22]) = true) ∧
    ∀ f acc, q.length ≤ f → unquoteAux f q acc = some (acc ++ t)

theorem Reads.nil : Reads [] [] := by
  refine ⟨fun f hf => ?_, fun f acc _ => by cases f <;> simp [unquoteAux]⟩
  obtain ⟨k, rfl⟩ : ∃ k, f = k + 1 := ⟨f - 1, by simp at hf; omega⟩
  simp [scanAux]

theorem Piece.reads {p v q t : Bytes} {k : Nat} (hp : Piece p v k) (h : Reads q t) :
    Reads (p ++ q) (v ++ t) := by
  have hpos := hp.pos
  have hle := hp.le
  constructor
  · intro f hf
    rw [List.length_append] at hf
    obtain ⟨g, rfl⟩ : ∃ g, f = g + k := ⟨f - k, by omega⟩
    rw [List.append_assoc, hp.scan]
    exact h.1 g (by omega)
  · intro f acc hf
    rw [List.length_append] at hf
    obtain ⟨g, rfl⟩ : ∃ g, f = g + 1 := ⟨f - 1, by omega⟩
    rw [hp.unquote, h.2 g _ (by omega), List.append_assoc]

theorem reads_quoteAux : ∀ f s, s.length ≤ f → Reads (quoteAux f s) (sanitizeAux f s) := by
  apply fuel_induction
  · intro f
    cases f <;> exact Reads.nil
  · intro f b r ha ih
    rw [quoteAux_ascii f b r ha, sanitizeAux_ascii f b r ha]
    by_cases hs : htmlSafe b = true
    · rw [if_pos hs]; exact (piece_safe b ha hs).reads ih
    · rw [if_neg hs]; exact (piece_escAscii b ha).reads ih
  · intro f b r ha hd _ ih
    rw [quoteAux_bad f b r ha hd, sanitizeAux_bad f b r ha hd]
    exact piece_escReplacement.reads ih
  · intro f b w c r hw ih
    rw [hw.quoteAux, hw.sanitizeAux]
    by_cases hc : c = 0x2028 ∨ c = 0x2029
    · have h := (piece_escLineSep c hc).reads ih
      rw [hw.encode] at h
      rwa [if_pos hc]
    · rw [if_neg hc]; exact hw.piece.reads ih

theorem unquote_quote (s : Bytes) : unquote (quote s) = some (sanitize s) := by
  have h := (reads_quoteAux s.length s (Nat.le_refl _)).2 ((quoteAux s.length s).length + 1) [] (by omega)
  simp only [quote, unquote, List.getLast?_append, List.getLast?_singleton, Option.some_or,
    List.dropLast_concat, List.length_append, List.length_cons, List.length_nil]
  simpa [sanitize] using h

theorem scanString_quote (s : Bytes) : scanString (quote s) = true := by
  simp only [quote, scanString]
  exact (reads_quoteAux s.length s (Nat.le_refl _)).1 _ (by simp)

theorem hexValB_isSome (d : Nat) (h : d < 16) : ∃ v, hexValB (hexDigitB d) = some v :=
  ⟨d, hexValB_hexDigitB d h⟩

/-- `json.Unmarshal(json.Marshal(s))` for every Go string: the bytes of `string([]rune(s))`. -/
theorem jsonDecode_jsonEncode (s : Bytes) : jsonDecodeString (jsonEncodeString s) = some (sanitize s) := by
  simp [jsonDecodeString, jsonEncodeString, scanString_quote, unquote_quote]

theorem sanitizeAux_valid : ∀ f s, s.length ≤ f → utf8Valid s = true → sanitizeAux f s = s := by
  apply fuel_induction
  · intro f _
    cases f <;> rfl
  · intro f b r ha ih hv
    rw [sanitizeAux_ascii f b r ha, ih (by rwa [utf8Valid_cons_ascii b r ha] at hv)]
  · intro f b r _ _ hb _ hv
    rw [hb] at hv
    cases hv
  · intro f b w c r hw ih hv
    rw [hw.sanitizeAux, ih (by rwa [hw.valid] at hv)]

theorem sanitize_of_valid (s : Bytes) (h : utf8Valid s = true) : sanitize s = s :=
  sanitizeAux_valid s.length s (Nat.le_refl _) h

theorem sanitize_b64Encode (t : Bytes) : sanitize (b64Encode t) = b64Encode t :=
  sanitize_of_valid _ (utf8Valid_of_ascii _ (b64Encode_ascii t))

theorem sanitize_base64Tok : sanitize base64Tok = base64Tok := sanitize_of_valid _ base64Tok_valid

theorem sanitizeAux_is_valid : ∀ f s, s.length ≤ f → utf8Valid (sanitizeAux f s) = true := by
  apply fuel_induction
  · intro f
    cases f <;> rfl
  · intro f b r ha ih
    rwa [sanitizeAux_ascii f b r ha, utf8Valid_cons_ascii b _ ha]
  · intro f b r ha hd _ ih
    rwa [sanitizeAux_bad f b r ha hd, utf8Valid_replacement]
  · intro f b w c r hw ih
    rwa [hw.sanitizeAux, hw.valid]

theorem sanitize_is_valid (s : Bytes) : utf8Valid (sanitize s) = true :=
  sanitizeAux_is_valid s.length s (Nat.le_refl _)

theorem sanitize_eq_iff (s : Bytes) : sanitize s = s ↔ utf8Valid s = true :=
  ⟨fun h => h ▸ sanitize_is_valid s, sanitize_of_valid s⟩

end Martian.Har
