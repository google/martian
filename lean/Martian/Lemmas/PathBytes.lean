import Martian.Lemmas.Path
import Martian.Lemmas.Strings
/-!
Byte-level bridge for `clean` / `join2`: the component lists that the stack lemmas talk about are
really the components of the byte strings that `filepath.Clean` / `filepath.Join` return.
-/
namespace Martian.Go
open Martian

theorem isEmpty_of_isRooted {p : Bytes} (hp : isRooted p = true) : p.isEmpty = false := by
  cases p with
  | nil => cases hp
  | cons => rfl

theorem clean_rooted {p : Bytes} (hp : isRooted p = true) :
    clean p = slash :: join (cleanComps true (split p slash)) [slash] := by
  simp only [clean, isEmpty_of_isRooted hp, hp, Bool.false_eq_true, if_false, if_true]

theorem clean_rooted_isRooted (p : Bytes) (hp : isRooted p = true) : isRooted (clean p) = true := by
  rw [clean_rooted hp]; rfl

theorem comps_clean_rooted (p : Bytes) (hp : isRooted p = true) :
    comps (clean p) = cleanComps true (split p slash) := by
  have hout := cleanComps_rooted (split p slash)
  rw [clean_rooted hp, comps]
  generalize cleanComps true (split p slash) = out at hout ⊢
  have hf : out.filter (· ≠ []) = out :=
    List.filter_eq_self.2 fun x hx => by simpa using (hout x hx).2.1
  cases out with
  | nil => rfl
  | cons y r =>
    rw [show (slash :: join (y :: r) [slash]) = [] ++ slash :: join (y :: r) [slash] from rfl,
      split_append_sep, split_join (y :: r) slash (List.cons_ne_nil _ _)
        fun x hx => split_no_sep p slash x (hout x hx).1]
    exact hf

end Martian.Go
