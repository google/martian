import Martian.Model.H2Relay
/-! The h2 relay model for C08 / C09: the invariant `Good0` of `rstep`, what a pass leaves stuck, the order of
header blocks. -/
namespace Martian.H2Relay
open Martian

/-- The flow-controlled octets of the frames `l`. -/
def flow (l : List QFrame) : Int := (l.map (fun f => (f.size : Int))).sum

/-- The frames of `l` on stream `s`. -/
def onS (s : Nat) (l : List QFrame) : List QFrame := l.filter (fun f => f.sid == s)

/-- The head of the queue (if any) does not fit the two windows. -/
def Stuck (conn w : Int) (q : List QFrame) : Prop :=
  q = [] ∨ ∃ f q', q = f :: q' ∧ fits conn w f = false

@[simp] theorem flow_nil : flow [] = 0 := rfl
@[simp] theorem flow_cons (f : QFrame) (l : List QFrame) : flow (f :: l) = f.size + flow l := by
  simp [flow]
@[simp] theorem flow_append (a b : List QFrame) : flow (a ++ b) = flow a + flow b := by
  simp [flow]
theorem flow_nonneg (l : List QFrame) : 0 ≤ flow l := by
  induction l with
  | nil => simp
  | cons f l ih => simp; omega

@[simp] theorem onS_nil (s : Nat) : onS s [] = [] := rfl
@[simp] theorem onS_append (s : Nat) (a b : List QFrame) : onS s (a ++ b) = onS s a ++ onS s b := by
  simp [onS]
theorem onS_self {s : Nat} {l : List QFrame} (h : ∀ f ∈ l, f.sid = s) : onS s l = l := by
  simp only [onS, List.filter_eq_self]
  intro f hf; simp [h f hf]
theorem onS_other {s t : Nat} {l : List QFrame} (h : ∀ f ∈ l, f.sid = t) (hne : t ≠ s) : onS s l = [] := by
  simp only [onS, List.filter_eq_nil_iff]
  intro f hf; simp [h f hf, hne]

theorem emit_spec (conn w : Int) (q : List QFrame) :
    let r := emit conn w q
    r.2.2.2 ++ r.2.2.1 = q ∧ r.1 = conn - flow r.2.2.2 ∧ r.2.1 = w - flow r.2.2.2 ∧
    Stuck r.1 r.2.1 r.2.2.1 ∧ (0 ≤ conn → 0 ≤ r.1) ∧ (0 ≤ r.2.1 ∨ r.2.1 = w) ∧
    (∀ f ∈ r.2.2.2, (f.size : Int) ≤ conn ∧ (f.size : Int) ≤ w) := by
  induction q generalizing conn w with
  | nil => simp [emit, Stuck]
  | cons f q ih =>
    by_cases h : fits conn w f
    · obtain ⟨h1, h2, h3, h4, h5, h6, h7⟩ := ih (conn - f.size) (w - f.size)
      simp only [emit, h, if_true, flow_cons, List.cons_append, h1]
      simp only [fits, Bool.and_eq_true, decide_eq_true_eq] at h
      refine ⟨trivial, by omega, by omega, h4, fun hc => h5 (by omega), by omega, fun g hg => ?_⟩
      rcases List.mem_cons.mp hg with rfl | hg
      · exact h
      · have := h7 g hg
        omega
    · simp [emit, h, Stuck]

theorem stuck_mono {conn conn' w : Int} {q : List QFrame} (h : conn' ≤ conn) :
    Stuck conn w q → Stuck conn' w q := by
  rintro (h1 | ⟨f, q', rfl, hf⟩)
  · exact Or.inl h1
  · refine Or.inr ⟨f, q', rfl, ?_⟩
    simp only [fits, Bool.and_eq_false_iff, decide_eq_false_iff_not] at *
    omega

theorem chunkRest_flatten (m : Nat) (hm : 0 < m) (fuel : Nat) (rem : Bytes) (h : rem.length ≤ fuel) :
    (chunkRest m fuel rem).flatten = rem := by
  fun_induction chunkRest m fuel rem with
  | case1 rem => exact (List.eq_nil_of_length_eq_zero (by omega)).symm
  | case2 fuel rem he => simpa using he.symm
  | case3 fuel rem hne ih =>
    have : 0 < rem.length := by simpa [List.length_pos_iff] using hne
    simp [ih (by simp; omega)]

theorem chunkRest_le (m fuel : Nat) (rem : Bytes) : ∀ c ∈ chunkRest m fuel rem, c.length ≤ m := by
  fun_induction chunkRest m fuel rem with
  | case1 | case2 => simp
  | case3 fuel rem hne ih =>
    simp only [List.mem_cons, forall_eq_or_imp]
    exact ⟨by simp; omega, ih⟩

theorem chunkRest_pos {m : Nat} (hm : 0 < m) (fuel : Nat) (rem : Bytes) : ∀ c ∈ chunkRest m fuel rem, 0 < c.length := by
  fun_induction chunkRest m fuel rem with
  | case1 | case2 => simp
  | case3 fuel rem hne ih =>
    simp only [List.mem_cons, forall_eq_or_imp]
    have : 0 < rem.length := by simpa [List.length_pos_iff] using hne
    exact ⟨by simp; omega, ih⟩

/-- `k`: the octets that precede the first chunk in its frame. -/
theorem splitIntoChunks_wire_le (k m : Nat) (hk : k ≤ m) (data : Bytes) :
    (match splitIntoChunks (m - k) m data with
     | [] => 0
     | c :: cs => (cs.map List.length).foldl max (c.length + k)) ≤ m := by
  show ((chunkRest m data.length (data.drop (m - k))).map List.length).foldl max ((data.take (m - k)).length + k) ≤ m
  refine List.foldlRecOn _ max (motive := (· ≤ m)) (by simp only [List.length_take]; omega)
    fun b hb x hx => Nat.max_le.mpr ⟨hb, ?_⟩
  obtain ⟨c, hc, rfl⟩ := List.mem_map.mp hx
  exact chunkRest_le _ _ _ c hc

theorem dataChunks_flatten (m : Nat) (hm : 0 < m) (fuel : Nat) (d : Bytes) (h : d.length ≤ fuel) :
    (dataChunks m fuel d).flatten = d := by
  fun_induction dataChunks m fuel d with
  | case1 d => simp [List.eq_nil_of_length_eq_zero (Nat.le_zero.mp h)]
  | case2 fuel d he => simp at he; simp [List.take_of_length_le he]
  | case3 fuel d hne ih =>
    have : m < d.length := by simpa using hne
    simp [ih (by simp; omega)]

theorem dataChunks_le (m fuel : Nat) (d : Bytes) : ∀ c ∈ dataChunks m fuel d, c.length ≤ m := by
  fun_induction dataChunks m fuel d with
  | case1 | case2 => simp; omega
  | case3 fuel d hne ih =>
    simp only [List.mem_cons, forall_eq_or_imp]
    exact ⟨by simp; omega, ih⟩

theorem dataChunks_ne_nil (m fuel : Nat) (d : Bytes) : dataChunks m fuel d ≠ [] := by
  fun_cases dataChunks m fuel d <;> simp

@[simp] theorem setOB_same (ob : Nat → OB) (s : Nat) (o : OB) : setOB ob s o s = o := by simp [setOB]
theorem setOB_other (ob : Nat → OB) (s : Nat) (o : OB) {t : Nat} (h : t ≠ s) : setOB ob s o t = ob t := by
  simp [setOB, h]

theorem emitStream_spec (r : Relay) (s : Nat) : ∃ conn' w' q' out,
    emitStream r s = { r with connWin := conn', ob := setOB r.ob s ⟨w', q'⟩, emitted := r.emitted ++ out } ∧
    out ++ q' = (r.ob s).q ∧ conn' = r.connWin - flow out ∧ w' = (r.ob s).win - flow out ∧
    Stuck conn' w' q' ∧ (0 ≤ r.connWin → 0 ≤ conn') ∧ (0 ≤ w' ∨ w' = (r.ob s).win) := by
  obtain ⟨h1, h2, h3, h4, h5, h6, -⟩ := emit_spec r.connWin (r.ob s).win (r.ob s).q
  exact ⟨_, _, _, _, rfl, h1, h2, h3, h4, h5, h6⟩

/-- Invariant of `rstep`, without side condition on the inputs. Per stream: the queue holds only its own frames,
emitted ++ queued = accepted, and the stream window is what was granted (`initWin`, WINDOW_UPDATEs) minus what
was emitted — possibly negative after INITIAL_WINDOW_SIZE went down, but by no more than `lowered`. For the
connection the same ledger with the initial window `65535` (`({} : Relay).connWin`), never negative. -/
structure Good0 (r : Relay) : Prop where
  sidq : ∀ s, ∀ f ∈ (r.ob s).q, f.sid = s
  nokey : ∀ s, s ∉ r.keys → (r.ob s).q = [] ∧ onS s r.accepted = [] ∧ r.wu s = 0
  conserve : ∀ s, onS s r.emitted ++ (r.ob s).q = onS s r.accepted
  ledgerS : ∀ s, s ∈ r.keys → flow (onS s r.emitted) + (r.ob s).win = r.initWin + r.wu s
  ledgerC : flow r.emitted + r.connWin = 65535 + r.wuConn
  connNonneg : 0 ≤ r.connWin
  winLower : ∀ s, s ∈ r.keys → 0 ≤ (r.ob s).win + r.lowered

theorem good0_init : Good0 ({} : Relay) := by
  constructor <;> simp

/-- What `Good0` says about stream `s`; it reads nothing of another stream. -/
def GoodAt (r : Relay) (s : Nat) : Prop :=
  (∀ f ∈ (r.ob s).q, f.sid = s) ∧
  (s ∉ r.keys → (r.ob s).q = [] ∧ onS s r.accepted = [] ∧ r.wu s = 0) ∧
  onS s r.emitted ++ (r.ob s).q = onS s r.accepted ∧
  (s ∈ r.keys → flow (onS s r.emitted) + (r.ob s).win = r.initWin + r.wu s ∧ 0 ≤ (r.ob s).win + r.lowered)

theorem good0_iff (r : Relay) :
    Good0 r ↔ (∀ s, GoodAt r s) ∧ flow r.emitted + r.connWin = 65535 + r.wuConn ∧ 0 ≤ r.connWin :=
  ⟨fun h => ⟨fun s => ⟨h.sidq s, h.nokey s, h.conserve s, fun hk => ⟨h.ledgerS s hk, h.winLower s hk⟩⟩,
      h.ledgerC, h.connNonneg⟩,
   fun ⟨hs, hc, h0⟩ => ⟨fun s => (hs s).1, fun s => (hs s).2.1, fun s => (hs s).2.2.1,
      fun s hk => ((hs s).2.2.2 hk).1, hc, h0, fun s hk => ((hs s).2.2.2 hk).2⟩⟩

theorem good0_local {r r' : Relay} (h : Good0 r) (s : Nat) {o : OB}
    (hem : ∀ t, t ≠ s → onS t r'.emitted = onS t r.emitted) (hac : ∀ t, t ≠ s → onS t r'.accepted = onS t r.accepted)
    (hob : r'.ob = setOB r.ob s o) (hkeys : ∀ t, t ≠ s → (t ∈ r'.keys ↔ t ∈ r.keys))
    (hwu : ∀ t, t ≠ s → r'.wu t = r.wu t) (hi : r'.initWin = r.initWin) (hl : r'.lowered = r.lowered)
    (hs : GoodAt r' s) (hC : flow r'.emitted + r'.connWin = 65535 + r'.wuConn) (h0 : 0 ≤ r'.connWin) :
    Good0 r' := by
  refine (good0_iff r').mpr ⟨fun t => ?_, hC, h0⟩
  by_cases hts : t = s
  · exact hts ▸ hs
  · have := ((good0_iff r).mp h).1 t
    unfold GoodAt at this ⊢
    rwa [hob, setOB_other _ _ _ hts, hkeys t hts, hwu t hts, hi, hl, hem t hts, hac t hts]

theorem emitStream_good0 {r : Relay} (h : Good0 r) (s : Nat) : Good0 (emitStream r s) := by
  obtain ⟨conn', w', q', out, e, hcat, hconn, hwin, -, hnn, hwl⟩ := emitStream_spec r s
  have hsid := h.sidq s
  have hcons := h.conserve s
  rw [← hcat] at hsid hcons
  have hout : ∀ f ∈ out, f.sid = s := fun f hf => hsid f (by simp [hf])
  rw [e]
  refine good0_local h s (fun t ht => by simp [onS_other hout (Ne.symm ht)]) (fun _ _ => rfl)
    rfl (fun _ _ => Iff.rfl) (fun _ _ => rfl) rfl rfl ⟨?_, ?_, ?_, ?_⟩ ?_ (hnn h.connNonneg)
  · simpa using fun f hf => hsid f (by simp [hf])
  · intro hk
    have := h.nokey s hk
    rw [← hcat, List.append_eq_nil_iff] at this
    simpa using ⟨this.1.2, this.2.1, this.2.2⟩
  · simpa [onS_self hout] using hcons
  · intro hk
    have := h.ledgerS s hk
    have := h.winLower s hk
    simp [onS_self hout]
    omega
  · have := h.ledgerC
    simp; omega

theorem getOB_keys (r : Relay) (s : Nat) : s ∈ (getOB r s).keys := by
  unfold getOB; split <;> simp [*]

theorem getOB_keys_mono (r : Relay) (s t : Nat) (h : t ∈ r.keys) : t ∈ (getOB r s).keys := by
  unfold getOB; split <;> simp [*]

theorem getOB_good0 {r : Relay} (h : Good0 r) (s : Nat) : Good0 (getOB r s) := by
  unfold getOB
  split
  · exact h
  · rename_i hs
    obtain ⟨hq, hacc, hwu⟩ := h.nokey s hs
    have hem : onS s r.emitted = [] := by simpa [hq, hacc] using h.conserve s
    refine good0_local h s (fun _ _ => rfl) (fun _ _ => rfl) rfl (fun t ht => by simp [ht]) (fun _ _ => rfl) rfl rfl
      ⟨by simp, by simp, by simp [hem, hacc], fun _ => ?_⟩ h.ledgerC h.connNonneg
    simp [hem, hwu]; omega

theorem push_good0 {r : Relay} (h : Good0 r) (f : QFrame) (hk : f.sid ∈ r.keys) : Good0 (push r f) := by
  refine good0_local h f.sid (fun _ _ => rfl) (fun t ht => by simp [push, onS, Ne.symm ht]) rfl
    (fun _ _ => Iff.rfl) (fun _ _ => rfl) rfl rfl ⟨?_, fun hn => absurd hk hn, ?_, fun _ => ?_⟩ h.ledgerC h.connNonneg
  · intro g hg
    simp only [push, setOB_same, List.mem_append, List.mem_singleton] at hg
    rcases hg with hg | rfl
    · exact h.sidq _ g hg
    · rfl
  · have := h.conserve f.sid
    simp only [push, setOB_same, onS_append, ← List.append_assoc, this]
    simp [onS]
  · simpa [push] using ⟨h.ledgerS _ hk, h.winLower _ hk⟩

theorem enqueue_good0 {r : Relay} (h : Good0 r) (f : QFrame) : Good0 (enqueue r f) :=
  emitStream_good0 (push_good0 (getOB_good0 h f.sid) f (getOB_keys r f.sid)) f.sid

theorem sendQueued_good0 {r : Relay} (h : Good0 r) (order : List Nat) : Good0 (sendQueued r order) :=
  List.foldlRecOn order emitStream (motive := Good0) h fun _ h s _ => emitStream_good0 h s

theorem addWin_good0 {r : Relay} (h : Good0 r) (s : Nat) (inc : Nat) (hk : s ∈ r.keys) :
    Good0 (addWin r s inc) := by
  refine good0_local h s (fun _ _ => rfl) (fun _ _ => rfl) rfl (fun _ _ => Iff.rfl)
    (fun t ht => by simp [addWin, ht]) rfl rfl
    ⟨by simpa [addWin] using h.sidq s, fun hn => absurd hk hn, by simpa [addWin] using h.conserve s, fun _ => ?_⟩
    h.ledgerC h.connNonneg
  have := h.ledgerS s hk
  have := h.winLower s hk
  simp [addWin]; omega

theorem foldl_enqueue_good0 {r : Relay} (h : Good0 r) (fs : List QFrame) : Good0 (fs.foldl enqueue r) :=
  List.foldlRecOn fs enqueue (motive := Good0) h fun _ h f _ => enqueue_good0 h f

theorem good0_setInitWin {r : Relay} (h : Good0 r) (v : Nat) :
    Good0 { r with initWin := v,
                   ob := fun t => if t ∈ r.keys then ⟨(r.ob t).win + ((v : Int) - r.initWin), (r.ob t).q⟩ else r.ob t,
                   lowered := r.lowered + (-((v : Int) - r.initWin)).toNat } := by
  refine (good0_iff _).mpr ⟨fun t => ?_, h.ledgerC, h.connNonneg⟩
  obtain ⟨a1, a2, a3, a4⟩ := ((good0_iff r).mp h).1 t
  by_cases ht : t ∈ r.keys
  · have := a4 ht
    simp only [GoodAt, if_pos ht]
    exact ⟨a1, fun hn => absurd ht hn, a3, fun _ => by omega⟩
  · simp only [GoodAt, if_neg ht]
    exact ⟨a1, a2, a3, fun hk => absurd hk ht⟩

theorem good0_addConn {r : Relay} (h : Good0 r) (inc : Nat) :
    Good0 { r with connWin := r.connWin + inc, wuConn := r.wuConn + inc } :=
  { h with
    ledgerC := by
      have := h.ledgerC
      show flow r.emitted + (r.connWin + inc) = 65535 + (r.wuConn + inc)
      omega
    connNonneg := by
      have := h.connNonneg
      show 0 ≤ r.connWin + inc
      omega }

/-- `Good0` reads none of these four fields. -/
theorem Good0.frame {r : Relay} (h : Good0 r) (n m : Nat) (w : List Ctl) (c : List (Nat × Nat)) :
    Good0 { r with nextStamp := n, maxFrame := m, wrote := w, creditDue := c } :=
  { h with }

theorem rstep_good0 {r : Relay} (h : Good0 r) (i : RIn) : Good0 (rstep r i) := by
  cases i with
  | data sid payload es => exact foldl_enqueue_good0 (getOB_good0 h sid) _
  | header | push => exact enqueue_good0 (h.frame (r.nextStamp + 1) _ _ _) _
  | priority | rst => exact enqueue_good0 h _
  | ctl | maxFrame => exact h.frame ..
  | credit sid flow =>
    simp only [rstep]
    split
    · exact h
    · exact h.frame ..
  | windowUpdate sid inc order =>
    simp only [rstep]
    apply emitStream_good0
    apply addWin_good0 _ _ _ (getOB_keys _ _)
    apply getOB_good0
    split
    · exact sendQueued_good0 (good0_addConn h inc) order
    · exact h
  | initWin v order => exact sendQueued_good0 (good0_setInitWin h v) order

def StuckAt (r : Relay) (t : Nat) : Prop := Stuck r.connWin (r.ob t).win (r.ob t).q
/-- Nothing that could leave is waiting: so it is between two admissible inputs (`run_invariant`). -/
def AllStuck (r : Relay) : Prop := ∀ t, StuckAt r t

theorem emitStream_stuck (r : Relay) (s t : Nat) (h : StuckAt r t ∨ t = s) : StuckAt (emitStream r s) t := by
  obtain ⟨conn', w', q', out, e, -, hconn, -, hst, -, -⟩ := emitStream_spec r s
  rw [e]
  by_cases hts : t = s
  · subst hts; simpa [StuckAt] using hst
  · have hle : conn' ≤ r.connWin := by have := flow_nonneg out; omega
    simpa [StuckAt, setOB_other _ _ _ hts] using stuck_mono hle (h.resolve_right hts)

theorem sendQueued_stuck (r : Relay) (order : List Nat) (t : Nat) (h : StuckAt r t ∨ t ∈ order) :
    StuckAt (sendQueued r order) t := by
  induction order generalizing r with
  | nil => simpa [sendQueued] using h
  | cons s rest ih =>
    rw [List.mem_cons, ← or_assoc] at h
    exact ih _ (h.imp_left (emitStream_stuck r s t))

@[simp] theorem emitStream_keys (r : Relay) (s : Nat) : (emitStream r s).keys = r.keys := rfl
@[simp] theorem sendQueued_keys (r : Relay) (order : List Nat) : (sendQueued r order).keys = r.keys :=
  List.foldlRecOn order emitStream (motive := fun r' : Relay => r'.keys = r.keys) rfl fun _ h _ _ => h

theorem getOB_stuck (r : Relay) (s t : Nat) (h : StuckAt r t) : StuckAt (getOB r s) t := by
  unfold getOB
  split
  · exact h
  · by_cases hts : t = s
    · subst hts; simp [StuckAt, Stuck]
    · simpa [StuckAt, setOB_other _ _ _ hts] using h

theorem emitStream_allstuck {r : Relay} (s : Nat) (h : ∀ t, t ≠ s → StuckAt r t) : AllStuck (emitStream r s) :=
  fun t => emitStream_stuck r s t (Decidable.or_iff_not_imp_right.mpr (h t))

theorem enqueue_allstuck {r : Relay} (h : AllStuck r) (f : QFrame) : AllStuck (enqueue r f) :=
  emitStream_allstuck f.sid fun t hts => by
    simpa [StuckAt, push, setOB_other _ _ _ hts] using getOB_stuck r f.sid t (h t)

theorem foldl_enqueue_allstuck {r : Relay} (h : AllStuck r) (fs : List QFrame) : AllStuck (fs.foldl enqueue r) :=
  List.foldlRecOn fs enqueue (motive := AllStuck) h fun _ h f _ => enqueue_allstuck h f

/-- The map iteration of a pass visits every output buffer. -/
def OkIn (r : Relay) : RIn → Prop
  | .windowUpdate 0 _ order => ∀ t ∈ r.keys, t ∈ order
  | .initWin _ order => ∀ t ∈ r.keys, t ∈ order
  | _ => True

theorem sendQueued_allstuck {r : Relay} (h0 : Good0 r) (order : List Nat) (hcov : ∀ t ∈ r.keys, t ∈ order) :
    AllStuck (sendQueued r order) := by
  intro t
  by_cases ht : t ∈ r.keys
  · exact sendQueued_stuck r order t (Or.inr (hcov t ht))
  · have := (sendQueued_good0 h0 order).nokey t (by simpa using ht)
    simp [StuckAt, Stuck, this.1]

theorem rstep_allstuck {r : Relay} (h0 : Good0 r) (h : AllStuck r) (i : RIn) (hok : OkIn r i) :
    AllStuck (rstep r i) := by
  cases i with
  | data sid payload es => exact foldl_enqueue_allstuck (fun t => getOB_stuck r sid t (h t)) _
  | header | push => exact enqueue_allstuck (r := { r with nextStamp := r.nextStamp + 1 }) h _
  | priority | rst => exact enqueue_allstuck h _
  | ctl | maxFrame => exact h
  | credit sid flow =>
    simp only [rstep]
    split <;> exact h
  | windowUpdate sid inc order =>
    simp only [rstep]
    have key : ∀ r1 : Relay, AllStuck r1 → AllStuck (emitStream (addWin (getOB r1 sid) sid inc) sid) :=
      fun r1 h1 => emitStream_allstuck sid fun t hts => by
        simpa [StuckAt, addWin, setOB_other _ _ _ hts] using getOB_stuck r1 sid t (h1 t)
    apply key
    split
    · rename_i hz
      subst hz
      exact sendQueued_allstuck (good0_addConn h0 inc) order hok
    · exact h
  | initWin v order => exact sendQueued_allstuck (good0_setInitWin h0 v) order hok

@[simp] theorem emitStream_wu (r : Relay) (s : Nat) : (emitStream r s).wu = r.wu := rfl
@[simp] theorem push_wu (r : Relay) (f : QFrame) : (push r f).wu = r.wu := rfl
@[simp] theorem emitStream_wuConn (r : Relay) (s : Nat) : (emitStream r s).wuConn = r.wuConn := rfl
@[simp] theorem push_wuConn (r : Relay) (f : QFrame) : (push r f).wuConn = r.wuConn := rfl
@[simp] theorem emitStream_wrote (r : Relay) (s : Nat) : (emitStream r s).wrote = r.wrote := rfl
@[simp] theorem push_wrote (r : Relay) (f : QFrame) : (push r f).wrote = r.wrote := rfl
@[simp] theorem emitStream_creditDue (r : Relay) (s : Nat) : (emitStream r s).creditDue = r.creditDue := rfl
@[simp] theorem push_creditDue (r : Relay) (f : QFrame) : (push r f).creditDue = r.creditDue := rfl
@[simp] theorem emitStream_maxFrame (r : Relay) (s : Nat) : (emitStream r s).maxFrame = r.maxFrame := rfl
@[simp] theorem push_maxFrame (r : Relay) (f : QFrame) : (push r f).maxFrame = r.maxFrame := rfl
@[simp] theorem emitStream_nextStamp (r : Relay) (s : Nat) : (emitStream r s).nextStamp = r.nextStamp := rfl
@[simp] theorem push_nextStamp (r : Relay) (f : QFrame) : (push r f).nextStamp = r.nextStamp := rfl
@[simp] theorem emitStream_initWin (r : Relay) (s : Nat) : (emitStream r s).initWin = r.initWin := rfl
@[simp] theorem push_initWin (r : Relay) (f : QFrame) : (push r f).initWin = r.initWin := rfl
@[simp] theorem emitStream_lowered (r : Relay) (s : Nat) : (emitStream r s).lowered = r.lowered := rfl
@[simp] theorem push_lowered (r : Relay) (f : QFrame) : (push r f).lowered = r.lowered := rfl

/-- The part of a relay that the queue operations leave alone. Inputs act on it without reading
the queues (`Ctx.step`); what `rstep` does to one of these fields is read off `rstep_ctx` (`rstep_maxFrame`). -/
structure Ctx where
  maxFrame : Nat
  initWin : Nat
  nextStamp : Nat
  wrote : List Ctl
  wu : Nat → Int
  wuConn : Int
  lowered : Nat
  creditDue : List (Nat × Nat)

def Relay.ctx (r : Relay) : Ctx :=
  ⟨r.maxFrame, r.initWin, r.nextStamp, r.wrote, r.wu, r.wuConn, r.lowered, r.creditDue⟩

@[simp] theorem emitStream_ctx (r : Relay) (s : Nat) : (emitStream r s).ctx = r.ctx := rfl
@[simp] theorem push_ctx (r : Relay) (f : QFrame) : (push r f).ctx = r.ctx := rfl
@[simp] theorem getOB_ctx (r : Relay) (s : Nat) : (getOB r s).ctx = r.ctx := by unfold getOB; split <;> rfl
@[simp] theorem enqueue_ctx (r : Relay) (f : QFrame) : (enqueue r f).ctx = r.ctx := by simp [enqueue]
@[simp] theorem sendQueued_ctx (r : Relay) (order : List Nat) : (sendQueued r order).ctx = r.ctx :=
  List.foldlRecOn order emitStream (motive := fun r' : Relay => r'.ctx = r.ctx) rfl fun _ h _ _ => h
@[simp] theorem foldl_enqueue_ctx (r : Relay) (fs : List QFrame) : (fs.foldl enqueue r).ctx = r.ctx :=
  List.foldlRecOn fs enqueue (motive := fun r' : Relay => r'.ctx = r.ctx) rfl fun r' h f _ => (enqueue_ctx r' f).trans h
theorem addWin_ctx (r : Relay) (s : Nat) (inc : Int) :
    (addWin r s inc).ctx = { r.ctx with wu := fun t => if t = s then r.ctx.wu t + inc else r.ctx.wu t } := rfl

def Ctx.step (c : Ctx) : RIn → Ctx
  | .header .. | .push .. => { c with nextStamp := c.nextStamp + 1 }
  | .ctl x => { c with wrote := c.wrote ++ [x] }
  | .credit sid flow =>
    { c with wrote := c.wrote ++ (if flow = 0 then [] else [.windowUpdate 0 flow, .windowUpdate sid flow]),
             creditDue := c.creditDue ++ (if flow = 0 then [] else [(sid, flow)]) }
  | .windowUpdate sid inc _ =>
    { c with wu := fun t => if t = sid then c.wu t + inc else c.wu t,
             wuConn := if sid = 0 then c.wuConn + inc else c.wuConn }
  | .initWin v _ => { c with initWin := v, lowered := c.lowered + (-((v : Int) - c.initWin)).toNat }
  | .maxFrame v => { c with maxFrame := v }
  | _ => c

theorem rstep_ctx (r : Relay) (i : RIn) : (rstep r i).ctx = r.ctx.step i := by
  cases i with
  | credit sid flow => simp only [rstep, Ctx.step]; split <;> simp [Relay.ctx]
  | windowUpdate sid inc order =>
    simp only [rstep, emitStream_ctx, addWin_ctx, getOB_ctx, Ctx.step]
    by_cases h : sid = 0
    · simp only [if_pos h, sendQueued_ctx]; rfl
    · simp only [if_neg h]
  | data sid payload es => exact (foldl_enqueue_ctx _ _).trans (getOB_ctx r sid)
  | header | push | priority | rst => exact enqueue_ctx _ _
  | initWin v order => exact sendQueued_ctx _ _
  | ctl | maxFrame => rfl

theorem rstep_maxFrame (r : Relay) (i : RIn) :
    (rstep r i).maxFrame = (match i with | .maxFrame v => v | _ => r.maxFrame) := by
  show (rstep r i).ctx.maxFrame = _
  rw [rstep_ctx]
  cases i <;> rfl

theorem rstep_initWin (r : Relay) (i : RIn) :
    (rstep r i).initWin = (match i with | .initWin v _ => v | _ => r.initWin) := by
  show (rstep r i).ctx.initWin = _
  rw [rstep_ctx]
  cases i <;> rfl

@[simp] theorem sendQueued_creditDue (r : Relay) (order : List Nat) : (sendQueued r order).creditDue = r.creditDue :=
  congrArg Ctx.creditDue (sendQueued_ctx r order)
@[simp] theorem foldl_enqueue_creditDue (r : Relay) (fs : List QFrame) : (fs.foldl enqueue r).creditDue = r.creditDue :=
  congrArg Ctx.creditDue (foldl_enqueue_ctx r fs)
@[simp] theorem sendQueued_lowered (r : Relay) (order : List Nat) : (sendQueued r order).lowered = r.lowered :=
  congrArg Ctx.lowered (sendQueued_ctx r order)
@[simp] theorem foldl_enqueue_lowered (r : Relay) (fs : List QFrame) : (fs.foldl enqueue r).lowered = r.lowered :=
  congrArg Ctx.lowered (foldl_enqueue_ctx r fs)

@[simp] theorem emitStream_accepted (r : Relay) (s : Nat) : (emitStream r s).accepted = r.accepted := rfl
@[simp] theorem getOB_accepted (r : Relay) (s : Nat) : (getOB r s).accepted = r.accepted := by unfold getOB; split <;> rfl
@[simp] theorem sendQueued_accepted (r : Relay) (order : List Nat) : (sendQueued r order).accepted = r.accepted :=
  List.foldlRecOn order emitStream (motive := fun r' : Relay => r'.accepted = r.accepted) rfl fun _ h _ _ => h
@[simp] theorem enqueue_accepted (r : Relay) (f : QFrame) : (enqueue r f).accepted = r.accepted ++ [f] := by
  simp [enqueue, push]
@[simp] theorem foldl_enqueue_accepted (r : Relay) (fs : List QFrame) : (fs.foldl enqueue r).accepted = r.accepted ++ fs := by
  induction fs generalizing r with
  | nil => simp
  | cons f rest ih => simp [ih]

/-- Admissible input of a relay in state `r`: a map pass visits every output buffer (in any
order, repetitions allowed); direct writes are SETTINGS / PING / GOAWAY, never WINDOW_UPDATE
(those are only produced as credit, by `RIn.credit`). -/
def OkStep (r : Relay) (i : RIn) : Prop := OkIn r i ∧ ∀ s n, i ≠ .ctl (.windowUpdate s n)

def OkRun : Relay → List RIn → Prop
  | _, [] => True
  | r, i :: is => OkStep r i ∧ OkRun (rstep r i) is

theorem run_invariant {r : Relay} (is : List RIn) (h0 : Good0 r) (h1 : AllStuck r) (hok : OkRun r is) :
    Good0 (run r is) ∧ AllStuck (run r is) := by
  induction is generalizing r with
  | nil => exact ⟨h0, h1⟩
  | cons i is ih =>
    exact ih (rstep_good0 h0 i) (rstep_allstuck h0 h1 i hok.1.1) hok.2

theorem allstuck_init : AllStuck ({} : Relay) := by intro t; simp [StuckAt, Stuck]

/-- Frames a relay input adds to the output queues. -/
def acceptedOf (r : Relay) : RIn → List QFrame
  | .data sid payload es => mkData sid es (dataChunks r.maxFrame payload.length payload)
  | .header sid fields es prio encoded =>
    [.headers sid es prio r.nextStamp fields
      (splitIntoChunks (r.maxFrame - (if prio.isZero then 0 else 5)) r.maxFrame encoded)]
  | .push sid promised fields encoded =>
    [.push sid promised r.nextStamp fields (splitIntoChunks (r.maxFrame - 4) r.maxFrame encoded)]
  | .priority sid p => [.priority sid p]
  | .rst sid code => [.rst sid code]
  | _ => []

theorem rstep_accepted (r : Relay) (i : RIn) : (rstep r i).accepted = r.accepted ++ acceptedOf r i := by
  cases i with
  | credit sid flow => simp only [rstep, acceptedOf]; split <;> simp
  | windowUpdate sid inc order =>
    simp only [rstep, acceptedOf, emitStream_accepted]
    have : ∀ r1 : Relay, (addWin (getOB r1 sid) sid inc).accepted = r1.accepted := by intro r1; simp [addWin]
    rw [this]; split <;> simp
  | _ => simp [rstep, acceptedOf]

/-- Executable form of the admissibility hypothesis. -/
def okStepB (r : Relay) : RIn → Bool
  | .windowUpdate 0 _ order => r.keys.all (fun t => order.contains t)
  | .initWin _ order => r.keys.all (fun t => order.contains t)
  | .ctl (.windowUpdate _ _) => false
  | _ => true

def okRunB : Relay → List RIn → Bool
  | _, [] => true
  | r, i :: is => okStepB r i && okRunB (rstep r i) is

theorem okStepB_sound (r : Relay) (i : RIn) (h : okStepB r i = true) : OkStep r i := by
  refine ⟨?_, fun s n hi => by subst hi; cases h⟩
  unfold OkIn
  split
  · simpa [okStepB] using h
  · simpa [okStepB] using h
  · trivial

theorem okRunB_sound (r : Relay) (is : List RIn) (h : okRunB r is = true) : OkRun r is := by
  induction is generalizing r with
  | nil => trivial
  | cons i is ih =>
    simp only [okRunB, Bool.and_eq_true] at h
    exact ⟨okStepB_sound r i h.1, ih _ h.2⟩

/-- The encode stamps of the header blocks (HEADERS, PUSH_PROMISE) among `l`, in order. -/
def blocks (l : List QFrame) : List Nat := l.filterMap QFrame.stamp?

@[simp] theorem blocks_nil : blocks [] = [] := rfl
@[simp] theorem blocks_append (a b : List QFrame) : blocks (a ++ b) = blocks a ++ blocks b := by simp [blocks]

/-- All queued header blocks sit on one stream and, after the emitted ones, count up to `n`. -/
def BlocksUpTo (r : Relay) (n : Nat) : Prop :=
  ∃ s0, (∀ t, t ≠ s0 → blocks (r.ob t).q = []) ∧ blocks r.emitted ++ blocks (r.ob s0).q = List.range n

theorem BlocksUpTo.congr {r r' : Relay} {n : Nat} (hq : ∀ t, blocks (r'.ob t).q = blocks (r.ob t).q)
    (he : blocks r'.emitted = blocks r.emitted) (h : BlocksUpTo r n) : BlocksUpTo r' n := by
  obtain ⟨s0, h1, h2⟩ := h
  exact ⟨s0, fun t ht => by rw [hq]; exact h1 t ht, by rw [he, hq]; exact h2⟩

theorem emitStream_blocksUpTo {r : Relay} {n : Nat} (h : BlocksUpTo r n) (s : Nat) : BlocksUpTo (emitStream r s) n := by
  obtain ⟨conn', w', q', out, e, hcat, -⟩ := emitStream_spec r s
  have hb : blocks out ++ blocks q' = blocks (r.ob s).q := by rw [← blocks_append, hcat]
  obtain ⟨s0, h1, h2⟩ := h
  rw [e]
  refine ⟨s0, fun t ht => ?_, ?_⟩
  · by_cases hts : t = s
    · subst hts
      rw [h1 t ht, List.append_eq_nil_iff] at hb
      simpa using hb.2
    · simpa [setOB_other _ _ _ hts] using h1 t ht
  · by_cases hs0 : s0 = s
    · subst hs0
      simpa [hb, List.append_assoc] using h2
    · rw [h1 s (Ne.symm hs0), List.append_eq_nil_iff] at hb
      simpa [setOB_other _ _ _ hs0, hb.1] using h2

theorem sendQueued_blocksUpTo {r : Relay} {n : Nat} (h : BlocksUpTo r n) (order : List Nat) :
    BlocksUpTo (sendQueued r order) n :=
  List.foldlRecOn order emitStream (motive := (BlocksUpTo · n)) h fun _ h s _ => emitStream_blocksUpTo h s

theorem getOB_q {r : Relay} (hg : Good0 r) (s t : Nat) : ((getOB r s).ob t).q = (r.ob t).q := by
  unfold getOB
  split
  · rfl
  · rename_i hs
    by_cases hts : t = s
    · subst hts; simp [(hg.nokey t hs).1]
    · simp [setOB_other _ _ _ hts]

theorem getOB_emitted (r : Relay) (s : Nat) : (getOB r s).emitted = r.emitted := by
  unfold getOB; split <;> rfl

theorem getOB_blocksUpTo {r : Relay} {n : Nat} (hg : Good0 r) (h : BlocksUpTo r n) (s : Nat) : BlocksUpTo (getOB r s) n :=
  BlocksUpTo.congr (fun t => congrArg blocks (getOB_q hg s t)) (congrArg blocks (getOB_emitted r s)) h

theorem pushed_blocks {r : Relay} (hg : Good0 r) (f : QFrame) (t : Nat) :
    blocks ((push (getOB r f.sid) f).ob t).q = blocks (r.ob t).q ++ (if t = f.sid then blocks [f] else []) := by
  by_cases hts : t = f.sid
  · subst hts; simp [push, getOB_q hg]
  · simp [push, setOB_other _ _ _ hts, getOB_q hg, hts]

theorem enqueue_blocksUpTo_plain {r : Relay} {n : Nat} (hg : Good0 r) (h : BlocksUpTo r n) (f : QFrame)
    (hf : f.stamp? = none) :
    BlocksUpTo (enqueue r f) n := by
  have hbf : blocks [f] = [] := by simp [blocks, hf]
  refine emitStream_blocksUpTo (r := push (getOB r f.sid) f) (BlocksUpTo.congr (fun t => ?_) ?_ h) f.sid
  · rw [pushed_blocks hg, hbf, ite_self, List.append_nil]
  · exact congrArg blocks (getOB_emitted r f.sid)

theorem enqueue_blocksUpTo_stamped {r : Relay} {n : Nat} (hg : Good0 r) (h : BlocksUpTo r n) (f : QFrame)
    (hf : f.stamp? = some n)
    (hsafe : ∀ t, t ≠ f.sid → blocks (r.ob t).q = []) : BlocksUpTo (enqueue r f) (n + 1) := by
  obtain ⟨s0, h1, h2⟩ := h
  have hbf : blocks [f] = [n] := by simp [blocks, hf]
  have hbase : blocks r.emitted ++ blocks (r.ob f.sid).q = List.range n := by
    by_cases hts : s0 = f.sid
    · exact hts ▸ h2
    · rw [h1 f.sid (Ne.symm hts)]; rwa [hsafe s0 hts] at h2
  refine emitStream_blocksUpTo ⟨f.sid, fun t ht => ?_, ?_⟩ f.sid
  · rw [pushed_blocks hg, if_neg ht, hsafe t ht]; rfl
  · show blocks (getOB r f.sid).emitted ++ _ = _
    rw [pushed_blocks hg, if_pos rfl, hbf, getOB_emitted, ← List.append_assoc, hbase, List.range_succ]

theorem mkData_concat (sid : Nat) (es : Bool) (cs : List Bytes) (c : Bytes) :
    mkData sid es (cs ++ [c]) = cs.map (.data sid false) ++ [.data sid es c] := by
  induction cs with
  | nil => rfl
  | cons a cs ih => cases cs <;> simp_all [mkData]

theorem mem_mkData {sid : Nat} {es : Bool} {cs : List Bytes} {f : QFrame} (h : f ∈ mkData sid es cs) :
    ∃ c ∈ cs, ∃ e, f = .data sid e c := by
  rcases List.eq_nil_or_concat cs with rfl | ⟨cs, c, rfl⟩
  · simp [mkData] at h
  · simp only [List.concat_eq_append, mkData_concat, List.mem_append, List.mem_map, List.mem_singleton] at h ⊢
    rcases h with ⟨a, ha, rfl⟩ | rfl
    · exact ⟨a, by simp [ha], false, rfl⟩
    · exact ⟨c, by simp, es, rfl⟩

/-- The F08b class is excluded: a header block is HPACK-encoded only when no block encoded
earlier is still queued on another stream. -/
def SafeIn (r : Relay) : RIn → Prop
  | .header sid _ _ _ _ => ∀ t ∈ r.keys, t ≠ sid → blocks (r.ob t).q = []
  | .push sid _ _ _ => ∀ t ∈ r.keys, t ≠ sid → blocks (r.ob t).q = []
  | _ => True

theorem rstep_blocksUpTo {r : Relay} (hg : Good0 r) (h : BlocksUpTo r r.nextStamp) (i : RIn) (hs : SafeIn r i) :
    BlocksUpTo (rstep r i) (rstep r i).nextStamp := by
  show BlocksUpTo _ (rstep r i).ctx.nextStamp
  rw [rstep_ctx]
  cases i with
  | data sid payload es =>
    refine (List.foldlRecOn _ enqueue (motive := fun r' => Good0 r' ∧ BlocksUpTo r' r.nextStamp)
      ⟨getOB_good0 hg sid, getOB_blocksUpTo hg h sid⟩ fun _ h f hf => ?_).2
    obtain ⟨c, -, e, rfl⟩ := mem_mkData hf
    exact ⟨enqueue_good0 h.1 _, enqueue_blocksUpTo_plain h.1 h.2 _ rfl⟩
  | header | push =>
    refine enqueue_blocksUpTo_stamped (hg.frame (r.nextStamp + 1) _ _ _) h _ rfl fun t ht => ?_
    by_cases htk : t ∈ r.keys
    · exact hs t htk ht
    · simp [(hg.nokey t htk).1]
  | priority | rst => exact enqueue_blocksUpTo_plain hg h _ rfl
  | ctl | maxFrame => exact h
  | credit sid flow =>
    simp only [rstep]
    split <;> exact h
  | windowUpdate sid inc order =>
    apply emitStream_blocksUpTo
    have key : ∀ r1 : Relay, Good0 r1 → BlocksUpTo r1 r.nextStamp →
        BlocksUpTo (addWin (getOB r1 sid) sid inc) r.nextStamp := by
      intro r1 hg1 h1
      refine BlocksUpTo.congr (r := getOB r1 sid) ?_ rfl (getOB_blocksUpTo hg1 h1 sid)
      intro t
      by_cases hts : t = sid
      · subst hts; simp [addWin]
      · simp [addWin, setOB_other _ _ _ hts]
    split
    · exact key _ (sendQueued_good0 (good0_addConn hg inc) order)
        (sendQueued_blocksUpTo (r := { r with connWin := r.connWin + inc, wuConn := r.wuConn + inc }) h order)
    · exact key r hg h
  | initWin v order =>
    apply sendQueued_blocksUpTo
    refine BlocksUpTo.congr (r := r) ?_ rfl h
    intro t
    simp only
    split <;> rfl

theorem prefix_of_range {a b : List Nat} {n : Nat} (h : a ++ b = List.range n) :
    a = List.range a.length ∧ a.length ≤ n := by
  have hlen : a.length ≤ n := by
    have := congrArg List.length h
    simp at this; omega
  have : a = (List.range n).take a.length := by rw [← h]; simp
  refine ⟨?_, hlen⟩
  rw [this, List.take_range]
  simp [Nat.min_eq_left hlen]

theorem dispatchAll_append (d : DState) (a b : List Frame) :
    dispatchAll d (a ++ b) =
      ((dispatchAll (dispatchAll d a).1 b).1, (dispatchAll d a).2 ++ (dispatchAll (dispatchAll d a).1 b).2) := by
  induction a generalizing d with
  | nil => simp [dispatchAll]
  | cons f a ih => simp [dispatchAll, ih, List.append_assoc]

/-- What `continuationState.complete` calls once the block is whole. -/
def completeCall (c : Cont) (sid : Nat) (block : Bytes) : Call :=
  match c with
  | .hdr prio es => .header sid block es prio
  | .push promised => .pushPromise sid promised block
  | .none => .nilContinuation

theorem dispatchAll_conts (buf : Bytes) (c : Cont) (sid : Nat) (mid : List Bytes) (last : Bytes) :
    dispatchAll ⟨buf, c⟩ (mid.map (Frame.continuation sid false) ++ [.continuation sid true last]) =
      (⟨buf ++ mid.flatten ++ last, c⟩, [completeCall c sid (buf ++ mid.flatten ++ last)]) := by
  induction mid generalizing buf with
  | nil => cases c <;> simp [dispatchAll, dispatch, completeCall]
  | cons m rest ih =>
    simp only [List.map_cons, List.cons_append, dispatchAll, dispatch]
    simp only [Bool.false_eq_true, if_false]
    rw [ih]
    simp [List.append_assoc]

end Martian.H2Relay
