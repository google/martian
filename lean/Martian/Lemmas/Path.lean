import Martian.Go.Path
/-! Lemmas about the component stack of `filepath.Clean` (`cleanStep`, `cleanComps` of `Go/Path.lean`). -/
namespace Martian.Go
open Martian

/-- A component that `Clean` keeps verbatim. -/
def Plain (c : Bytes) : Prop := c ≠ [] ∧ c ≠ dot ∧ c ≠ dotdot

theorem cleanStep_rooted_mem (stk : List Bytes) (c : Bytes) :
    ∀ x ∈ cleanStep true stk c, x ∈ stk ∨ (x = c ∧ Plain c) := by
  fun_cases cleanStep true stk c
  case case1 | case2 => exact fun x hx => .inl hx
  case case3 h => exact absurd rfl h
  case case4 top rest h =>
    rw [eq_of_beq h]
    exact fun x hx => .inl (by simpa using hx)
  case case5 => exact fun x hx => .inl (List.mem_cons_of_mem _ hx)
  case case6 h1 h2 =>
    intro x hx
    rcases List.mem_cons.1 hx with rfl | hx
    · simp only [Bool.or_eq_true, beq_iff_eq, not_or] at h1 h2
      exact .inr ⟨rfl, h1.1, h1.2, h2⟩
    · exact .inl hx

theorem cleanComps_rooted (cs : List Bytes) : ∀ x ∈ cleanComps true cs, x ∈ cs ∧ Plain x := by
  suffices h : ∀ stk, ∀ x ∈ cs.foldl (cleanStep true) stk, x ∈ stk ∨ (x ∈ cs ∧ Plain x) from
    fun x hx => (h [] x (List.mem_reverse.1 hx)).resolve_left List.not_mem_nil
  induction cs with
  | nil => exact fun stk x hx => .inl hx
  | cons c r ih =>
    intro stk x hx
    rcases ih _ x hx with h | h
    · rcases cleanStep_rooted_mem stk c x h with h | ⟨rfl, h⟩
      · exact .inl h
      · exact .inr ⟨List.mem_cons_self, h⟩
    · exact .inr ⟨List.mem_cons_of_mem _ h.1, h.2⟩

theorem cleanStep_plain (r : Bool) (stk : List Bytes) (c : Bytes) (hc : Plain c) :
    cleanStep r stk c = c :: stk := by
  obtain ⟨h1, h2, h3⟩ := hc
  simp [cleanStep, h1, h2, h3]

theorem cleanComps_plain (r : Bool) (cs : List Bytes) (h : ∀ x ∈ cs, Plain x) :
    cleanComps r cs = cs := by
  suffices hf : ∀ stk, cs.foldl (cleanStep r) stk = cs.reverse ++ stk by simp [cleanComps, hf]
  induction cs with
  | nil => simp
  | cons c rest ih =>
    obtain ⟨hc, hrest⟩ := List.forall_mem_cons.1 h
    simp [cleanStep_plain r _ c hc, ih hrest]

/-- Empty components (doubled or trailing slashes) are invisible to cleaning. -/
theorem cleanComps_filter (r : Bool) (cs : List Bytes) :
    cleanComps r (cs.filter (· ≠ [])) = cleanComps r cs := by
  suffices hf : ∀ stk, (cs.filter (· ≠ [])).foldl (cleanStep r) stk = cs.foldl (cleanStep r) stk by
    rw [cleanComps, hf, cleanComps]
  induction cs with
  | nil => exact fun _ => rfl
  | cons c rest ih =>
    intro stk
    by_cases hc : c = []
    · simpa [hc, cleanStep] using ih stk
    · simpa [hc] using ih _

end Martian.Go
