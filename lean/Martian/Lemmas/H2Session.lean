import Martian.Lemmas.H2Step
/-! Lemmas about the relay-session model: ranking function, invariant, disabledness facts. -/
namespace Martian.H2Session

variable {s s' : Sys} {l : Label} {d t : Dir} {r : Rd} {f g : Side → Side}

@[simp] theorem wt_gone : Rd.gone.wt = 0 := rfl
@[simp] theorem wt_exiting : Rd.exiting.wt = 1 := rfl
@[simp] theorem wt_selReading : Rd.selReading.wt = 4 := rfl
theorem wt_lockWait (t n wr) : (Rd.lockWait t n wr).wt = (if wr then 8 else 6) + 4*n := by
  cases wr <;> simp [Rd.wt]
theorem wt_pushing (t n wr) : (Rd.pushing t n wr).wt = (if wr then 7 else 5) + 4*n := by
  cases wr <;> simp [Rd.wt]
theorem wt_mWait (t k) : (Rd.mWait t k).wt = (match k with | none => 6 | some n => 8 + 4*n) := by
  cases k <;> simp [Rd.wt]
theorem wt_mHold (t k) : (Rd.mHold t k).wt = (match k with | none => 5 | some n => 7 + 4*n) := by
  cases k <;> simp [Rd.wt]

theorem wt_selReady_ge (r : Res) : 3 ≤ (Rd.selReady r).wt := by
  rcases r with (w | _ | _)
  · rcases w with (n | n | n | n | _ | _ | _)
    all_goals simp [Rd.wt]
    all_goals omega
  all_goals simp [Rd.wt]

theorem wt_afterTake_lt (d : Dir) (r : Res) : (afterTake d r).wt < (Rd.selReady r).wt := by
  fun_cases afterTake d r <;> simp [Rd.wt]

theorem wt_afterWrite_lt (d t : Dir) (k : Option Nat) (f : Bool) : (afterWrite d k f).wt < (Rd.mHold t k).wt := by
  cases k <;> cases f <;> simp [afterWrite, Rd.wt] <;> omega

theorem mu_upd (s : Sys) (d : Dir) (f : Side → Side) : mu (s.upd d f) + (s.side d).wt = mu s + (f (s.side d)).wt := by
  cases d <;> simp only [mu, Sys.upd, Sys.setSide, Sys.side] <;> ac_rfl

theorem mu_upd2_lt (k : Nat) (h : (f (s.side d)).wt + k < (s.side d).wt)
    (hg : ∀ y, (g y).wt = y.wt + k := by intros; rfl) : mu (s.upd2 d f t g) < mu s := by
  have e1 := mu_upd s d f
  have e2 := mu_upd (s.upd d f) t g
  rw [hg] at e2
  simp only [Sys.upd2]
  omega

theorem wt_inSelect (h : r.inSelect = true) : 3 ≤ r.wt ∧ (r.isReading = true → r.wt = 4) := by
  cases r <;> simp [Rd.inSelect] at h <;> simp [Rd.isReading]
  exact wt_selReady_ge _

/-- Where the weights come from: a frame in `output` costs its writer three steps (`wTake`, `wLock`, `wDone`),
hence `3 * out` and `Wr.wt`; a reader with `n` frames still to push pays these three and its own `push` for each,
hence `4 * n`; the small constants order a reader's states along one turn of its loop. -/
theorem step_decreases (hp : l.isProc = true) (h : step s l = some s') : mu s' < mu s := by
  cases Step.of_step h <;> (try cases hp) <;> try rw [upd_eq_upd2]
  case rTake d r hr =>
    have := wt_afterTake_lt d r
    apply mu_upd2_lt 0; simp only [Side.wt, hr]; omega
  case rWerr d hr _ | rDone d hr _ =>
    have ⟨h3, h4⟩ := wt_inSelect hr
    apply mu_upd2_lt 0; simp only [Side.wt]
    cases hi : (s.side d).r.isReading <;> simp [hi] at h4 ⊢ <;> omega
  case acquire d t n wr hr _ | mAcquire d t n hr _ =>
    apply mu_upd2_lt 0; simp only [Side.wt, hr, wt_lockWait, wt_pushing, wt_mWait, wt_mHold]; split <;> omega
  case push d t n wr hr _ =>
    refine mu_upd2_lt 3 ?_ fun _ => ?_
    · simp only [Side.wt, hr, wt_pushing]; omega
    · simp only [Side.wt]; omega
  case release d t wr hr => apply mu_upd2_lt 0; cases wr <;> simp [Side.wt, hr, Rd.wt]
  case mDone d t k hr _ =>
    have := wt_afterWrite_lt d t k (s.side t).wfail
    apply mu_upd2_lt 0; simp only [Side.wt, hr]; omega
  case handshake d hr hw =>
    have e : ({ s with done := true } : Sys).side d = s.side d := by cases d <;> rfl
    refine mu_upd2_lt (s := { s with done := true }) 0 ?_
    simp [e, Side.wt, hr]
  case wTake d hr hw ho => apply mu_upd2_lt 0; simp only [Side.wt, hw, Wr.wt]; split <;> omega
  case wLock d hw _ | wDone d hw _ => apply mu_upd2_lt 0; simp [Side.wt, hw, Wr.wt]
  case watchClosing hw hc => simp [mu, hw]
  case watchDone hw hd => simp [mu, hw]
  case ret hc hs hr => simp [mu, hr]
  case rfClosed d hl hc => apply mu_upd2_lt 0; simp [Side.wt, hl]

/-- Lifecycle of the session: a reader goes only after `done` is closed and leaves its relay's writer idle; the
watcher lives until then; `Proxy` returns only after both readers are gone and closes the server connection as
it does; the client connection is closed only afterwards, by the caller. -/
structure LifeOk (s : Sys) : Prop where
  done_of_gone : ∀ d, (s.side d).r = .gone → s.done = true
  watcher : s.done = false → s.watcher = true
  gone_of_returned : s.returned = true → ∀ d, (s.side d).r = .gone
  scClosed : s.scClosed = s.returned
  ccClosed : s.ccClosed = true → s.returned = true
  idle_of_gone : ∀ d, (s.side d).r = .gone → (s.side d).w = .idle

/-- A mutex with explicit owner `own` (a field of the relay's side), taken by readers: reader `u` is
    inside the critical section of relay `v`'s mutex (`uses`) exactly when it is the recorded owner,
    under the name `who u v`. -/
def Owns {ι : Type} (uses : Rd → Dir → Bool) (own : Side → Option ι) (who : Dir → Dir → ι) (s : Sys) : Prop :=
  ∀ u v, uses (s.side u).r v = true ↔ own (s.side v) = some (who u v)

/-- `flowMu`: owned by the reader that is pushing into that relay's `output`. -/
abbrev FlowOk : Sys → Prop := Owns Rd.isPushing Side.fmu fun u _ => u

/-- `destMu`: owned by the relay's writer inside `f.send`, or by a reader inside a direct write. -/
structure DestOk (s : Sys) : Prop where
  writer : ∀ t, (s.side t).w = .hold ↔ (s.side t).dmu = some .writer
  reader : Owns Rd.holdsDest Side.dmu holderOf s

/-- Invariant of the reachable states (`good_reach`): the lifecycle, and each mutex is held by exactly the
process recorded as its owner. -/
structure Good (s : Sys) : Prop where
  life : LifeOk s
  dest : DestOk s
  flow : FlowOk s

/-- What `LifeOk` (below: `DestOk`, `FlowOk`, `Good`) reads of one side: an update that keeps the view keeps that
part of the invariant. -/
@[simp] def Side.lifeV (x : Side) : Prop × Prop := (x.r = .gone, x.r = .gone → x.w = .idle)
@[simp] def Side.destV (x : Side) : Prop × (Dir → Bool) × Option Holder := (x.w = .hold, x.r.holdsDest, x.dmu)
@[simp] def Side.flowV (x : Side) : (Dir → Bool) × Option Dir := (x.r.isPushing, x.fmu)
@[simp] def Side.goodV (x : Side) := (x.lifeV, x.destV, x.flowV)

@[simp] theorem isPushing_selReading (u) : Rd.selReading.isPushing u = false := rfl
@[simp] theorem isPushing_selReady (r u) : (Rd.selReady r).isPushing u = false := rfl
@[simp] theorem isPushing_lockWait (t n b u) : (Rd.lockWait t n b).isPushing u = false := rfl
@[simp] theorem isPushing_pushing (t n b u) : (Rd.pushing t n b).isPushing u = (t == u) := rfl
@[simp] theorem isPushing_mWait (t k u) : (Rd.mWait t k).isPushing u = false := rfl
@[simp] theorem isPushing_mHold (t k u) : (Rd.mHold t k).isPushing u = false := rfl
@[simp] theorem isPushing_exiting (u) : Rd.exiting.isPushing u = false := rfl
@[simp] theorem isPushing_gone (u) : Rd.gone.isPushing u = false := rfl

@[simp] theorem holdsDest_selReading (u) : Rd.selReading.holdsDest u = false := rfl
@[simp] theorem holdsDest_selReady (r u) : (Rd.selReady r).holdsDest u = false := rfl
@[simp] theorem holdsDest_lockWait (t n b u) : (Rd.lockWait t n b).holdsDest u = false := rfl
@[simp] theorem holdsDest_pushing (t n b u) : (Rd.pushing t n b).holdsDest u = false := rfl
@[simp] theorem holdsDest_mWait (t k u) : (Rd.mWait t k).holdsDest u = false := rfl
@[simp] theorem holdsDest_mHold (t k u) : (Rd.mHold t k).holdsDest u = (t == u) := rfl
@[simp] theorem holdsDest_exiting (u) : Rd.exiting.holdsDest u = false := rfl
@[simp] theorem holdsDest_gone (u) : Rd.gone.holdsDest u = false := rfl

/-- The reader exists and is in no critical section. -/
def Rd.outside (r : Rd) : Prop := r ≠ .gone ∧ (∀ t, r.holdsDest t = false) ∧ ∀ t, r.isPushing t = false

theorem afterTake_outside (d : Dir) (r : Res) : (afterTake d r).outside := by
  fun_cases afterTake d r <;> simp [Rd.outside]

theorem afterWrite_outside (d : Dir) (k : Option Nat) (f : Bool) : (afterWrite d k f).outside := by
  cases k <;> cases f <;> simp [afterWrite, Rd.outside]

set_option hygiene false in
macro "rd_cases " x:ident : tactic => `(tactic|
  rcases $x:ident with _ | r | ⟨t, n, b⟩ | ⟨t, n, b⟩ | ⟨t, k⟩ | ⟨t, k⟩ | _ | _)

theorem inSelect_outside (h : r.inSelect = true) : r.outside := by
  rd_cases r
  case selReading | selReady => simp [Rd.outside]
  all_goals cases h

theorem holderOf_ne_writer (u v : Dir) : holderOf u v ≠ .writer := by
  unfold holderOf; split <;> simp

theorem holderOf_inj (u : Dir) (h : holderOf u t = holderOf d t) : u = d := by
  cases u <;> cases d <;> cases t <;> first | rfl | cases h

theorem LifeOk.upd2 (hl : LifeOk s) (hf : (f (s.side d)).lifeV = (s.side d).lifeV)
    (hg : ∀ y, (g y).lifeV = y.lifeV := by intros; rfl) : LifeOk (s.upd2 d f t g) := by
  have e := fun u => Prod.mk.inj (upd2_frame (t := t) Side.lifeV u hf hg)
  constructor
  case done_of_gone => intro u; rw [(e u).1, upd2_done]; exact hl.done_of_gone u
  case watcher => simpa using hl.watcher
  case gone_of_returned => intro h u; rw [(e u).1]; exact hl.gone_of_returned (by simpa using h) u
  case scClosed => simpa using hl.scClosed
  case ccClosed => simpa using hl.ccClosed
  case idle_of_gone => intro u; exact (e u).2.mpr (hl.idle_of_gone u)

theorem eq_some_of_other {α : Type} {x y : Option α} {a b : α} (hx : x = none ∨ x = some a)
    (hy : y = none ∨ y = some a) (ne : b ≠ a) : (y = some b) = (x = some b) := by
  rcases hx with rfl | rfl <;> rcases hy with rfl | rfl <;> simp [ne.symm]

section Owns
variable {ι : Type} {uses : Rd → Dir → Bool} {own : Side → Option ι} {who : Dir → Dir → ι}

theorem Owns.upd2 (ho : Owns uses own who s)
    (hf : (uses (f (s.side d)).r, own (f (s.side d))) = (uses (s.side d).r, own (s.side d)))
    (hg : ∀ y, (uses (g y).r, own (g y)) = (uses y.r, own y) := by intros; rfl) :
    Owns uses own who (s.upd2 d f t g) := fun u v => by
  have e := fun u => Prod.mk.inj (upd2_frame (t := t) (fun x => (uses x.r, own x)) u hf hg)
  rw [(e u).1, (e v).2]; exact ho u v

/-- Reader `d` takes or gives back the mutex of relay `t`: before, it is in no other critical section and
    the mutex is free or its own; after, it is inside exactly when it is the new owner `o`. -/
theorem Owns.lockMove (hg : Owns uses own who s) {o : Option ι} (inj : ∀ u, who u t = who d t → u = d)
    (h0 : ∀ v, v ≠ t → uses (s.side d).r v = false) (h1 : ∀ v, uses r v = true ↔ v = t ∧ o = some (who d t))
    (hb : own (s.side t) = none ∨ own (s.side t) = some (who d t)) (ha : o = none ∨ o = some (who d t))
    (go : ∀ y, own (g y) = o) (gr : ∀ y, (g y).r = y.r := by intros; rfl)
    (hp : ∀ x r, own { x with r := r } = own x := by intros; rfl) : Owns uses own who (s.move d r t g) := by
  intro u v
  rw [move_r u gr, move_set own o v hp go]
  by_cases hu : u = d <;> by_cases hv : v = t
  · subst hu hv; simp [h1]
  · subst hu; simpa [hv, h1, h0 v hv] using hg u v
  · subst hv
    rw [if_neg hu, if_pos rfl, eq_some_of_other hb ha fun e => hu (inj u e)]; exact hg u v
  · simpa [hu, hv] using hg u v

end Owns

theorem DestOk.upd2 (hd : DestOk s) (hf : (f (s.side d)).destV = (s.side d).destV)
    (hg : ∀ y, (g y).destV = y.destV := by intros; rfl) : DestOk (s.upd2 d f t g) := by
  have e := fun u => Prod.mk.inj (upd2_frame (t := t) Side.destV u hf hg)
  have e' := fun u => Prod.mk.inj (e u).2
  exact ⟨fun v => by rw [(e v).1, (e' v).2]; exact hd.writer v,
    fun u v => by rw [(e' u).1, (e' v).2]; exact hd.reader u v⟩

theorem DestOk.lockMove (hg : DestOk s) {o : Option Holder}
    (h0 : ∀ v, v ≠ t → (s.side d).r.holdsDest v = false)
    (h1 : ∀ v, r.holdsDest v = true ↔ v = t ∧ o = some (holderOf d t))
    (hb : (s.side t).dmu = none ∨ (s.side t).dmu = some (holderOf d t)) (ha : o = none ∨ o = some (holderOf d t)) :
    DestOk (s.move d r t fun y => { y with dmu := o }) where
  writer v := by
    rw [upd2_frame Side.w v rfl, move_set Side.dmu o]
    by_cases hv : v = t
    · subst hv; rw [if_pos rfl, eq_some_of_other hb ha (holderOf_ne_writer d v).symm]; exact hg.writer v
    · simpa [hv] using hg.writer v
  reader := hg.reader.lockMove holderOf_inj h0 h1 hb ha fun _ => rfl

/-- The writer of relay `d` takes or gives back its own `destMu`. -/
theorem DestOk.writerStep (hg : DestOk s)
    (hb : (s.side d).dmu = none ∨ (s.side d).dmu = some .writer)
    (ha : (f (s.side d)).dmu = none ∨ (f (s.side d)).dmu = some .writer)
    (hw : (f (s.side d)).w = .hold ↔ (f (s.side d)).dmu = some .writer)
    (hr : (f (s.side d)).r = (s.side d).r := by rfl) : DestOk (s.upd2 d f d id) where
  writer v := by
    rw [upd2_frame (fun x => x.w = .hold ↔ x.dmu = some .writer) v (propext ⟨fun _ => hg.writer d, fun _ => hw⟩)]
    exact hg.writer v
  reader u v := by
    rw [upd2_frame (·.r.holdsDest v) u (by rw [hr]),
      upd2_frame (·.dmu = some (holderOf u v)) v (eq_some_of_other hb ha (holderOf_ne_writer u v))]
    exact hg.reader u v

theorem Good.upd2 (hG : Good s) (hf : (f (s.side d)).goodV = (s.side d).goodV)
    (hg : ∀ y, (g y).goodV = y.goodV := by intros; rfl) : Good (s.upd2 d f t g) := by
  have ⟨a, b⟩ := Prod.mk.inj hf
  have e := fun y => Prod.mk.inj (hg y)
  exact ⟨hG.life.upd2 a fun y => (e y).1, hG.dest.upd2 (Prod.mk.inj b).1 fun y => (Prod.mk.inj (e y).2).1,
    hG.flow.upd2 (Prod.mk.inj b).2 fun y => (Prod.mk.inj (e y).2).2⟩

theorem Good.of_sides (hg : Good s) (hs : ∀ u, s'.side u = s.side u) (life : LifeOk s') : Good s' :=
  ⟨life, ⟨fun t => hs t ▸ hg.dest.writer t, fun u v => hs u ▸ hs v ▸ hg.dest.reader u v⟩,
    fun u v => hs u ▸ hs v ▸ hg.flow u v⟩

theorem good_destUsers (hg : Good s) (t : Dir) : destUsers s t = (s.side t).dmu.toList := by
  have a := hg.dest.writer t
  have b := hg.dest.reader t t
  have c := hg.dest.reader t.other t
  rw [show holderOf t t = .own by simp [holderOf]] at b
  rw [show holderOf t.other t = .peer by cases t <;> rfl] at c
  cases hm : (s.side t).dmu with
  | none => simp [hm] at a b c; simp [destUsers, a, b, c]
  | some o => cases o <;> simp [hm] at a b c <;> simp [destUsers, a, b, c]

theorem good_step (hg : Good s) (h : step s l = some s') : Good s' := by
  have life := hg.life
  cases Step.of_step h <;> try rw [upd_eq_upd2]
  case deliverLeaked | stall | unstall | failWrites | rfClosed => exact hg.upd2 rfl
  case deliver d r hr _ | push d t n wr hr _ => exact hg.upd2 (by simp [funext_iff, hr])
  case rTake d r hr =>
    have ⟨a, b, c⟩ := afterTake_outside d r
    exact hg.upd2 (by simp [funext_iff, hr, a, b, c])
  case rWerr d hr _ | rDone d hr _ =>
    have ⟨a, b, c⟩ := inSelect_outside hr
    exact hg.upd2 (by simp [funext_iff, a, b, c])
  case closing => exact hg.of_sides (fun _ => rfl) { life with }
  case callerClose hr => exact hg.of_sides (fun _ => rfl) { life with ccClosed := fun _ => hr }
  case watchClosing =>
    exact hg.of_sides (fun _ => rfl) { life with done_of_gone := fun _ _ => rfl, watcher := fun h => Bool.noConfusion h }
  case watchDone _ hd =>
    exact hg.of_sides (fun _ => rfl) { life with watcher := fun h => Bool.noConfusion (hd.symm.trans h) }
  case ret hc hs _ =>
    exact hg.of_sides (fun _ => rfl)
      { life with gone_of_returned := fun _ u => by cases u <;> assumption, scClosed := rfl, ccClosed := fun _ => rfl }
  case acquire d t n wr hr hf =>
    exact ⟨life.upd2 (by simp [hr]), hg.dest.upd2 (by simp [funext_iff, hr]),
      hg.flow.lockMove (fun _ e => e) (by simp [hr]) (by simp [eq_comm (a := t)]) (.inl hf) (.inr rfl) fun _ => rfl⟩
  case release d t wr hr =>
    exact ⟨life.upd2 (by cases wr <;> simp [hr]), hg.dest.upd2 (by cases wr <;> simp [funext_iff, hr]),
      hg.flow.lockMove (fun _ e => e) (by simp [hr, eq_comm (a := t)]) (by cases wr <;> simp)
        (.inr ((hg.flow d t).mp (by simp [hr]))) (.inl rfl) fun _ => rfl⟩
  case mAcquire d t k hr hf =>
    exact ⟨life.upd2 (by simp [hr]),
      hg.dest.lockMove (by simp [hr]) (by simp [eq_comm (a := t)]) (.inl hf) (.inr rfl),
      hg.flow.upd2 (by simp [funext_iff, hr])⟩
  case mDone d t k hr _ =>
    have ⟨a, b, c⟩ := afterWrite_outside d k (s.side t).wfail
    exact ⟨life.upd2 (by simp [hr, a]),
      hg.dest.lockMove (by simp [hr, eq_comm (a := t)]) (by simp [b]) (.inr ((hg.dest.reader d t).mp (by simp [hr]))) (.inl rfl),
      hg.flow.upd2 (by simp [funext_iff, hr, c])⟩
  case handshake d hr hw =>
    have e : ({ s with done := true } : Sys).side d = s.side d := by cases d <;> rfl
    have g : Good { s with done := true } :=
      hg.of_sides (fun _ => rfl) { life with done_of_gone := fun _ _ => rfl, watcher := fun h => Bool.noConfusion h }
    refine ⟨?life, g.dest.upd2 (by simp [funext_iff, e, hr]), g.flow.upd2 (by simp [funext_iff, e, hr])⟩
    constructor
    case done_of_gone => exact fun _ _ => upd2_done
    case watcher => intro h; simp at h
    case gone_of_returned =>
      intro h
      exact absurd (life.gone_of_returned (by simpa using h) d) (by simp [hr])
    case scClosed => simpa using life.scClosed
    case ccClosed => simpa using life.ccClosed
    case idle_of_gone =>
      intro u
      rw [upd2_frame (fun x => x.r = Rd.gone → x.w = .idle) u (by simp [e, hr, hw])]
      exact life.idle_of_gone u
  case wTake d hr hw _ =>
    exact ⟨life.upd2 (by simp [hr]), hg.dest.upd2 (by simp [hw]; split <;> simp), hg.flow.upd2 rfl⟩
  case wLock d hw hm =>
    have hr : (s.side d).r ≠ .gone := fun h => by simp [life.idle_of_gone d h] at hw
    exact ⟨life.upd2 (by simp [hr]), hg.dest.writerStep (.inl hm) (.inr rfl) (by simp), hg.flow.upd2 rfl⟩
  case wDone d hw _ =>
    exact ⟨life.upd2 (by simp [eq_true (life.idle_of_gone d)]),
      hg.dest.writerStep (.inr ((hg.dest.writer d).mp hw)) (.inl rfl) (by simp),
      hg.flow.upd2 rfl⟩

/-! Deadlock characterisation: in a state where no
process can move and no connection write is stalled, nobody is inside a `destMu` critical section,
hence every `destMu` is free (invariant), hence nobody waits for one; a reader blocked on
`output <- f` of a relay whose writer still exists is impossible (the idle writer could take a
frame), which leaves exactly the F10c shape; without it every `flowMu` is free, every reader is in
its `select` or gone, and a terminating event lets each of them leave. -/

theorem mem_procLabels (h : l.isProc = true) : l ∈ procLabels := by
  cases l <;> (try cases ‹Dir›) <;> first | decide +kernel | cases h

theorem no_step (hq : quiescent s = true) (hs : Step s l s') (hl : l.isProc = true := by rfl) : False := by
  have := List.all_eq_true.mp hq l (mem_procLabels hl)
  rw [hs.step] at this; cases this

theorem side_stalled (hu : unstalled s = true) (t : Dir) : (s.side t).stalled = false := by
  simp [unstalled] at hu
  cases t <;> simp [Sys.side, hu]

section Quiescent
variable (hq : quiescent s = true) (hu : unstalled s = true)
include hq hu

theorem q_no_mHold (d t : Dir) (k : Option Nat) : (s.side d).r ≠ .mHold t k :=
  fun h => no_step hq (.mDone h (.inl (side_stalled hu t)))

theorem q_no_wHold (d : Dir) : (s.side d).w ≠ .hold :=
  fun h => no_step hq (.wDone h (.inl (side_stalled hu d)))

variable (hg : Good s)
include hg

theorem q_dmu_free (t : Dir) : (s.side t).dmu = none := by
  cases hm : (s.side t).dmu with
  | none => rfl
  | some o =>
    exfalso
    have reader : ∀ d, o = holderOf d t → False := fun d e => by
      have := (hg.dest.reader d t).mpr (e ▸ hm)
      cases hc : (s.side d).r <;> simp [hc] at this
      exact q_no_mHold hq hu d _ _ (this ▸ hc)
    cases o
    · exact q_no_wHold hq hu t ((hg.dest.writer t).mpr hm)
    · exact reader t (by simp [holderOf])
    · exact reader t.other (by cases t <;> rfl)

theorem q_wIdle (d : Dir) : (s.side d).w = .idle := by
  cases hw : (s.side d).w with
  | idle => rfl
  | hold => exact absurd hw (q_no_wHold hq hu d)
  | want => exact (no_step hq (.wLock hw (q_dmu_free hq hu hg d))).elim

/-- A reader blocked on `output <- f`: the channel is full and its relay's reader and writer are gone
    (an idle writer would take a frame), which is only possible for the PEER's output. -/
theorem q_pushing_f10c (d t : Dir) (n : Nat) (b : Bool) (h : (s.side d).r = .pushing t n b) :
    f10cBlockedAt s d = true := by
  cases n with
  | zero => exact (no_step hq (.release h)).elim
  | succ n =>
    have hfull : cap ≤ (s.side t).out := Nat.le_of_not_lt fun hlt => no_step hq (.push h hlt)
    have hgone : (s.side t).r = .gone := Classical.byContradiction fun hne =>
      no_step hq (.wTake hne (q_wIdle hq hu hg t) (Nat.lt_of_lt_of_le (by decide) hfull))
    have htd : t = d.other := by
      cases d <;> cases t <;> simp [Dir.other] <;> simp [hgone] at h
    simp [f10cBlockedAt, h, htd] at *
    exact ⟨hgone, hfull⟩

theorem q_reader_shape (hf : f10cBlocked s = false) (d : Dir) :
    (s.side d).r = .selReading ∨ (s.side d).r = .gone := by
  have blocked : ∀ {o t n b}, (s.side o).r = .pushing t n b → False := fun {o _ _ _} hc => by
    have := q_pushing_f10c hq hu hg _ _ _ _ hc
    cases o <;> simp [f10cBlocked, this] at hf
  cases hr : (s.side d).r with
  | selReading => exact Or.inl rfl
  | gone => exact Or.inr rfl
  | selReady r => exact (no_step hq (.rTake hr)).elim
  | lockWait t n b =>
    have hfree : (s.side t).fmu = none := by
      cases hl : (s.side t).fmu with
      | none => rfl
      | some o =>
        have ho : (s.side o).r.isPushing t = true := (hg.flow o t).mpr hl
        cases hc : (s.side o).r <;> simp [hc] at ho
        exact (blocked hc).elim
    exact (no_step hq (.acquire hr hfree)).elim
  | pushing t n b => exact (blocked hr).elim
  | mWait t k => exact (no_step hq (.mAcquire hr (q_dmu_free hq hu hg t))).elim
  | mHold t k => exact absurd hr (q_no_mHold hq hu d t k)
  | exiting => exact (no_step hq (.handshake hr (q_wIdle hq hu hg d))).elim

end Quiescent

theorem quiescent_returned_or_f10c (hg : Good s) (ht : termed s = true) (hu : unstalled s = true)
    (hq : quiescent s = true) : s.returned = true ∨ f10cBlocked s = true := by
  cases hf : f10cBlocked s
  case true => exact Or.inr rfl
  left
  have shape := q_reader_shape hq hu hg hf
  cases hd : s.done
  case true =>
    -- once `done` is closed every reader in its select can leave: both are gone, and `ret` is enabled
    have gone : ∀ d, (s.side d).r = .gone := fun d =>
      (shape d).resolve_left fun h => no_step hq (.rDone (d := d) (by simp [h, Rd.inSelect]) hd)
    exact Bool.not_eq_false _ |>.mp fun hr => no_step hq (.ret (gone .c2s) (gone .s2c) hr)
  case false =>
    exfalso
    have reading : ∀ d, (s.side d).r = .selReading := fun d =>
      (shape d).resolve_right fun h => by simp [hg.life.done_of_gone d h] at hd
    have werr : ∀ d, (s.side d).werr = false := fun d =>
      Bool.eq_false_iff.mpr fun h => no_step hq (.rWerr (d := d) (by simp [reading d, Rd.inSelect]) h)
    have hc : s.closing = false :=
      Bool.eq_false_iff.mpr fun h => no_step hq (.watchClosing (hg.life.watcher hd) h)
    have r1 := reading .c2s; have r2 := reading .s2c; have w1 := werr .c2s; have w2 := werr .s2c
    simp only [Sys.side] at r1 r2 w1 w2
    simp [termed, hc, hd, r1, r2, w1, w2, Rd.terminal] at ht

theorem terminal_afterTake (d : Dir) (r : Res) : (afterTake d r).terminal = (Rd.selReady r).terminal := by
  fun_cases afterTake d r <;> simp [Rd.terminal]

@[simp] theorem terminal_exiting : Rd.exiting.terminal = true := rfl
@[simp] theorem terminal_gone : Rd.gone.terminal = true := rfl
@[simp] theorem terminal_selReading : Rd.selReading.terminal = false := rfl
@[simp] theorem terminal_lockWait (t n b) : (Rd.lockWait t n b).terminal = false := rfl
@[simp] theorem terminal_pushing (t n b) : (Rd.pushing t n b).terminal = false := rfl
@[simp] theorem terminal_mWait (t k) : (Rd.mWait t k).terminal = false := rfl
@[simp] theorem terminal_mHold (t k) : (Rd.mHold t k).terminal = false := rfl

abbrev Side.termed (x : Side) : Prop := x.werr = true ∨ x.r.terminal = true

theorem termed_mono (ht : termed s = true) (hc : s.closing = true → s'.closing = true)
    (hd : s.done = true → s'.done = true) (hs : ∀ u, (s.side u).termed → (s'.side u).termed) :
    termed s' = true := by
  have h1 := hs .c2s
  have h2 := hs .s2c
  simp only [termed, Side.termed, Sys.side, Bool.or_eq_true] at *
  rcases ht with ((((a | a) | a) | a) | a) | a
  · simp [hc a]
  · simp [hd a]
  · rcases h1 (.inl a) with b | b <;> simp [b]
  · rcases h2 (.inl a) with b | b <;> simp [b]
  · rcases h1 (.inr a) with b | b <;> simp [b]
  · rcases h2 (.inr a) with b | b <;> simp [b]

theorem termed_stable (ht : termed s = true) (h : step s l = some s') : termed s' = true := by
  cases Step.of_step h <;> try rw [upd_eq_upd2]
  case closing => exact termed_mono ht (fun _ => rfl) id fun _ => id
  case callerClose | watchDone | ret => exact termed_mono ht id id fun _ => id
  case watchClosing => exact termed_mono ht id (fun _ => rfl) fun _ => id
  case handshake => simp [termed]
  case deliverLeaked | stall | unstall | failWrites | wTake | wLock | rfClosed =>
    exact termed_mono ht (by simp) (by simp) (upd2_imp id)
  case rTake d r hr =>
    exact termed_mono ht (by simp) (by simp) (upd2_imp (by simp [Side.termed, hr, terminal_afterTake]))
  case rWerr | rDone => exact termed_mono ht (by simp) (by simp) (upd2_imp fun _ => .inr rfl)
  case wDone => exact termed_mono ht (by simp) (by simp) (upd2_imp (Or.imp_left (by simp; exact Or.inl)))
  case deliver d _ hr _ | acquire d t n wr hr _ | push d t n wr hr _ | mAcquire d t n hr _ | mDone d t n hr _ |
      release d t n hr =>
    exact termed_mono ht (by simp) (by simp) (upd2_imp (Or.imp_right fun h => by simp [hr] at h))

theorem unstalled_proc (hp : l.isProc = true) (h : step s l = some s') : unstalled s' = unstalled s := by
  have key {s'} : (∀ u, (s'.side u).stalled = (s.side u).stalled) → unstalled s' = unstalled s := fun e => by
    show (!(s'.side .c2s).stalled && !(s'.side .s2c).stalled) = (!(s.side .c2s).stalled && !(s.side .s2c).stalled)
    rw [e, e]
  cases Step.of_step h <;> (try cases hp) <;> try rw [upd_eq_upd2]
  case watchClosing | watchDone | ret => rfl
  all_goals exact key (upd2_frame Side.stalled · rfl)

theorem noPeer_afterTake (d : Dir) (r : Res) (h : (Rd.selReady r).noPeer d = true) : (afterTake d r).noPeer d = true := by
  fun_cases afterTake d r <;> simp_all [Rd.noPeer]

theorem noPeer_afterWrite (d : Dir) (k : Option Nat) (f : Bool) : (afterWrite d k f).noPeer d = true := by
  cases k <;> cases f <;> simp [afterWrite, Rd.noPeer]

@[simp] theorem noPeer_exiting (d) : Rd.exiting.noPeer d = true := rfl
@[simp] theorem noPeer_gone (d) : Rd.gone.noPeer d = true := rfl
@[simp] theorem noPeer_selReading (d) : Rd.selReading.noPeer d = true := rfl
@[simp] theorem noPeer_lockWait (d t n b) : (Rd.lockWait t n b).noPeer d = (t == d) := rfl
@[simp] theorem noPeer_pushing (d t n b) : (Rd.pushing t n b).noPeer d = (t == d) := rfl
@[simp] theorem noPeer_mWait (d t k) : (Rd.mWait t k).noPeer d = true := rfl
@[simp] theorem noPeer_mHold (d t k) : (Rd.mHold t k).noPeer d = true := rfl

theorem noPeer_proc (hp : l.isProc = true) (hn : noPeer s = true) (h : step s l = some s') :
    noPeer s' = true := by
  let p : Dir → Side → Prop := fun u x => x.r.noPeer u = true
  have key {s'} : (∀ u, p u (s.side u) → p u (s'.side u)) → noPeer s' = true := fun e => by
    simp only [noPeer, Bool.and_eq_true] at hn ⊢
    exact ⟨e .c2s hn.1, e .s2c hn.2⟩
  cases Step.of_step h <;> (try cases hp) <;> try rw [upd_eq_upd2]
  case watchClosing | watchDone | ret => exact hn
  case wTake | wLock | wDone | rfClosed => exact key (upd2_imp id)
  case rWerr | rDone | mAcquire => exact key (upd2_imp fun _ => rfl)
  case handshake => exact key (upd2_imp (s := { s with done := true }) fun _ => rfl)
  case rTake d r hr => exact key (upd2_imp fun h => noPeer_afterTake d r (hr ▸ h))
  case acquire d t n wr hr _ | push d t n wr hr _ => exact key (upd2_imp (by simp [p, hr]))
  case release d t wr hr => exact key (upd2_imp fun _ => by cases wr <;> rfl)
  case mDone => exact key (upd2_imp fun _ => noPeer_afterWrite ..)

theorem f10c_not_noPeer (h : f10cBlocked s = true) : noPeer s = false := by
  have key : ∀ d, f10cBlockedAt s d = true → (s.side d).r.noPeer d = false := fun d h => by
    unfold f10cBlockedAt at h
    split at h
    · next t n b hr => cases d <;> simp_all [Dir.other]
    · cases h
  simp only [f10cBlocked, Bool.or_eq_true] at h
  rcases h with h | h
  · simp [noPeer, show s.c.r.noPeer .c2s = false from key .c2s h]
  · simp [noPeer, show s.s.r.noPeer .s2c = false from key .s2c h]

theorem exec_induction {P : Sys → List Label → Sys → Prop} (nil : ∀ s, P s [] s)
    (cons : ∀ {s l s1 ls s'}, step s l = some s1 → exec s1 ls = some s' → P s1 ls s' → P s (l :: ls) s') :
    ∀ {s ls s'}, exec s ls = some s' → P s ls s' := by
  intro s ls
  induction ls generalizing s with
  | nil => intro s' h; cases h; exact nil s
  | cons l ls ih =>
    intro s' h
    simp only [exec] at h
    split at h
    · next s1 h1 => exact cons h1 h (ih h)
    · cases h

theorem reach_exec (hr : Reach s) {ls : List Label} (h : exec s ls = some s') : Reach s' :=
  exec_induction (P := fun s _ s' => Reach s → Reach s') (fun _ h => h)
    (fun h1 _ ih hr => ih (Reach.step _ hr h1)) h hr

theorem exec_termed {ls : List Label} (ht : termed s = true) (h : exec s ls = some s') :
    termed s' = true :=
  exec_induction (P := fun s _ s' => termed s = true → termed s' = true) (fun _ h => h)
    (fun h1 _ ih ht => ih (termed_stable ht h1)) h ht

theorem good_init : Good init where
  life :=
    { done_of_gone := fun d h => by cases d <;> cases h
      watcher := fun _ => rfl
      gone_of_returned := fun h => by cases h
      scClosed := rfl
      ccClosed := fun h => by cases h
      idle_of_gone := fun d h => by cases d <;> cases h }
  dest := ⟨fun t => by cases t <;> decide, fun d t => by cases d <;> cases t <;> decide⟩
  flow := fun d t => by cases d <;> cases t <;> decide

theorem good_reach (hr : Reach s) : Good s := by
  induction hr with
  | init => exact good_init
  | step l _ h ih => exact good_step ih h

theorem wedged_unreachable (w : termed s = true ∧ unstalled s = true ∧ quiescent s = true ∧
    s.returned = false ∧ s.scClosed = false ∧ f10cBlocked s = false) : ¬ Reach s := by
  intro hr
  rcases quiescent_returned_or_f10c (good_reach hr) w.1 w.2.1 w.2.2.1 with a | b
  · simp [w.2.2.2.1] at a
  · simp [w.2.2.2.2.2] at b

theorem exec_bounded {ls : List Label} (hp : procOnly ls = true) (h : exec s ls = some s') :
    ls.length + mu s' ≤ mu s := by
  refine exec_induction (P := fun s ls s' => procOnly ls = true → ls.length + mu s' ≤ mu s) ?_ ?_ h hp
  · intro _ _; simp
  · intro s l s1 ls s' h1 _ ih hp
    simp [procOnly] at hp
    have := step_decreases hp.1 h1
    have := ih (by simpa [procOnly] using hp.2)
    simp; omega

theorem exec_keeps {ls : List Label} (hp : procOnly ls = true) (h : exec s ls = some s') :
    unstalled s' = unstalled s ∧ (noPeer s = true → noPeer s' = true) := by
  refine exec_induction
    (P := fun s ls s' => procOnly ls = true → unstalled s' = unstalled s ∧ (noPeer s = true → noPeer s' = true)) ?_ ?_ h hp
  · exact fun _ _ => ⟨rfl, id⟩
  · intro s l s1 ls s' h1 _ ih hp
    simp [procOnly] at hp
    have ⟨b, c⟩ := ih (by simpa [procOnly] using hp.2)
    exact ⟨by rw [b, unstalled_proc hp.1 h1], fun hn => c (noPeer_proc hp.1 hn h1)⟩

end Martian.H2Session
