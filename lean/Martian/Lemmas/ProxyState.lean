import Martian.Lemmas.Proxy
/-! Which items end a connection; how the security state is threaded through the loop. -/
namespace Martian.Proxy

def Next.isAgain : Next → Bool | .again _ => true | _ => false
@[simp] theorem isAgain_again (s : St) : (Next.again s).isAgain = true := rfl
@[simp] theorem isAgain_close : Next.close.isAgain = false := rfl
@[simp] theorem isAgain_hijack : Next.hijack.isAgain = false := rfl
theorem again_iff_not_ends (sd : Bool) (s : St) (i c : Nat) (it : Item) :
    (handleItem sd s i c it).2.isAgain = !endsConn sd it := by
  rw [handleItem_snd]
  cases endsConn sd it
  · rfl
  · cases it.hij <;> rfl

/-- Elements up to and including the first one satisfying `p`. -/
def takeThrough {α : Type} (p : α → Bool) : List α → List α
  | [] => []
  | a :: r => if p a then [a] else a :: takeThrough p r

def isAnyRead (e : Ev) : Bool := match e with | .read _ => true | _ => false
def numReads (evs : List Ev) : Nat := countP isAnyRead evs

theorem numReads_item (sd : Bool) (s : St) (i c : Nat) (it : Item) : numReads (handleItem sd s i c it).1 = 1 := by
  rw [handleItem_fst]
  cases it <;> simp [numReads, countP_append, countP_cons, countP_ite, countP_nil, pre, post, hijExit, Item.up, Item.fin,
    isAnyRead]

theorem numReads_tail (opn : List Nat) : numReads (opn.map Ev.unlink ++ [Ev.closeConn]) = 0 := by
  refine countP_eq_zero (forall_mem_closing (fun _ => ?_) ?_ opn) <;> rfl

theorem numReads_run (sd : Bool) (base : Nat) (s : St) (i : Nat) (opn : List Nat) (items : List Item) :
    numReads (run sd base s i opn items) = (takeThrough (endsConn sd) items).length := by
  induction items generalizing s i opn with
  | nil => exact numReads_tail opn
  | cons it rest ih =>
    rw [run_cons, numReads, countP_append, ← numReads, ← numReads, numReads_item, takeThrough]
    split
    · rw [numReads_tail]; rfl
    · rw [ih, List.length_cons, Nat.add_comm]

/-- `handle` is given the decrypted connection and the session holds it (the `secure` flag itself is
re-derived from the connection on every request, whatever a modifier did to it). -/
def Sec (s : St) : Prop := s.connTls = true ∧ s.sessTls = true
def Plain (s : St) : Prop := s.secure = false ∧ s.connTls = false ∧ s.sessTls = false

theorem after_sec (s : St) (i : Nat) (it : Item) (hs : Sec s) : Sec (it.after s i) :=
  ⟨by rw [Item.after_connTls, hs.1, Bool.or_true], by rw [Item.after_sessTls, hs.2, Bool.or_true]⟩

theorem after_plain (s : St) (i : Nat) (it : Item) (hs : Plain s) (hm : isTlsMitm it = false) :
    Plain (it.after s i) := by
  obtain ⟨h1, h2, h3⟩ := hs
  refine ⟨?_, by rw [Item.after_connTls, hm, h2]; rfl, by rw [Item.after_sessTls, hm, h3]; rfl⟩
  rw [Item.after_secure s i it hm, h1, h2]
  split <;> rfl

theorem at?_sec {sd : Bool} {base : Nat} {s : St} {i : Nat} {items : List Item} {k : Nat} {s' : St} {it : Item}
    (hs : Sec s) (h : at? sd base s i items k = some (s', it)) : Sec s' := by
  induction items generalizing s i with
  | nil => simp [at?] at h
  | cons x rest ih =>
    rcases at?_cons_some h with ⟨_, rfl, _⟩ | ⟨_, _, h'⟩
    · exact hs
    · exact ih (after_sec s i x hs) h'

theorem at?_after_mitm {sd : Bool} {base : Nat} {s : St} {i : Nat} {items : List Item} {j k : Nat}
    {s' : St} {it : Item} {rq : ReqB} {rs : ResB}
    (hij : i ≤ j) (hjk : j < k) (hj : items[j - i]? = some (.connectMitm true rq rs))
    (h : at? sd base s i items k = some (s', it)) : Sec s' := by
  induction items generalizing s i with
  | nil => simp [at?] at h
  | cons x rest ih =>
    rcases at?_cons_some h with ⟨rfl, _, _⟩ | ⟨_, _, h'⟩
    · omega
    · by_cases hji : j = i
      · subst hji
        simp at hj; subst hj
        exact at?_sec ⟨rfl, rfl⟩ h'
      · rw [getElem?_cons_sub x rest (by omega)] at hj
        exact ih (by omega) hj h'

theorem at?_plain {sd : Bool} {base : Nat} {s : St} {i : Nat} {items : List Item} {k : Nat} {s' : St} {it : Item}
    (hs : Plain s) (hno : ∀ j, j < k - i → ∀ x, items[j]? = some x → isTlsMitm x = false)
    (h : at? sd base s i items k = some (s', it)) : Plain s' := by
  induction items generalizing s i with
  | nil => simp [at?] at h
  | cons x rest ih =>
    rcases at?_cons_some h with ⟨_, rfl, _⟩ | ⟨hik, _, h'⟩
    · exact hs
    · refine ih (after_plain s i x hs (hno 0 (by omega) x rfl)) ?_ h'
      intro j hj y hy
      exact hno (j + 1) (by omega) y (by simpa using hy)

/-- The TLS session in force when the request with index `k` is read, for a script whose first item
has index `i` and is read on session `t`: every MITM CONNECT whose tunnel starts with a handshake
opens a session of its own (`j + 2` for the CONNECT with index `j`), nested in the previous one. -/
def tidAt (i t : Nat) : List Item → Nat → Nat
  | [], _ => t
  | it :: rest, k => if k ≤ i then t else tidAt (i + 1) (if isTlsMitm it then i + 2 else t) rest k

theorem at?_tls {sd : Bool} {base : Nat} {s : St} {i : Nat} {items : List Item} {k : Nat} {s' : St} {it : Item}
    (h : at? sd base s i items k = some (s', it)) :
    s'.tlsId = tidAt i s.tlsId items k ∧ (s.connTls = true → s'.connTls = true) := by
  induction items generalizing s i with
  | nil => simp [at?] at h
  | cons x rest ih =>
    rcases at?_cons_some h with ⟨rfl, rfl, _⟩ | ⟨hik, _, h'⟩
    · simp [tidAt]
    · obtain ⟨hid, hconn⟩ := ih h'
      rw [Item.after_tlsId] at hid
      rw [tidAt, if_neg (by omega)]
      exact ⟨hid, fun hc => hconn (by rw [Item.after_connTls, hc, Bool.or_true])⟩

theorem tidAt_none (i t : Nat) (items : List Item) (k : Nat)
    (hno : ∀ m, i ≤ m → m < k → ∀ x, items[m - i]? = some x → isTlsMitm x = false) :
    tidAt i t items k = t := by
  induction items generalizing i with
  | nil => rfl
  | cons z r ih =>
    rw [tidAt]
    by_cases hk : k ≤ i
    · rw [if_pos hk]
    · rw [if_neg hk, hno i (by omega) (by omega) z (by simp), if_neg (by simp)]
      refine ih (i + 1) fun m hm1 hm2 x hx => hno m (by omega) hm2 x ?_
      rwa [getElem?_cons_sub z r (by omega)]

theorem tidAt_after (i t : Nat) (items : List Item) (j k : Nat) (hij : i ≤ j) (hjk : j < k)
    (hj : ∃ x, items[j - i]? = some x ∧ isTlsMitm x = true)
    (hno : ∀ m, j < m → m < k → ∀ x, items[m - i]? = some x → isTlsMitm x = false) :
    tidAt i t items k = j + 2 := by
  induction items generalizing i t with
  | nil => obtain ⟨x, hx, _⟩ := hj; simp at hx
  | cons y rest ih =>
    rw [tidAt, if_neg (by omega)]
    by_cases hji : j = i
    · subst hji
      obtain ⟨x, hx, hm⟩ := hj
      simp at hx; subst hx
      rw [hm, if_pos rfl]
      refine tidAt_none (j + 1) _ rest k fun m hm1 hm2 x hx => hno m (by omega) hm2 x ?_
      rwa [getElem?_cons_sub y rest (by omega)]
    · refine ih (i + 1) _ (by omega) ?_ fun m hm1 hm2 x hx => hno m hm1 hm2 x ?_
      · rwa [getElem?_cons_sub y rest (by omega)] at hj
      · rwa [getElem?_cons_sub y rest (by omega)]

theorem two_le_tidAt (i t : Nat) (items : List Item) (k : Nat)
    (h : 2 ≤ t ∨ ∃ j x, i ≤ j ∧ j < k ∧ items[j - i]? = some x ∧ isTlsMitm x = true) :
    2 ≤ tidAt i t items k := by
  induction items generalizing i t with
  | nil =>
    rcases h with h | ⟨_, _, _, _, hx, _⟩
    · exact h
    · simp at hx
  | cons y rest ih =>
    rw [tidAt]
    by_cases hk : k ≤ i
    · rw [if_pos hk]
      rcases h with h | ⟨j, _, _, _, _, _⟩
      · exact h
      · omega
    · rw [if_neg hk]
      refine ih (i + 1) _ ?_
      rcases h with h | ⟨j, x, hij, hjk, hx, hm⟩
      · exact .inl (by split <;> omega)
      · by_cases hji : j = i
        · subst hji
          simp at hx; subst hx
          exact .inl (by rw [hm, if_pos rfl]; omega)
        · rw [getElem?_cons_sub y rest (by omega)] at hx
          exact .inr ⟨j, x, by omega, hjk, hx, hm⟩

theorem at?_stored {sd : Bool} {base : Nat} {s : St} {i : Nat} {items : List Item} {k : Nat} {s' : St} {it : Item}
    (h : at? sd base s i items k = some (s', it)) : s'.stored = s.stored + (k - i) := by
  induction items generalizing s i with
  | nil => simp [at?] at h
  | cons x rest ih =>
    rcases at?_cons_some h with ⟨rfl, rfl, _⟩ | ⟨hik, _, h'⟩
    · simp
    · rw [ih h', Item.after_stored]; omega

end Martian.Proxy
