import Martian.Model.H2Proxy
import Martian.Lemmas.H2Session
/-! Lemmas about the stages of `Config.Proxy` around the relay machine. -/
namespace Martian.H2Session

theorem reach_init_closing (b : Bool) : Reach { init with closing := b } := by
  cases b
  · exact Reach.init
  · exact Reach.step .closing Reach.init rfl

/-- Invariant of `Proxy`: in the `running` stage the embedded relay machine `sys` is in a reachable state and
    has the same `closing`. -/
def PGood (p : Proxy) : Prop :=
  p.stage = .running → Reach p.sys ∧ p.sys.closing = p.closing

theorem closing_step {s s' : Sys} {l : Label} (hl : l ≠ .closing) (h : step s l = some s') : s'.closing = s.closing := by
  cases Step.of_step h <;> try rw [upd_eq_upd2]
  case closing => exact absurd rfl hl
  all_goals simp

theorem pstep_relay {p p' : Proxy} {l : Label} (h : pstep p (.relay l) = some p') :
    p.stage = .running ∧ l ≠ .closing ∧ ∃ s', step p.sys l = some s' ∧ p' = { p with sys := s' } := by
  simp only [pstep] at h
  split at h
  · cases h
  · cases h
  · next hs hc _ =>
    obtain ⟨s', hs', rfl⟩ := Option.map_eq_some_iff.mp h
    exact ⟨hs, fun e => hc e, s', hs', rfl⟩
  · cases h

theorem pgood_step {p p' : Proxy} {l : PLabel} (hg : PGood p) (h : pstep p l = some p') : PGood p' := by
  cases l
  case relay l =>
    obtain ⟨hs, hl, s', hs', rfl⟩ := pstep_relay h
    have ⟨hr, hc⟩ := hg hs
    exact fun _ => ⟨Reach.step _ hr hs', (closing_step hl hs').trans hc⟩
  all_goals obtain ⟨st, clg, ccc, sys⟩ := p
  case dial ok | prefaceIn ok => cases st <;> simp [pstep] at h; subst h; intro h'; cases ok <;> simp at h'
  case retErr => cases st <;> simp [pstep] at h; subst h; intro h'; simp at h'
  case prefaceOut ok =>
    cases st <;> simp [pstep] at h
    cases ok <;> simp at h <;> subst h
    · intro h'; simp at h'
    · intro _; exact ⟨reach_init_closing clg, rfl⟩
  case closing =>
    cases st <;> simp [pstep] at h
    all_goals (try (subst h; intro h'; simp at h'))
    obtain ⟨s', hs, rfl⟩ := h
    intro _
    have ⟨hr, _⟩ := hg rfl
    refine ⟨Reach.step _ hr hs, ?_⟩
    cases hs; rfl
  case callerClose =>
    cases st <;> simp [pstep] at h
    · subst h; intro h'; simp at h'
    · obtain ⟨s', hs, rfl⟩ := h
      intro _
      have ⟨hr, hc⟩ := hg rfl
      exact ⟨Reach.step _ hr hs, (closing_step (by simp) hs).trans hc⟩

theorem pgood_init : PGood pinit := by intro h; simp [pinit] at h

theorem pgood_reach {p : Proxy} (hr : PReach p) : PGood p := by
  induction hr with
  | init => exact pgood_init
  | step l _ h ih => exact pgood_step ih h

theorem pstep_decreases {p p' : Proxy} {l : PLabel} (hp : l.isProc = true) (h : pstep p l = some p') :
    pmu p' < pmu p := by
  cases l
  case retErr =>
    obtain ⟨st, clg, ccc, sys⟩ := p
    cases st <;> simp [pstep] at h; subst h; simp [pmu]
  case relay l =>
    obtain ⟨hs, _, s', hs', rfl⟩ := pstep_relay h
    simpa [pmu, hs] using step_decreases hp hs'
  all_goals cases hp

end Martian.H2Session
