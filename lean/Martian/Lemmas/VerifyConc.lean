import Martian.Model.VerifyConc
import Martian.Lemmas.Verify
import Martian.Lemmas.Lists
/-! Helper lemmas for the concurrency model of C13. -/
namespace Martian.Verify
open Martian

theorem modAt_eq_modify (f : Cell → Cell) : ∀ (n : Nat) (l : Cells), modAt f n l = l.modify n f
  | n, [] => by cases n <;> rfl
  | 0, _ :: _ => rfl
  | n + 1, c :: cs => by rw [modAt, List.modify_succ_cons, modAt_eq_modify f n cs]

theorem modAt_pre (f : Cell → Cell) (pre : Cells) (c : Cell) (post : Cells) :
    modAt f pre.length (pre ++ c :: post) = pre ++ f c :: post := by
  induction pre with
  | nil => rfl
  | cons a pre ih => simp [modAt, ih]

theorem Cells.run_nil (c : Cells) : c.run [] = c := rfl
theorem Cells.run_cons (c : Cells) (s : Step) (σ : List Step) : c.run (s :: σ) = (c.step s).run σ := rfl
theorem Cells.run_append (c : Cells) (σ1 σ2 : List Step) : c.run (σ1 ++ σ2) = (c.run σ1).run σ2 :=
  List.foldl_append

theorem Cells.run_length (c : Cells) (σ : List Step) : (c.run σ).length = c.length := by
  induction σ generalizing c with
  | nil => rfl
  | cons s σ ih => rw [Cells.run_cons, ih, Cells.step, modAt_eq_modify, List.length_modify]

theorem Cells.report_append (a b : Cells) : Cells.report (a ++ b) = Cells.report a ++ Cells.report b :=
  List.flatMap_append

mutual
theorem T.verify_cells (side : Side) : ∀ t : T,
    errsOf (t.verify side) = (Cells.report (t.cells side)).map .one
  | .ver k errs => by
    cases errs <;> simp [T.verify, T.cells, Cells.report, Cell.report, errsOf]
  | .ping s h p q pend => by
    cases pend <;> simp [T.verify, T.cells, Cells.report, Cell.report, errsOf]
  | .nop | .fail | .hide _ => rfl
  | .group agg l => (errsOf_wrap _).trans (TL.verify_cells side l)
  | .filter c t f => by
    have ht := T.verify_cells side t
    have hf := T.verify_cells side f
    simp only [T.verify, T.cells, errsOf_wrap, elseFirst]
    rcases visits_perm side with hv | hv <;>
      simp [hv, addOpt_eq, ht, hf, Cells.report_append]
theorem TL.verify_cells (side : Side) : ∀ l : TL,
    l.verify side = (Cells.report (l.cells side)).map .one
  | .nil => rfl
  | .cons t l => by
    simp only [TL.verify, TL.cells, addOpt_eq, List.nil_append, Cells.report_append, List.map_append]
    rw [T.verify_cells side t, TL.verify_cells side l]
end

theorem T.query_cells (side : Side) (t : T) : handlerErrors (t.verify side) = Cells.report (t.cells side) := by
  rw [handlerErrors_eq, T.verify_cells, render_one]

mutual
theorem T.size_clear (side : Side) : ∀ t : T, t.clear.size side = t.size side
  | .ver .. | .ping .. | .nop | .fail | .hide _ => rfl
  | .group agg l => TL.size_clear side l
  | .filter c t f => by
    have ht := T.size_clear side t
    have hf := T.size_clear side f
    simp only [T.size] at ht hf ⊢
    simp only [T.clear, T.cells]
    split <;> simp [List.length_append, ht, hf]
theorem TL.size_clear (side : Side) : ∀ l : TL, l.clear.size side = l.size side
  | .nil => rfl
  | .cons t l => by
    have ht := T.size_clear side t
    have hl := TL.size_clear side l
    simp only [T.size, TL.size] at ht hl ⊢
    simp [TL.clear, TL.cells, List.length_append, ht, hl]
end

theorem T.size_modify (side : Side) (m : Msg) (t : T) : (t.modify side m).1.size side = t.size side := by
  rw [← T.size_clear, T.clear_modify, T.size_clear]

theorem TL.size_modify (side : Side) (m : Msg) (agg : Bool) : ∀ l : TL, (l.modify side m agg).1.size side = l.size side := by
  intro l
  rw [← TL.size_clear, TL.clear_modify, TL.size_clear]

theorem T.mprog_ver (side : Side) (m : Msg) (off : Nat) (k : Kind) (errs : List Bytes) :
    (T.ver k errs).mprog side m off = if m.api then [] else (check side k m).toList.map (.add off) := by
  simp only [T.mprog, skips_api, Bool.true_and]
  cases m.api
  · cases check side k m <;> simp
  · simp

theorem T.mprog_ping (side : Side) (m : Msg) (off : Nat) (s h p q : Bytes) (pend : Bool) :
    (T.ping s h p q pend).mprog side m off = if !m.api && pingMatch s h p q m then [.pong off] else [] := by
  simp only [T.mprog, skips_api_ping, Bool.true_and]
  cases m.api <;> simp

theorem T.mprog_failure_pair (a b : Bytes) (m : Msg) (hm : m.api = false) :
    (T.group false (.cons (.ver (.failure a) []) (.cons (.ver (.failure b) []) .nil))).mprog .req m 0 =
      [.add 0 ((check .req (.failure a) m).getD []), .add 1 ((check .req (.failure b) m).getD [])] := by
  simp [T.mprog, TL.mprog, hm, check, T.errors, T.size, T.cells]

/-- The program `P`, its steps numbered from where the segment `A` begins, turns `A` into `A'` and
touches no other cell, wherever the segment sits among the cells. -/
def Acts (P : Nat → List Step) (A A' : Cells) : Prop :=
  ∀ pre post : Cells, Cells.run (pre ++ A ++ post) (P pre.length) = pre ++ A' ++ post

theorem Acts.nil (A : Cells) : Acts (fun _ => []) A A := fun _ _ => rfl

theorem Acts.one (s : Nat → Step) (c c' : Cell) (h : ∀ o, (s o).cell = o ∧ (s o).fn c = c') :
    Acts (fun o => [s o]) [c] [c'] := by
  intro pre post
  simp [Cells.run, Cells.step, h, modAt_pre]

theorem Acts.append {P Q : Nat → List Step} {A A' A'' : Cells} (h1 : Acts P A A') (h2 : Acts Q A' A'') :
    Acts (fun o => P o ++ Q o) A A'' := by
  intro pre post
  rw [Cells.run_append, h1, h2]

theorem Acts.left {P : Nat → List Step} {A A' : Cells} (h : Acts P A A') (B : Cells) : Acts P (A ++ B) (A' ++ B) := by
  intro pre post
  simpa [List.append_assoc] using h pre (B ++ post)

theorem Acts.right {P : Nat → List Step} {B B' : Cells} (A : Cells) {n : Nat} (hn : A.length = n) (h : Acts P B B') :
    Acts (fun o => P (o + n)) (A ++ B) (A ++ B') := by
  intro pre post
  simpa [List.append_assoc, List.length_append, hn] using h (pre ++ A) post

mutual
theorem T.run_mprog (side : Side) (m : Msg) : ∀ t : T,
    Acts (t.mprog side m) (t.cells side) ((t.modify side m).1.cells side)
  | .ver k errs => by
    simp only [T.mprog_ver, T.modify_ver, T.cells]
    cases m.api
    · cases check side k m with
      | none => simpa using Acts.nil _
      | some e => exact Acts.one (.add · e) _ _ fun _ => ⟨rfl, rfl⟩
    · simpa using Acts.nil _
  | .ping s h p q pend => by
    simp only [T.mprog_ping, T.modify_ping, T.cells]
    cases (!m.api && pingMatch s h p q m)
    · simpa using Acts.nil _
    · simpa using Acts.one .pong (.ping (pingErr s h p q) pend) _ fun _ => ⟨rfl, rfl⟩
  | .nop | .fail | .hide _ => Acts.nil _
  | .group agg l => TL.run_mprog side m agg l
  | .filter c t f => by
    have ht := T.run_mprog side m t
    have hf := T.run_mprog side m f
    simp only [T.mprog, T.modify, T.cells]
    cases c.holds side m <;> cases he : elseFirst side <;> simp only [Bool.false_eq_true, if_true, if_false, T.cells, he]
    · exact hf.right _ rfl
    · exact hf.left _
    · exact ht.left _
    · exact ht.right _ rfl
theorem TL.run_mprog (side : Side) (m : Msg) (agg : Bool) : ∀ (l : TL) (pre post : Cells),
    Cells.run (pre ++ l.cells side ++ post) (l.mprog side m agg pre.length) =
      pre ++ (l.modify side m agg).1.cells side ++ post
  | .nil => Acts.nil _
  | .cons t l => by
    have ht := (T.run_mprog side m t).left (l.cells side)
    have hl : Acts (l.mprog side m agg) _ _ := TL.run_mprog side m agg l
    show Acts ((TL.cons t l).mprog side m agg) _ _
    simp only [TL.mprog, TL.modify, T.modify_snd]
    cases (t.errors side m && !agg) <;> simp only [Bool.false_eq_true, if_true, if_false, TL.cells]
    · exact ht.append (hl.right _ (T.size_modify side m t))
    · simpa using ht
end

mutual
theorem T.run_rprog (side : Side) : ∀ t : T, Acts (t.rprog side) (t.cells side) (t.clear.cells side)
  | .ver .. | .ping .. => Acts.one .clr _ _ fun _ => ⟨rfl, rfl⟩
  | .nop | .fail | .hide _ => Acts.nil _
  | .group agg l => TL.run_rprog side l
  | .filter c t f => by
    have ht := T.run_rprog side t
    have hf := T.run_rprog side f
    simp only [T.rprog, T.clear, T.cells]
    -- order of the branches among the cells × order in which the reset walk visits them: the two
    -- programs touch disjoint segments, so whichever runs second finds its own segment untouched
    cases elseFirst side <;> rcases reset_visits_perm side with hv | hv <;>
      simp only [hv, List.flatMap_cons, List.flatMap_nil, List.append_nil, if_true, if_false, Bool.false_eq_true]
    · exact (ht.left _).append (hf.right _ (T.size_clear side t))
    · exact (hf.right _ rfl).append (ht.left _)
    · exact (ht.right _ rfl).append (hf.left _)
    · exact (hf.left _).append (ht.right _ (T.size_clear side f))
theorem TL.run_rprog (side : Side) : ∀ (l : TL) (pre post : Cells),
    Cells.run (pre ++ l.cells side ++ post) (l.rprog side pre.length) = pre ++ l.clear.cells side ++ post
  | .nil => Acts.nil _
  | .cons t l => by
    have hl : Acts (l.rprog side) _ _ := TL.run_rprog side l
    exact ((T.run_rprog side t).left _).append (hl.right _ (T.size_clear side t))
end

mutual
theorem T.mprog_clear (side : Side) (m : Msg) : ∀ (t : T) (off : Nat), t.clear.mprog side m off = t.mprog side m off
  | .ver .., _ | .ping .., _ | .nop, _ | .fail, _ | .hide _, _ => rfl
  | .group agg l, off => TL.mprog_clear side m agg l off
  | .filter c t f, off => by
    simp only [T.clear, T.mprog, T.size_clear, T.mprog_clear side m t, T.mprog_clear side m f]
theorem TL.mprog_clear (side : Side) (m : Msg) (agg : Bool) : ∀ (l : TL) (off : Nat),
    l.clear.mprog side m agg off = l.mprog side m agg off
  | .nil, _ => rfl
  | .cons t l, off => by
    simp only [TL.clear, TL.mprog, T.size_clear, T.errors_clear, T.mprog_clear side m t, TL.mprog_clear side m agg l]
end

mutual
theorem T.rprog_clear (side : Side) : ∀ (t : T) (off : Nat), t.clear.rprog side off = t.rprog side off
  | .ver .., _ | .ping .., _ | .nop, _ | .fail, _ | .hide _, _ => rfl
  | .group agg l, off => TL.rprog_clear side l off
  | .filter c t f, off => by
    simp only [T.clear, T.rprog, T.size_clear, T.rprog_clear side t, T.rprog_clear side f]
theorem TL.rprog_clear (side : Side) : ∀ (l : TL) (off : Nat), l.clear.rprog side off = l.rprog side off
  | .nil, _ => rfl
  | .cons t l, off => by
    simp only [TL.clear, TL.rprog, T.size_clear, T.rprog_clear side t, TL.rprog_clear side l]
end

mutual
theorem T.mprog_isMod (side : Side) (m : Msg) : ∀ (t : T) (off : Nat), ∀ s ∈ t.mprog side m off, s.isMod = true
  | .ver k errs, off => by
    intro s hs
    rw [T.mprog_ver] at hs
    split at hs
    · cases hs
    · obtain ⟨e, _, rfl⟩ := List.mem_map.mp hs
      rfl
  | .ping .., off => by
    intro s hs
    rw [T.mprog_ping] at hs
    split at hs
    · cases List.mem_singleton.mp hs
      rfl
    · cases hs
  | .nop, _ | .fail, _ | .hide _, _ => fun _ hs => nomatch hs
  | .group agg l, off => TL.mprog_isMod side m agg l off
  | .filter c t f, off => by
    intro s hs
    simp only [T.mprog] at hs
    split at hs
    · exact T.mprog_isMod side m t _ s hs
    · exact T.mprog_isMod side m f _ s hs
theorem TL.mprog_isMod (side : Side) (m : Msg) (agg : Bool) : ∀ (l : TL) (off : Nat), ∀ s ∈ l.mprog side m agg off, s.isMod = true
  | .nil, _ => fun _ hs => nomatch hs
  | .cons t l, off => by
    intro s hs
    simp only [TL.mprog, List.mem_append] at hs
    rcases hs with hs | hs
    · exact T.mprog_isMod side m t off s hs
    · split at hs
      · cases hs
      · exact TL.mprog_isMod side m agg l _ s hs
end

theorem getElem?_step (c : Cells) (s : Step) (i : Nat) :
    (c.step s)[i]? = c[i]?.map fun x => if s.cell = i then s.fn x else x := by
  rw [Cells.step, modAt_eq_modify, List.getElem?_modify]
  rfl

theorem run_keeps_errs (i : Nat) : ∀ (σ : List Step) (c : Cells) (l : List Bytes), c[i]? = some (.errs l) →
    ∃ l', (c.run σ)[i]? = some (.errs l')
  | [], _, l, h => ⟨l, h⟩
  | s :: σ, c, l, h => by
    have hs : ∃ l', (c.step s)[i]? = some (.errs l') := by
      rw [getElem?_step, h]
      by_cases hi : s.cell = i
      · cases s <;> exact ⟨_, by rw [Option.map_some, if_pos hi]; rfl⟩
      · exact ⟨l, by rw [Option.map_some, if_neg hi]⟩
    exact hs.elim fun l' hl' => run_keeps_errs i σ _ l' hl'

theorem adds_append (i : Nat) (σ1 σ2 : List Step) : adds i (σ1 ++ σ2) = adds i σ1 ++ adds i σ2 :=
  List.filterMap_append

theorem noClr_append (i : Nat) (σ1 σ2 : List Step) : noClr i (σ1 ++ σ2) = (noClr i σ1 && noClr i σ2) :=
  List.all_append

theorem Cell.grown_nil (i : Nat) (x : Cell) : x.grown i [] = x.report := by
  cases x <;> simp [Cell.grown, Cell.report, adds]

theorem Cell.grown_cons (i : Nat) (s : Step) (σ : List Step) (hs : s ≠ .clr i) (x : Cell) :
    (if s.cell = i then s.fn x else x).grown i σ = x.grown i (s :: σ) := by
  cases s with
  | add j e =>
    by_cases hj : j = i
    · subst hj; cases x <;> simp [Step.cell, Step.fn, Cell.add, Cell.grown, adds]
    · cases x <;> simp [Step.cell, Cell.grown, adds, hj]
  | pong j =>
    by_cases hj : j = i
    · subst hj; cases x <;> simp [Step.cell, Step.fn, Cell.pong, Cell.grown, adds]
    · cases x <;> simp [Step.cell, Cell.grown, adds, hj]
  | clr j =>
    have hj : j ≠ i := fun h => hs (h ▸ rfl)
    cases x <;> simp [Step.cell, Cell.grown, adds, hj]

theorem read_grown (c : Cells) (i : Nat) (σ : List Step) (h : noClr i σ = true) :
    (c.run σ).read i = match c[i]? with | some x => x.grown i σ | none => [] := by
  induction σ generalizing c with
  | nil => cases hc : c[i]? <;> simp [Cells.read, Cells.run_nil, hc, Cell.grown_nil]
  | cons s σ ih =>
    simp only [noClr, List.all_cons, Bool.and_eq_true, bne_iff_ne, ne_eq] at h
    rw [Cells.run_cons, ih _ (by simpa [noClr] using h.2), getElem?_step]
    cases c[i]? with
    | none => rfl
    | some x => exact Cell.grown_cons i s σ h.1 x

theorem qrun_eq_qspec (c : Cells) : ∀ (gs : List (List Step)) (i : Nat) (pre : List Step),
    qNoReset i pre gs = true → Cells.qrun (c.run pre) i gs = Cells.qspec c i pre gs
  | [], _, _, _ => rfl
  | g :: gs, i, pre, h => by
    simp only [qNoReset, Bool.and_eq_true] at h
    simp only [Cells.qrun, Cells.qspec, ← Cells.run_append]
    rw [read_grown c i (pre ++ g) h.1, qrun_eq_qspec c gs (i + 1) (pre ++ g) h.2]
    rfl

theorem Cells.qrun_atomic_aux : ∀ (c pre : Cells),
    Cells.qrun (pre ++ c) pre.length (List.replicate c.length []) = Cells.report c
  | [], pre => by simp [Cells.qrun, Cells.report]
  | x :: xs, pre => by
    have ih := Cells.qrun_atomic_aux xs (pre ++ [x])
    simp only [List.length_append, List.length_singleton, List.append_assoc, List.singleton_append] at ih
    simp only [List.length_cons, List.replicate_succ, Cells.qrun, Cells.run_nil, ih, Cells.read]
    simp [Cells.report]

theorem Cells.qrun_atomic (c : Cells) : Cells.qrun c 0 (List.replicate c.length []) = Cells.report c := by
  simpa using Cells.qrun_atomic_aux c []

theorem Cell.equiv_refl : ∀ a : Cell, a.equiv a
  | .errs l => List.Perm.refl l
  | .ping _ _ => ⟨rfl, rfl⟩

theorem Cell.equiv_trans : ∀ {a b c : Cell}, a.equiv b → b.equiv c → a.equiv c
  | .errs _, .errs _, .errs _, h1, h2 => List.Perm.trans h1 h2
  | .ping _ _, .ping _ _, .ping _ _, h1, h2 => ⟨h1.1.trans h2.1, h1.2.trans h2.2⟩
  | .errs _, .ping _ _, _, h1, _ => h1.elim
  | .ping _ _, .errs _, _, h1, _ => h1.elim
  | .errs _, .errs _, .ping _ _, _, h2 => h2.elim
  | .ping _ _, .ping _ _, .errs _, _, h2 => h2.elim

theorem Cell.equiv_symm : ∀ {a b : Cell}, a.equiv b → b.equiv a
  | .errs _, .errs _, h => List.Perm.symm h
  | .ping _ _, .ping _ _, h => ⟨h.1.symm, h.2.symm⟩
  | .errs _, .ping _ _, h => h.elim
  | .ping _ _, .errs _, h => h.elim

theorem Cells.equiv_refl : ∀ c : Cells, c.equiv c
  | [] => trivial
  | a :: as => ⟨Cell.equiv_refl a, Cells.equiv_refl as⟩

theorem Cells.equiv_trans : ∀ {a b c : Cells}, a.equiv b → b.equiv c → a.equiv c
  | [], [], [], _, _ => trivial
  | _ :: _, _ :: _, _ :: _, h1, h2 => ⟨Cell.equiv_trans h1.1 h2.1, Cells.equiv_trans h1.2 h2.2⟩
  | [], _ :: _, _, h1, _ => h1.elim
  | _ :: _, [], _, h1, _ => h1.elim
  | [], [], _ :: _, _, h2 => h2.elim
  | _ :: _, _ :: _, [], _, h2 => h2.elim

theorem Cells.equiv_symm : ∀ {a b : Cells}, a.equiv b → b.equiv a
  | [], [], _ => trivial
  | _ :: _, _ :: _, h => ⟨Cell.equiv_symm h.1, Cells.equiv_symm h.2⟩
  | [], _ :: _, h => h.elim
  | _ :: _, [], h => h.elim

theorem Step.fn_congr (s : Step) : ∀ {a b : Cell}, a.equiv b → (s.fn a).equiv (s.fn b)
  | .errs l, .errs l', h => by
    cases s with
    | add i e => exact List.Perm.append_right [e] h
    | pong i => exact h
    | clr i => exact List.Perm.refl []
  | .ping m p, .ping m' p', h => by
    cases s with
    | add i e => exact h
    | pong i => exact ⟨h.1, rfl⟩
    | clr i => exact ⟨h.1, rfl⟩
  | .errs _, .ping _ _, h => h.elim
  | .ping _ _, .errs _, h => h.elim

theorem modAt_congr (f : Cell → Cell) (hf : ∀ {a b : Cell}, a.equiv b → (f a).equiv (f b)) :
    ∀ (n : Nat) {c c' : Cells}, c.equiv c' → (modAt f n c).equiv (modAt f n c')
  | n, [], [], _ => by cases n <;> simp [modAt, Cells.equiv]
  | 0, _ :: _, _ :: _, h => ⟨hf h.1, h.2⟩
  | n + 1, _ :: _, _ :: _, h => ⟨h.1, modAt_congr f hf n h.2⟩
  | _, [], _ :: _, h => h.elim
  | _, _ :: _, [], h => h.elim

theorem Cells.step_congr (s : Step) {c c' : Cells} (h : c.equiv c') : (c.step s).equiv (c'.step s) :=
  modAt_congr s.fn (Step.fn_congr s) s.cell h

theorem Cells.run_congr : ∀ (σ : List Step) {c c' : Cells}, c.equiv c' → (c.run σ).equiv (c'.run σ)
  | [], _, _, h => h
  | s :: σ, _, _, h => Cells.run_congr σ (Cells.step_congr s h)

theorem modAt_comm (f g : Cell → Cell) (hfg : ∀ x, (g (f x)).equiv (f (g x))) :
    ∀ (n1 n2 : Nat) (c : Cells), (modAt g n2 (modAt f n1 c)).equiv (modAt f n1 (modAt g n2 c))
  | n1, n2, [] => by cases n1 <;> cases n2 <;> simp [modAt, Cells.equiv]
  | 0, 0, x :: xs => ⟨hfg x, Cells.equiv_refl xs⟩
  | 0, n2 + 1, x :: xs => ⟨Cell.equiv_refl _, Cells.equiv_refl _⟩
  | n1 + 1, 0, x :: xs => ⟨Cell.equiv_refl _, Cells.equiv_refl _⟩
  | n1 + 1, n2 + 1, x :: xs => ⟨Cell.equiv_refl _, modAt_comm f g hfg n1 n2 xs⟩

theorem Step.fn_comm (s1 s2 : Step) (h1 : s1.isMod = true) (h2 : s2.isMod = true) (x : Cell) :
    (s2.fn (s1.fn x)).equiv (s1.fn (s2.fn x)) := by
  cases s1 <;> cases s2 <;> cases x <;> simp_all [Step.isMod, Step.fn, Cell.add, Cell.pong, Cell.equiv]
  case add.add.errs i e j e' l =>
    exact List.Perm.append_left l (List.Perm.swap e' e [])

theorem Cells.run_perm {σ σ' : List Step} (hp : σ.Perm σ') :
    (∀ s ∈ σ, s.isMod = true) → ∀ {c c' : Cells}, c.equiv c' → (c.run σ).equiv (c'.run σ') := by
  induction hp with
  | nil => intro _ c c' h; exact h
  | cons x _ ih =>
    intro hm c c' h
    exact ih (fun s hs => hm s (List.mem_cons_of_mem _ hs)) (Cells.step_congr x h)
  | swap x y l =>
    intro hm c c' h
    have hx := hm x (by simp)
    have hy := hm y (by simp)
    have h1 : ((c.step y).step x).equiv ((c'.step x).step y) :=
      Cells.equiv_trans (modAt_comm y.fn x.fn (Step.fn_comm y x hy hx) y.cell x.cell c)
        (Cells.step_congr y (Cells.step_congr x h))
    exact Cells.run_congr l h1
  | trans p1 _ ih1 ih2 =>
    intro hm c c' h
    exact Cells.equiv_trans (ih1 hm (Cells.equiv_refl c)) (ih2 (fun s hs => hm s (p1.mem_iff.mpr hs)) h)

theorem Cell.report_equiv : ∀ {a b : Cell}, a.equiv b → a.report.Perm b.report
  | .errs _, .errs _, h => h
  | .ping m p, .ping m' p', h => by
    obtain ⟨h1, h2⟩ := h; subst h1; subst h2; exact List.Perm.refl _
  | .errs _, .ping _ _, h => h.elim
  | .ping _ _, .errs _, h => h.elim

theorem Cells.report_equiv : ∀ {a b : Cells}, a.equiv b → a.report.Perm b.report
  | [], [], _ => List.Perm.refl _
  | x :: xs, y :: ys, h => by
    simp only [Cells.report, List.flatMap_cons]
    exact List.Perm.append (Cell.report_equiv h.1) (Cells.report_equiv h.2)
  | [], _ :: _, h => h.elim
  | _ :: _, [], h => h.elim

theorem Interleaving.perm {ps : List (List Step)} {σ : List Step} (h : Interleaving ps σ) : σ.Perm ps.flatten := by
  induction h with
  | done ps hall => rw [List.flatten_eq_nil_iff.mpr hall]
  | pick ps i a p σ hi _ ih =>
    obtain ⟨pre, post, rfl, hset⟩ := getElem?_split hi
    simp only [hset, List.flatten_append, List.flatten_cons, List.cons_append] at ih ⊢
    exact (ih.cons a).trans List.perm_middle.symm

theorem batch_equiv {ps : List (List Step)} {σ : List Step} (h : Interleaving ps σ)
    (hm : ∀ p ∈ ps, ∀ s ∈ p, s.isMod = true) {c c' : Cells} (hc : c.equiv c') :
    (c.run σ).equiv (c'.run ps.flatten) := by
  refine Cells.run_perm h.perm (fun s hs => ?_) hc
  obtain ⟨p, hp, hsp⟩ := List.mem_flatten.mp (h.perm.mem_iff.mp hs)
  exact hm p hp s hsp

theorem runPhases_linearisable : ∀ (h : List Phase) (c c' : Cells), (∀ p ∈ h, p.ok) → c.equiv c' →
    (runPhases Phase.conc c h).1.equiv (runPhases Phase.seq c' h).1 ∧
      permLists (runPhases Phase.conc c h).2 (runPhases Phase.seq c' h).2
  | [], c, c', _, hc => ⟨hc, trivial⟩
  | p :: h, c, c', hok, hc => by
    have hp : p.ok := hok p (by simp)
    have hrest : ∀ q ∈ h, q.ok := fun q hq => hok q (List.mem_cons_of_mem _ hq)
    cases p with
    | batch ps σ => exact runPhases_linearisable h _ _ hrest (batch_equiv hp.1 hp.2 hc)
    | query =>
      have ih := runPhases_linearisable h c c' hrest hc
      exact ⟨ih.1, Cells.report_equiv hc, ih.2⟩
    | reset r => exact runPhases_linearisable h _ _ hrest (Cells.run_congr r hc)

theorem T.run_mprog0 (side : Side) (m : Msg) (t : T) :
    Cells.run (t.cells side) (t.mprog side m 0) = (t.modify side m).1.cells side := by
  simpa using T.run_mprog side m t [] []

theorem T.run_rprog0 (side : Side) (t : T) :
    Cells.run (t.cells side) (t.rprog side 0) = (t.reset side).cells side := by
  rw [T.reset_eq_clear]
  simpa using T.run_rprog side t [] []

theorem T.mprog_of_clear (side : Side) (m : Msg) (t t0 : T) (h : t.clear = t0.clear) (off : Nat) :
    t0.mprog side m off = t.mprog side m off := by
  rw [← T.mprog_clear side m t0, ← T.mprog_clear side m t, h]

theorem T.rprog_of_clear (side : Side) (t t0 : T) (h : t.clear = t0.clear) (off : Nat) :
    t0.rprog side off = t.rprog side off := by
  rw [← T.rprog_clear side t0, ← T.rprog_clear side t, h]

theorem T.run_mprogs (side : Side) (t0 : T) : ∀ (ms : List Msg) (t : T), t.clear = t0.clear →
    Cells.run (t.cells side) (ms.map fun m => t0.mprog side m 0).flatten =
      (T.runOps side t (ms.map .traffic)).cells side
  | [], t, _ => by simp [Cells.run, T.runOps]
  | m :: ms, t, h => by
    have ih := T.run_mprogs side t0 ms (t.modify side m).1 (by rw [T.clear_modify, h])
    simp only [List.map_cons, List.flatten_cons, Cells.run_append, T.runOps, List.foldl_cons, T.stepOp]
    rw [T.mprog_of_clear side m t t0 h, T.run_mprog0]
    exact ih

theorem T.runOps_append (side : Side) (t : T) (h1 h2 : List Op) :
    T.runOps side t (h1 ++ h2) = T.runOps side (T.runOps side t h1) h2 :=
  List.foldl_append

theorem T.stepOp_clear (side : Side) (t : T) (op : Op) : (t.stepOp side op).clear = t.clear := by
  cases op <;> simp [T.stepOp, T.clear_modify, T.reset_eq_clear, T.clear_clear]

theorem T.stepOp_tracks (side : Side) (t : T) (op : Op) (acc : List Msg) (ht : t.tracks side acc) :
    (t.stepOp side op).tracks side (sinceStep acc op) := by
  cases op with
  | traffic m => exact T.tracks_modify side m t acc ht
  | query => exact ht
  | reset => exact (T.reset_eq_clear side t ▸ T.tracks_clear side t : (t.reset side).tracks side [])

theorem T.runOps_clear (side : Side) : ∀ (h : List Op) (t : T), (T.runOps side t h).clear = t.clear
  | [], _ => rfl
  | op :: h, t => (T.runOps_clear side h (t.stepOp side op)).trans (T.stepOp_clear side t op)

theorem T.runOps_tracks (side : Side) : ∀ (h : List Op) (t : T) (acc : List Msg), t.tracks side acc →
    (T.runOps side t h).tracks side (h.foldl sinceStep acc)
  | [], _, _, ht => ht
  | op :: h, t, acc, ht => T.runOps_tracks side h _ _ (T.stepOp_tracks side t op acc ht)

theorem T.report_runOps (side : Side) (t0 t : T) (acc : List Msg) (hc : t.clear = t0.clear) (ht : t.tracks side acc)
    (h : List Op) : handlerErrors ((T.runOps side t h).verify side) = t0.spec side (h.foldl sinceStep acc) := by
  rw [T.report_eq_spec side _ _ (T.runOps_tracks side h t acc ht), ← T.spec_clear, T.runOps_clear, hc, T.spec_clear]

theorem T.reports_append (side : Side) : ∀ (h1 h2 : List Op) (t : T),
    T.reports side t (h1 ++ h2) = T.reports side t h1 ++ T.reports side (T.runOps side t h1) h2
  | [], _, _ => rfl
  | .traffic m :: h1, h2, t => T.reports_append side h1 h2 (t.modify side m).1
  | .query :: h1, h2, t => congrArg (_ :: ·) (T.reports_append side h1 h2 t)
  | .reset :: h1, h2, t => T.reports_append side h1 h2 (t.reset side)

theorem T.reports_traffic (side : Side) : ∀ (ms : List Msg) (t : T), T.reports side t (ms.map .traffic) = []
  | [], _ => rfl
  | m :: ms, t => T.reports_traffic side ms (t.modify side m).1

theorem seq_phase_refine (side : Side) (t0 t : T) (h : t.clear = t0.clear) (ps : List Phase) : ∀ op : COp,
    runPhases Phase.seq (t.cells side) (op.phase side t0 :: ps) =
      let rest := runPhases Phase.seq ((T.runOps side t op.linear).cells side) ps
      (rest.1, T.reports side t op.linear ++ rest.2)
  | .batch ms σ => by
    simp only [runPhases, COp.phase, Phase.seq, COp.linear, T.run_mprogs side t0 ms t h, T.reports_traffic]
  | .query => by
    simp only [runPhases, COp.phase, Phase.seq, ← T.query_cells]
    rfl
  | .reset => by
    simp only [runPhases, COp.phase, Phase.seq, T.rprog_of_clear side t t0 h, T.run_rprog0]
    rfl

theorem seq_phases_refine (side : Side) (t0 : T) : ∀ (H : List COp) (t : T), t.clear = t0.clear →
    runPhases Phase.seq (t.cells side) (H.map (COp.phase side t0)) =
      ((T.runOps side t (H.flatMap COp.linear)).cells side, T.reports side t (H.flatMap COp.linear))
  | [], t, _ => rfl
  | op :: H, t, h => by
    rw [List.map_cons, seq_phase_refine side t0 t h, seq_phases_refine side t0 H _ (by rw [T.runOps_clear, h]),
      List.flatMap_cons, T.runOps_append, T.reports_append]

theorem T.reports_spec (side : Side) (t0 : T) : ∀ (h : List Op) (t : T) (acc : List Msg),
    t.clear = t0.clear → t.tracks side acc → T.reports side t h = specReports side t0 acc h
  | [], _, _, _, _ => rfl
  | .query :: h, t, acc, hc, ht => by
    rw [T.reports, specReports, T.reports_spec side t0 h t acc hc ht]
    exact congrArg (· :: _) (T.report_runOps side t0 t acc hc ht [])
  | .traffic m :: h, t, acc, hc, ht =>
    T.reports_spec side t0 h _ _ ((T.stepOp_clear side t (.traffic m)).trans hc) (T.stepOp_tracks side t (.traffic m) acc ht)
  | .reset :: h, t, acc, hc, ht =>
    T.reports_spec side t0 h _ _ ((T.stepOp_clear side t .reset).trans hc) (T.stepOp_tracks side t .reset acc ht)

theorem COp.phase_ok (side : Side) (t0 : T) (op : COp) (h : op.ok side t0) : (op.phase side t0).ok := by
  cases op with
  | batch ms σ => exact ⟨h, List.forall_mem_map.mpr fun m _ => T.mprog_isMod side m t0 0⟩
  | query => trivial
  | reset => trivial

end Martian.Verify
