import Martian.Model.ConfigCond
import Martian.Lemmas.Ascii
import Martian.Lemmas.Strings
/-!
Lemmas about the concrete matchers of C12 (`Model/ConfigCond.lean`): `MatchHost`, `ParseQuery`,
`proxyutil.Header.All`. Core Lean only.
-/
namespace Martian.Config
open Martian Martian.Go

theorem hostLoop_nostar (hr mr : Bytes) (hs : star ∉ mr) (hne : hr ≠ []) : hostLoop hr mr = true ↔ hr = mr := by
  fun_induction hostLoop hr mr with
  | case1 hr => simp [hne]
  | case2 hr m mr hm | case3 hr m mr hm =>
    -- the wildcard branch is never taken
    exact absurd (List.mem_cons.mpr (.inl (beq_iff_eq.mp hm).symm)) hs
  | case4 => exact absurd rfl hne
  | case5 m mr _ h hr' hh => simp [bne_iff_ne.mp hh]
  | case6 m mr _ h hr' hh he =>
    obtain rfl : h = m := by simpa using hh
    obtain rfl : hr' = [] := List.isEmpty_iff.mp he
    rw [List.isEmpty_iff, List.cons.injEq, eq_self, true_and, eq_comm]
  | case7 m mr _ h hr' hh he ih =>
    obtain rfl : h = m := by simpa using hh
    rw [ih (fun hm => hs (List.mem_cons_of_mem _ hm)) (by simpa using he), List.cons.injEq, eq_self, true_and]

theorem skipLabel_nodot (r : Bytes) (hne : r ≠ []) (hd : dotB ∉ r) : (skipLabel r).length = 1 := by
  fun_induction skipLabel r <;> simp_all

theorem hostLoop_common (x hr mr : Bytes) (hs : star ∉ x) (hne : hr ≠ []) :
    hostLoop (x ++ hr) (x ++ mr) = hostLoop hr mr := by
  induction x with
  | nil => rfl
  | cons c x ih =>
    have hc : c ≠ star := fun h => hs (h ▸ List.mem_cons_self ..)
    have hx : (x ++ hr).isEmpty = false := by cases x <;> simp [hne]
    simp only [List.cons_append, hostLoop, beq_iff_eq, hc, if_false, bne_self_eq_false, Bool.false_eq_true, hx]
    exact ih fun h => hs (List.mem_cons_of_mem _ h)

theorem urlMatches_iff (m : Message) (s h p q : Bytes) :
    urlMatches m s h p q = true ↔
      (s = [] ∨ s = m.scheme) ∧ (h = [] ∨ matchHost m.host h = true) ∧ (p = [] ∨ p = m.path) ∧ (q = [] ∨ q = m.rawQuery) := by
  have guard : ∀ (c r : Bool), (if c then false else r) = true ↔ c = false ∧ r = true := by
    intro c r; cases c <;> simp
  have seg : ∀ (x : Bytes) (b : Bool), (!x.isEmpty && !b) = false ↔ x = [] ∨ b = true := by
    intro x b; cases x <;> cases b <;> simp
  simp only [urlMatches, bne, guard, seg, beq_iff_eq, and_true]

theorem queryUnescape_plain (s : Bytes) (h : ∀ c ∈ s, c ≠ 37 ∧ c ≠ 43) : queryUnescape s = some s := by
  fun_induction queryUnescape s <;> simp_all

theorem parseQuery_append (a b : Bytes) : parseQuery (a ++ 38 :: b) = parseQuery a ++ parseQuery b := by
  rw [parseQuery, split_append_sep, List.filterMap_append]; rfl

theorem parseQuery_nil : parseQuery [] = [] := by decide

theorem cut_append (sep : UInt8) (k v : Bytes) (h : sep ∉ k) : cut (k ++ sep :: v) sep = (k, v) := by
  have hk : ∀ a ∈ k, (a != sep) = true := fun a ha => bne_iff_ne.mpr fun e => h (e ▸ ha)
  simp [cut, List.takeWhile_append_of_pos hk, List.dropWhile_append_of_pos hk]

/-- bytes that mean themselves in a query string -/
def plainQ (s : Bytes) : Prop := ∀ c ∈ s, c ≠ 37 ∧ c ≠ 43 ∧ c ≠ 38 ∧ c ≠ 59 ∧ c ≠ 61

theorem piece_plain {k v : Bytes} (hk : plainQ k) (hv : plainQ v) : ∀ c ∈ k ++ 61 :: v, c ≠ 38 ∧ c ≠ 59 := by
  intro c hc
  rcases List.mem_append.mp hc with h | h
  · exact ⟨(hk c h).2.2.1, (hk c h).2.2.2.1⟩
  · rcases List.mem_cons.mp h with rfl | h
    · decide
    · exact ⟨(hv c h).2.2.1, (hv c h).2.2.2.1⟩

theorem queryPiece_plain (k v : Bytes) (hk : plainQ k) (hv : plainQ v) :
    queryPiece (k ++ 61 :: v) = some (k, v) := by
  have h59 : (k ++ 61 :: v).contains 59 = false := by simpa using fun h => (piece_plain hk hv 59 h).2 rfl
  have hemp : (k ++ 61 :: v).isEmpty = false := by cases k <;> rfl
  simp only [queryPiece, h59, hemp, Bool.false_eq_true, if_false, cut_append 61 k v fun h => (hk 61 h).2.2.2.2 rfl]
  rw [queryUnescape_plain k fun c hc => ⟨(hk c hc).1, (hk c hc).2.1⟩,
      queryUnescape_plain v fun c hc => ⟨(hv c hc).1, (hv c hc).2.1⟩]

theorem parseQuery_piece_plain (k v : Bytes) (hk : plainQ k) (hv : plainQ v) :
    parseQuery (k ++ 61 :: v) = [(k, v)] := by
  simp [parseQuery, split_of_not_mem _ 38 fun h => (piece_plain hk hv 38 h).1 rfl, queryPiece_plain k v hk hv]

/-- `k1=v1&k2=v2&…` -/
def renderQuery : List (Bytes × Bytes) → Bytes
  | [] => []
  | [p] => p.1 ++ 61 :: p.2
  | p :: q :: r => (p.1 ++ 61 :: p.2) ++ 38 :: renderQuery (q :: r)

/-- An empty name is no exception: `=v` is the parameter `""` with value `v`. -/
theorem parseQuery_render (ps : List (Bytes × Bytes)) (h : ∀ p ∈ ps, plainQ p.1 ∧ plainQ p.2) :
    parseQuery (renderQuery ps) = ps := by
  fun_induction renderQuery ps with
  | case1 => exact parseQuery_nil
  | case2 p => have hp := h p (List.mem_cons_self ..); exact parseQuery_piece_plain p.1 p.2 hp.1 hp.2
  | case3 p q r ih =>
    have hp := h p (List.mem_cons_self ..)
    rw [parseQuery_append, parseQuery_piece_plain p.1 p.2 hp.1 hp.2, ih fun x hx => h x (List.mem_cons_of_mem _ hx)]
    rfl

theorem any_name_value (l : List (Bytes × Bytes)) (n v : Bytes) :
    (l.any fun kv => n == kv.1 && (v.isEmpty || v == kv.2)) = true ↔ ∃ kv ∈ l, kv.1 = n ∧ (v = [] ∨ kv.2 = v) := by
  simp only [List.any_eq_true, Bool.and_eq_true, Bool.or_eq_true, beq_iff_eq, List.isEmpty_iff]
  exact exists_congr fun kv => and_congr_right fun _ => and_congr eq_comm (or_congr_right eq_comm)

theorem headerAll_plain {h : Header} {host : Bytes} {cl : Int} {te : Option (List Bytes)} {name : Bytes}
    (hp : canonKey name ≠ hostKey ∧ canonKey name ≠ clKey ∧ canonKey name ≠ teKey) :
    headerAll h host cl te name = (h.find? (·.1 == canonKey name)).map (·.2) := by
  simp [headerAll, hp]

end Martian.Config
