import Martian.Model.VerifyLocks
/-! Helper lemmas for the lock discipline of C13. -/
namespace Martian.Verify
open Martian

/-- The access holds the mutex `mu` of the very object it touches, for writing if it writes. -/
def selfGuarded (a : Access) : Prop :=
  ∃ h ∈ a.held, h.owner = a.owner ∧ h.mu = "mu" ∧ (a.write = true → h.w = true)

theorem excl_of_common (a b : Access) (h1 h2 : Held) (m1 : h1 ∈ a.held) (m2 : h2 ∈ b.held)
    (ho : h1.owner = h2.owner) (hm : h1.mu = h2.mu) (hw : h1.w = true ∨ h2.w = true) : excl a b = true := by
  simp only [excl, List.any_eq_true]
  refine ⟨h1, m1, h2, m2, ?_⟩
  rcases hw with hw | hw <;> simp [ho, hm, hw]

theorem excl_of_selfGuarded {a b : Access} (ha : selfGuarded a) (hb : selfGuarded b) (ho : a.owner = b.owner)
    (hw : a.write = true ∨ b.write = true) : excl a b = true := by
  obtain ⟨h1, m1, o1, n1, w1⟩ := ha
  obtain ⟨h2, m2, o2, n2, w2⟩ := hb
  refine excl_of_common a b h1 h2 m1 m2 (by rw [o1, o2, ho]) (by rw [n1, n2]) ?_
  rcases hw with hw | hw
  · exact Or.inl (w1 hw)
  · exact Or.inr (w2 hw)

theorem mem_mkHeld (o : Owner) (hs : List (String × Bool)) (h : String × Bool) (hm : h ∈ hs) :
    (⟨o, h.1, h.2⟩ : Held) ∈ mkHeld o hs :=
  List.mem_map_of_mem hm

theorem selfGuarded_of_ownGuarded (k : OpK) (o : Owner) (typ : String) (g : Fact) (ctx : List Held)
    (hg : g.ownGuarded = true) : selfGuarded ⟨k, o, typ, g.name, g.write, ctx ++ mkHeld o g.held⟩ := by
  simp only [Fact.ownGuarded, List.any_eq_true, Bool.and_eq_true, Bool.or_eq_true, beq_iff_eq] at hg
  obtain ⟨h, hm, hmu, hw⟩ := hg
  exact ⟨⟨o, h.1, h.2⟩, List.mem_append_right _ (mem_mkHeld o _ h hm), rfl, hmu,
    fun hwr => hw.resolve_left (by simp [show g.write = true from hwr])⟩

theorem OpK.mem_allOps (k : OpK) : k ∈ allOps := by cases k <;> simp [allOps]

theorem mem_meAcc {k : OpK} {p : List Nat} {ctx : List Held} {method : String} {a : Access}
    (ha : a ∈ meAcc k p ctx method) : ∃ g ∈ meFactsOf method, g.isCall = false ∧
      a = ⟨k, .cell p, "MultiError", g.name, g.write, ctx ++ mkHeld (.cell p) g.held⟩ := by
  simp only [meAcc, List.mem_filterMap] at ha
  obtain ⟨g, hg, hga⟩ := ha
  cases hc : g.isCall
  · simp only [hc, Bool.false_eq_true, if_false, Option.some.injEq] at hga
    exact ⟨g, hg, hc, hga.symm⟩
  · simp [hc] at hga

theorem mem_leafAcc {typ : String} {side : Side} {k : OpK} {p : List Nat} {ctx : List Held} {a : Access}
    (ha : a ∈ leafAcc typ side k p ctx) :
    (∃ c method, a ∈ meAcc k p c method) ∨
    ∃ f ∈ factsOf typ side k, f.isCall = false ∧ isMutable typ side f.name = true ∧
      a = ⟨k, .node p, typ, f.name, f.write, ctx ++ mkHeld (.node p) f.held⟩ := by
  simp only [leafAcc, List.mem_append, List.mem_flatMap] at ha
  rcases ha with ⟨f, hf, ha⟩ | ha
  · cases hc : f.isCall
    · simp only [hc, Bool.false_eq_true, if_false] at ha
      by_cases hm : isMutable typ side f.name = true
      · rw [if_pos hm, List.mem_singleton] at ha
        exact Or.inr ⟨f, hf, hc, hm, ha⟩
      · rw [if_neg hm] at ha
        cases ha
    · rw [hc, if_pos rfl] at ha
      exact Or.inl ⟨_, _, ha⟩
  · by_cases hk : k = .verify
    · rw [if_pos hk] at ha
      exact Or.inl ⟨_, _, ha⟩
    · rw [if_neg hk] at ha
      cases ha

theorem meAcc_ok (hF : factMultiErrorLocked = true) {k : OpK} {p : List Nat} {ctx : List Held} {method : String}
    {a : Access} (ha : a ∈ meAcc k p ctx method) : a.k = k ∧ a.owner = .cell p ∧ selfGuarded a := by
  obtain ⟨g, hg, hc, rfl⟩ := mem_meAcc ha
  refine ⟨rfl, rfl, selfGuarded_of_ownGuarded k (.cell p) "MultiError" g ctx ?_⟩
  simp only [meFactsOf] at hg
  cases hl : Generated.Verify.multiErrorLockFacts.lookup method with
  | none => rw [hl] at hg; cases hg
  | some v =>
    rw [hl] at hg
    obtain ⟨l₁, l₂, e, _⟩ := List.lookup_eq_some_iff.mp hl
    simp only [factMultiErrorLocked, List.all_eq_true] at hF
    have := hF (method, v) (by rw [e]; simp) g hg
    simpa [hc] using this

/-- What the walk guarantees of an access made below ancestors holding `ctx`: a `MultiError`'s field
under that object's mutex, or a mutable field of a verifier, touched as one of the facts of its type
says, with the ancestors' mutexes still held. -/
def accInv (side : Side) (k : OpK) (ctx : List Held) (a : Access) : Prop :=
  ((∃ q, a.owner = .cell q) ∧ selfGuarded a) ∨
  ((∃ q, a.owner = .node q) ∧ (∀ h ∈ ctx, h ∈ a.held) ∧ a.typ ∈ verifierTyps ∧
    ∃ f ∈ factsOf a.typ side k, f.isCall = false ∧ isMutable a.typ side f.name = true ∧ f.name = a.field ∧
      f.write = a.write ∧ (f.ownGuarded = true → selfGuarded a))

theorem accInv_up {side : Side} {k : OpK} (ctx c : List Held) {a : Access} (h : accInv side k (ctx ++ c) a) :
    accInv side k ctx a :=
  h.imp_right fun ⟨ho, hc, hr⟩ => ⟨ho, fun x hx => hc x (List.mem_append_left _ hx), hr⟩

theorem leafAcc_inv (hF : factMultiErrorLocked = true) (side : Side) (k : OpK) (typ : String) (ht : typ ∈ verifierTyps)
    (ctx : List Held) (p : List Nat) : ∀ a ∈ leafAcc typ side k p ctx, accInv side k ctx a := by
  intro a ha
  rcases mem_leafAcc ha with ⟨c, method, hm⟩ | ⟨f, hf, hc, hm, rfl⟩
  · obtain ⟨_, ho, hs⟩ := meAcc_ok hF hm
    exact Or.inl ⟨⟨p, ho⟩, hs⟩
  · exact Or.inr ⟨⟨p, rfl⟩, fun h hh => List.mem_append_left _ hh, ht, f, hf, hc, hm, rfl, rfl,
      selfGuarded_of_ownGuarded k (.node p) typ f ctx⟩

theorem leafAcc_selfGuarded (hF : factMultiErrorLocked = true) {typ : String} {side : Side}
    (hT : typOwnGuarded typ side = true) (k : OpK) (ctx : List Held) (p : List Nat) :
    ∀ a ∈ leafAcc typ side k p ctx, selfGuarded a := by
  intro a ha
  rcases mem_leafAcc ha with ⟨c, method, hm⟩ | ⟨f, hf, hc, hm, rfl⟩
  · exact (meAcc_ok hF hm).2.2
  · simp only [typOwnGuarded, List.all_eq_true] at hT
    have := hT k k.mem_allOps f hf
    exact selfGuarded_of_ownGuarded k (.node p) typ f ctx (by simpa [hc, hm] using this)

def Owner.under (p : List Nat) : Owner → Prop
  | .root => False
  | .node q => p <+: q
  | .cell q => p <+: q

theorem Owner.under_mono {p p' : List Nat} (h : p <+: p') : ∀ {o : Owner}, o.under p' → o.under p
  | .root, hu => hu
  | .node _, hu => List.IsPrefix.trans h hu
  | .cell _, hu => List.IsPrefix.trans h hu

theorem leafAcc_owner (side : Side) (k : OpK) (typ : String) (ctx : List Held) (p : List Nat) :
    ∀ a ∈ leafAcc typ side k p ctx, a.owner.under p := by
  intro a ha
  rcases mem_leafAcc ha with ⟨c, method, hm⟩ | ⟨f, _, _, _, rfl⟩
  · obtain ⟨g, _, _, rfl⟩ := mem_meAcc hm
    exact List.prefix_refl p
  · exact List.prefix_refl p

theorem Kind.typ_mem (kind : Kind) : kind.typ ∈ verifierTyps := by
  cases kind <;> simp [Kind.typ, verifierTyps]

theorem T.mem_acc_hide {side : Side} {k : OpK} {ctx : List Held} {p : List Nat} {t : T} {a : Access}
    (ha : a ∈ (T.hide t).acc side k ctx p) : k = .modify ∧
      a ∈ t.acc side k (ctx ++ mkHeld (.node p) (heldAtChildCall "priority.Group" side k)) (p ++ [0]) := by
  simp only [T.acc] at ha
  by_cases hk : k = .modify
  · rw [if_pos hk] at ha
    exact ⟨hk, ha⟩
  · rw [if_neg hk] at ha
    cases ha

mutual
/-- Induction over the accesses of a tree: a property that the accesses of every verifier have (`leaf`) and
that is inherited from the child at index `i`, entered with the mutexes `c` taken on the way (`up`), holds of
every access of the tree. -/
theorem T.acc_forall (side : Side) (k : OpK) (P : List Held → List Nat → Access → Prop)
    (leaf : ∀ typ ∈ verifierTyps, ∀ ctx p, ∀ a ∈ leafAcc typ side k p ctx, P ctx p a)
    (up : ∀ ctx c p i a, P (ctx ++ c) (p ++ [i]) a → P ctx p a) :
    ∀ (t : T) (ctx : List Held) (p : List Nat), ∀ a ∈ t.acc side k ctx p, P ctx p a
  | .ver kind _, ctx, p => leaf kind.typ kind.typ_mem ctx p
  | .ping .., ctx, p => leaf "pingback.Verifier" (by simp [verifierTyps]) ctx p
  | .nop, _, _ | .fail, _, _ => fun _ ha => nomatch ha
  | .group _ ms, ctx, p => fun a ha =>
    (TL.acc_forall side k P leaf up ms _ p 0 a ha).elim fun i h => up ctx _ p i a h
  | .filter _ t f, ctx, p => by
    intro a ha
    simp only [T.acc, List.mem_append] at ha
    rcases ha with ha | ha
    · exact up _ _ _ 0 a (T.acc_forall side k P leaf up t _ _ a ha)
    · exact up _ _ _ 1 a (T.acc_forall side k P leaf up f _ _ a ha)
  | .hide t, ctx, p => fun a ha => up _ _ _ 0 a (T.acc_forall side k P leaf up t _ _ a (T.mem_acc_hide ha).2)
theorem TL.acc_forall (side : Side) (k : OpK) (P : List Held → List Nat → Access → Prop)
    (leaf : ∀ typ ∈ verifierTyps, ∀ ctx p, ∀ a ∈ leafAcc typ side k p ctx, P ctx p a)
    (up : ∀ ctx c p i a, P (ctx ++ c) (p ++ [i]) a → P ctx p a) :
    ∀ (l : TL) (ctx : List Held) (p : List Nat) (i : Nat), ∀ a ∈ l.acc side k ctx p i, ∃ j, P ctx (p ++ [j]) a
  | .nil, _, _, _ => fun _ ha => nomatch ha
  | .cons t l, ctx, p, i => by
    intro a ha
    simp only [TL.acc, List.mem_append] at ha
    rcases ha with ha | ha
    · exact ⟨i, T.acc_forall side k P leaf up t ctx _ a ha⟩
    · exact TL.acc_forall side k P leaf up l ctx p (i + 1) a ha
end

theorem T.acc_inv (hF : factMultiErrorLocked = true) (side : Side) (k : OpK) (t : T) (ctx : List Held) (p : List Nat) :
    ∀ a ∈ t.acc side k ctx p, accInv side k ctx a :=
  T.acc_forall side k (fun ctx _ a => accInv side k ctx a) (leafAcc_inv hF side k) (fun ctx c _ _ _ => accInv_up ctx c)
    t ctx p

theorem TL.acc_inv (hF : factMultiErrorLocked = true) (side : Side) (k : OpK) (l : TL) (ctx : List Held) (p : List Nat)
    (i : Nat) : ∀ a ∈ l.acc side k ctx p i, accInv side k ctx a := fun a ha =>
  (TL.acc_forall side k (fun ctx _ a => accInv side k ctx a) (leafAcc_inv hF side k) (fun ctx c _ _ _ => accInv_up ctx c)
    l ctx p i a ha).elim fun _ h => h

theorem T.acc_owner (side : Side) (k : OpK) (t : T) (ctx : List Held) (p : List Nat) :
    ∀ a ∈ t.acc side k ctx p, a.owner.under p :=
  T.acc_forall side k (fun _ p a => a.owner.under p) (fun typ _ => leafAcc_owner side k typ)
    (fun _ _ p i _ => Owner.under_mono (List.prefix_append p [i])) t ctx p

theorem TL.acc_owner (side : Side) (k : OpK) : ∀ (l : TL) (ctx : List Held) (p : List Nat) (i : Nat),
    ∀ a ∈ l.acc side k ctx p i, a.owner.under p := fun l ctx p i a ha =>
  (TL.acc_forall side k (fun _ p a => a.owner.under p) (fun typ _ => leafAcc_owner side k typ)
    (fun _ _ p i _ => Owner.under_mono (List.prefix_append p [i])) l ctx p i a ha).elim
      fun j => Owner.under_mono (List.prefix_append p [j])

theorem sameLoc_eq {a b : Access} (h : sameLoc a b = true) : a.owner = b.owner ∧ a.typ = b.typ ∧ a.field = b.field := by
  simpa [sameLoc, and_assoc] using h

/-- The lockset discipline for the subtree `t` at path `p`, entered by operation `k` with `ctx k` held: any
two accesses of any two operations to the same location, one of them a write, hold a common mutex, one of
them for writing. -/
def pairsOk (side : Side) (t : T) (ctx : OpK → List Held) (p : List Nat) : Prop :=
  ∀ k1 k2, ∀ a ∈ t.acc side k1 (ctx k1) p, ∀ b ∈ t.acc side k2 (ctx k2) p,
    sameLoc a b = true → (a.write = true ∨ b.write = true) → excl a b = true

theorem raceFreeB_of_pairs (w : Wiring) (side : Side) (t : T) (h : pairsOk side t (rootCtx w side) []) :
    raceFreeB w side t = true := by
  simp only [raceFreeB, List.all_eq_true]
  intro k1 _ k2 _ a ha b hb
  simp only [pairOk, Bool.or_eq_true, Bool.not_eq_true', Bool.and_eq_false_iff]
  by_cases hl : sameLoc a b = true
  · by_cases hw : (a.write || b.write) = true
    · exact Or.inr (h k1 k2 a ha b hb hl (by simpa using hw))
    · exact Or.inl (Or.inr (by simpa using hw))
  · exact Or.inl (Or.inl (by simpa using hl))

theorem T.acc_selfGuarded (hF : factMultiErrorLocked = true) (hN : factNoUnguardedField = true) (side : Side) (k : OpK)
    (t : T) (ctx : List Held) (p : List Nat) : ∀ a ∈ t.acc side k ctx p, selfGuarded a := by
  refine T.acc_forall side k (fun _ _ a => selfGuarded a) (fun typ ht ctx p => ?_) (fun _ _ _ _ _ h => h) t ctx p
  simp only [factNoUnguardedField, List.all_eq_true, Bool.and_eq_true] at hN
  exact leafAcc_selfGuarded hF (by cases side <;> simp [hN typ ht]) k ctx p

theorem fieldOk_of (hD : factFieldsDisciplined = true) {typ : String} (ht : typ ∈ verifierTyps) (side : Side) (k : OpK)
    (f : Fact) (hf : f ∈ factsOf typ side k) (hc : f.isCall = false) (hm : isMutable typ side f.name = true) :
    fieldOk typ side f.name = true := by
  simp only [factFieldsDisciplined, List.all_eq_true, Bool.and_eq_true] at hD
  have hs : typFieldsOk typ side = true := by cases side <;> simp [hD typ ht]
  simp only [typFieldsOk, List.all_eq_true] at hs
  simpa [hc, hm] using hs k k.mem_allOps f hf

/-- Either the object's own mutex orders the pair, or the field is one that only reset walks write and
both accesses still hold whatever their ancestors held. -/
theorem pair_excl_or (hD : factFieldsDisciplined = true) (side : Side) {k1 k2 : OpK} {c1 c2 : List Held} {a b : Access}
    (ha : accInv side k1 c1 a) (hb : accInv side k2 c2 b) (hl : sameLoc a b = true)
    (hw : a.write = true ∨ b.write = true) :
    excl a b = true ∨ ((∀ h ∈ c1, h ∈ a.held) ∧ (∀ h ∈ c2, h ∈ b.held) ∧
      (a.write = true → k1 = .reset) ∧ (b.write = true → k2 = .reset)) := by
  obtain ⟨ho, hty, hfd⟩ := sameLoc_eq hl
  rcases ha with ⟨⟨q, hq⟩, sa⟩ | ⟨⟨q, hq⟩, ca, ta, fa, hfa, nca, ma, na, wa, ga⟩
  · rcases hb with ⟨_, sb⟩ | ⟨⟨q', hq'⟩, _⟩
    · exact Or.inl (excl_of_selfGuarded sa sb ho hw)
    · rw [hq, hq'] at ho; cases ho
  · rcases hb with ⟨⟨q', hq'⟩, _⟩ | ⟨_, cb, tb, fb, hfb, ncb, mb, nb, wb, gb⟩
    · rw [hq, hq'] at ho; cases ho
    · have hok := fieldOk_of hD ta side k1 fa hfa nca ma
      simp only [fieldOk, Bool.or_eq_true, List.all_eq_true] at hok
      rw [← hty] at hfb
      have e2 : fb.name = fa.name := by rw [nb, na, hfd]
      rcases hok with hg | hr
      · have g1 : fa.ownGuarded = true := by simpa [nca] using hg k1 k1.mem_allOps fa hfa
        have g2 : fb.ownGuarded = true := by simpa [ncb, e2] using hg k2 k2.mem_allOps fb hfb
        exact Or.inl (excl_of_selfGuarded (ga g1) (gb g2) ho hw)
      · have r1 : fa.write = false ∨ k1 = .reset := by simpa [nca] using hr k1 k1.mem_allOps fa hfa
        have r2 : fb.write = false ∨ k2 = .reset := by simpa [ncb, e2] using hr k2 k2.mem_allOps fb hfb
        exact Or.inr ⟨ca, cb, fun h => r1.resolve_left (by simp [wa, h]), fun h => r2.resolve_left (by simp [wb, h])⟩

/-- A mutex `(o, mu)` that every operation kind holds (`L k ∈ ctx k`), the reset walk for writing. -/
structure CommonLock (ctx : OpK → List Held) where
  o : Owner
  mu : String
  w : OpK → Bool
  mem : ∀ k, (⟨o, mu, w k⟩ : Held) ∈ ctx k
  excl : w .reset = true

theorem pair_excl (hD : factFieldsDisciplined = true) (side : Side) (ctx : OpK → List Held) (L : CommonLock ctx)
    {k1 k2 : OpK} {a b : Access} (ha : accInv side k1 (ctx k1) a) (hb : accInv side k2 (ctx k2) b)
    (hl : sameLoc a b = true) (hw : a.write = true ∨ b.write = true) : excl a b = true := by
  rcases pair_excl_or hD side ha hb hl hw with h | ⟨ca, cb, wa, wb⟩
  · exact h
  · refine excl_of_common a b _ _ (ca _ (L.mem k1)) (cb _ (L.mem k2)) rfl rfl ?_
    rcases hw with hw | hw
    · exact Or.inl (wa hw ▸ L.excl)
    · exact Or.inr (wb hw ▸ L.excl)

theorem commonLock_of_exclusiveReset {typ : String} {side : Side} (h : exclusiveReset typ side = true) (o : Owner)
    (ctx : OpK → List Held) (hsub : ∀ k, ∀ x ∈ mkHeld o (heldAtChildCall typ side k), x ∈ ctx k) :
    Nonempty (CommonLock ctx) := by
  simp only [exclusiveReset, List.any_eq_true, Bool.and_eq_true, beq_iff_eq] at h
  obtain ⟨hr, hrm, ⟨hrw, ⟨hm, hmm, hme⟩⟩, ⟨hv, hvm, hve⟩⟩ := h
  refine ⟨⟨o, hr.1, fun k => match k with | .modify => hm.2 | .verify => hv.2 | .reset => hr.2, ?_, hrw⟩⟩
  intro k
  apply hsub
  cases k
  · exact hme ▸ mem_mkHeld o _ hm hmm
  · exact hve ▸ mem_mkHeld o _ hv hvm
  · exact mem_mkHeld o _ hr hrm

theorem rootLock (hR : factRootExclusiveReset = true) (side : Side) :
    Nonempty (CommonLock (rootCtx .martianhttp side)) := by
  simp only [factRootExclusiveReset, Bool.and_eq_true] at hR
  exact commonLock_of_exclusiveReset (typ := "martianhttp.Modifier") (by cases side <;> simp [hR]) .root _ fun _ _ hx => hx

theorem branches_disjoint (p : List Nat) (o : Owner) (h0 : o.under (p ++ [0])) (h1 : o.under (p ++ [1])) : False := by
  have key : ∀ q : List Nat, (p ++ [0]) <+: q → (p ++ [1]) <+: q → False := by
    intro q h0 h1
    have := (List.prefix_of_prefix_length_le h0 h1 (by simp)).eq_of_length (by simp)
    simp at this
  cases o with
  | root => exact h0
  | node q => exact key q h0 h1
  | cell q => exact key q h0 h1

theorem T.covered_pairsOk (hF : factMultiErrorLocked = true) (hD : factFieldsDisciplined = true)
    (hG : factGroupExclusiveReset = true) (side : Side) (hP : typOwnGuarded "pingback.Verifier" side = true) :
    ∀ (t : T) (ctx : OpK → List Held) (p : List Nat), t.covered = true → pairsOk side t ctx p
  | .ver .., _, _, hc => nomatch hc
  | .ping .., ctx, p, _ => fun k1 k2 a ha b hb hl hw =>
    excl_of_selfGuarded (leafAcc_selfGuarded hF hP k1 _ p a ha) (leafAcc_selfGuarded hF hP k2 _ p b hb)
      (sameLoc_eq hl).1 hw
  | .nop, _, _, _ | .fail, _, _, _ => fun _ _ _ ha => nomatch ha
  | .group _ ms, ctx, p, _ => by
    intro k1 k2 a ha b hb hl hw
    simp only [factGroupExclusiveReset, Bool.and_eq_true] at hG
    obtain ⟨L⟩ := commonLock_of_exclusiveReset (typ := "fifo.Group") (side := side) (by cases side <;> simp [hG]) (.node p)
      (fun k => ctx k ++ mkHeld (.node p) (heldAtChildCall "fifo.Group" side k)) fun _ _ hx => List.mem_append_right _ hx
    exact pair_excl hD side _ L (TL.acc_inv hF side k1 ms _ p 0 a ha) (TL.acc_inv hF side k2 ms _ p 0 b hb) hl hw
  | .hide t, ctx, p, _ => by
    -- only exchanges enter: neither access belongs to a reset walk, so the verifier's own mutex it is
    intro k1 k2 a ha b hb hl hw
    obtain ⟨rfl, ha⟩ := T.mem_acc_hide ha
    obtain ⟨rfl, hb⟩ := T.mem_acc_hide hb
    rcases pair_excl_or hD side (T.acc_inv hF side .modify t _ _ a ha) (T.acc_inv hF side .modify t _ _ b hb) hl hw
      with h | ⟨_, _, wa, wb⟩
    · exact h
    · exact nomatch hw.elim wa wb
  | .filter _ t f, ctx, p, hc => by
    simp only [T.covered, Bool.and_eq_true] at hc
    intro k1 k2 a ha b hb hl hw
    simp only [T.acc, List.mem_append] at ha hb
    let ctx' : OpK → List Held := fun k => ctx k ++ mkHeld (.node p) (heldAtChildCall "filter.Filter" side k)
    have iht := T.covered_pairsOk hF hD hG side hP t ctx' (p ++ [0]) hc.1
    have ihf := T.covered_pairsOk hF hD hG side hP f ctx' (p ++ [1]) hc.2
    obtain ⟨ho, _, _⟩ := sameLoc_eq hl
    rcases ha with ha | ha <;> rcases hb with hb | hb
    · exact iht k1 k2 a ha b hb hl hw
    · exact (branches_disjoint p a.owner (T.acc_owner side k1 t _ _ a ha) (ho ▸ T.acc_owner side k2 f _ _ b hb)).elim
    · exact (branches_disjoint p a.owner (ho ▸ T.acc_owner side k2 t _ _ b hb) (T.acc_owner side k1 f _ _ a ha)).elim
    · exact ihf k1 k2 a ha b hb hl hw

/-- Three unrelated closed facts about the regenerated tables, each read off by evaluation. They stand in one
conjunction only because the tables are then read once (lookups are shared inside a declaration, not between
declarations): the five lock facts of `Props.C13.facts_lock_discipline`; pingback's own guard, on both sides;
and the alternative of `Props.C13.reset_swap_status`, `factNoUnguardedField` or else the two smallest trees it
leaves racy. -/
theorem lock_tables :
    (factMultiErrorLocked = true ∧ factRootExclusiveReset = true ∧ factGroupExclusiveReset = true ∧
      factGroupExclusiveVerify = true ∧ factFieldsDisciplined = true) ∧
    (typOwnGuarded "pingback.Verifier" .req = true ∧ typOwnGuarded "pingback.Verifier" .res = true) ∧
    (factNoUnguardedField = true ∨
      (factNoUnguardedField = false ∧ raceFreeB .direct .res (.ver (.status 200) []) = false ∧
        raceFreeB .direct .res (.filter (.method []) (.ver (.status 200) []) .nop) = false)) := by
  decide +kernel

theorem LockTable.wf_nil : LockTable.wf [] := by intro e1 h; cases h

theorem LockTable.wf_step {lt lt' : LockTable} (h : lt.wf) (ev : LockEv) (hs : lt.step ev = some lt') : lt'.wf := by
  cases ev with
  | acquire tid o mu w =>
    simp only [LockTable.step] at hs
    by_cases hc : lt.canAcquire tid o mu w = true
    · simp only [hc, if_true, Option.some.injEq] at hs
      subst hs
      simp only [LockTable.canAcquire, List.all_eq_true] at hc
      have clash : ∀ e ∈ lt, e.2.owner = o → e.2.mu = mu → (w = true ∨ e.2.w = true) → False := by
        intro e he ho hm hw
        have := hc e he
        simp only [ho, hm, beq_self_eq_true, Bool.and_self, Bool.not_true, Bool.false_or, Bool.and_eq_true,
          Bool.not_eq_true'] at this
        rcases hw with hw | hw
        · rw [hw] at this; exact absurd this.1.2 (by simp)
        · rw [hw] at this; exact absurd this.2 (by simp)
      intro e1 h1 e2 h2 ho hm hw
      rcases List.mem_cons.mp h1 with r1 | r1 <;> rcases List.mem_cons.mp h2 with r2 | r2
      · rw [r1, r2]
      · subst r1; exact (clash e2 r2 ho.symm hm.symm hw).elim
      · subst r2; exact (clash e1 r1 ho hm hw.symm).elim
      · exact h e1 r1 e2 r2 ho hm hw
    · simp [hc] at hs
  | release tid o mu w =>
    simp only [LockTable.step, Option.some.injEq] at hs
    subst hs
    intro e1 h1 e2 h2
    exact h e1 (List.mem_of_mem_erase h1) e2 (List.mem_of_mem_erase h2)

theorem LockTable.wf_run : ∀ (evs : List LockEv) {lt lt' : LockTable}, lt.wf → lt.run evs = some lt' → lt'.wf
  | [], _, _, h, hr => by simp only [LockTable.run, Option.some.injEq] at hr; exact hr ▸ h
  | ev :: evs, lt, lt', h, hr => by
    simp only [LockTable.run] at hr
    cases hs : lt.step ev with
    | none => simp [hs] at hr
    | some lt1 =>
      simp only [hs] at hr
      exact LockTable.wf_run evs (LockTable.wf_step h ev hs) hr

end Martian.Verify
