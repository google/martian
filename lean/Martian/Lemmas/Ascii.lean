import Martian.Go.Header
/-!
ASCII case folding on bytes (`toLowerB`, `toUpperB`) and what it does to header-field tokens and
to `http.CanonicalHeaderKey`. The byte facts are argued on `UInt8.toNat`: each folding moves one
range of letters onto the other and fixes every other byte.
-/
namespace Martian
open Martian.Go

theorem toLowerB_toNat (c : UInt8) :
    65 ≤ c.toNat ∧ c.toNat ≤ 90 ∧ (toLowerB c).toNat = c.toNat + 32 ∨
    ¬(65 ≤ c.toNat ∧ c.toNat ≤ 90) ∧ (toLowerB c).toNat = c.toNat := by
  unfold toLowerB
  simp only [UInt8.le_iff_toNat_le]
  split
  · next h =>
    refine Or.inl ⟨h.1, h.2, ?_⟩
    have h90 : c.toNat ≤ 90 := h.2
    rw [UInt8.toNat_add]
    show (c.toNat + 32) % 256 = _
    omega
  · next h => exact Or.inr ⟨h, rfl⟩

theorem toUpperB_toNat (c : UInt8) :
    97 ≤ c.toNat ∧ c.toNat ≤ 122 ∧ (toUpperB c).toNat = c.toNat - 32 ∨
    ¬(97 ≤ c.toNat ∧ c.toNat ≤ 122) ∧ (toUpperB c).toNat = c.toNat := by
  unfold toUpperB
  simp only [UInt8.le_iff_toNat_le]
  split
  · next h =>
    have h32 : (32 : UInt8) ≤ c := UInt8.le_iff_toNat_le.mpr (Nat.le_trans (by decide) h.1)
    exact Or.inl ⟨h.1, h.2, UInt8.toNat_sub_of_le _ _ h32⟩
  · next h => exact Or.inr ⟨h, rfl⟩

theorem toUpperB_idem (c : UInt8) : toUpperB (toUpperB c) = toUpperB c := by
  have := toUpperB_toNat c
  have := toUpperB_toNat (toUpperB c)
  exact UInt8.toNat_inj.mp (by omega)

theorem toLowerB_idem (c : UInt8) : toLowerB (toLowerB c) = toLowerB c := by
  have := toLowerB_toNat c
  have := toLowerB_toNat (toLowerB c)
  exact UInt8.toNat_inj.mp (by omega)

theorem toUpperB_toLowerB (c : UInt8) : toUpperB (toLowerB c) = toUpperB c := by
  rcases toLowerB_toNat c with h | h
  · have := toUpperB_toNat (toLowerB c)
    have := toUpperB_toNat c
    exact UInt8.toNat_inj.mp (by omega)
  · rw [UInt8.toNat_inj.mp h.2]

theorem toLowerB_toUpperB (c : UInt8) : toLowerB (toUpperB c) = toLowerB c := by
  rcases toUpperB_toNat c with h | h
  · have := toLowerB_toNat (toUpperB c)
    have := toLowerB_toNat c
    exact UInt8.toNat_inj.mp (by omega)
  · rw [UInt8.toNat_inj.mp h.2]

theorem valid_of_letter {c : UInt8} (h : 65 ≤ c.toNat ∧ c.toNat ≤ 90 ∨ 97 ≤ c.toNat ∧ c.toNat ≤ 122) :
    validHeaderFieldByte c = true := by
  have h' : (97 ≤ c ∧ c ≤ 122) ∨ (65 ≤ c ∧ c ≤ 90) := by
    simp only [UInt8.le_iff_toNat_le]
    exact h.symm
  simp only [validHeaderFieldByte, Bool.or_eq_true, Bool.and_eq_true, decide_eq_true_eq]
  rcases h' with h' | h' <;> simp [h']

theorem valid_toLowerB (c : UInt8) : validHeaderFieldByte (toLowerB c) = validHeaderFieldByte c := by
  rcases toLowerB_toNat c with h | h
  · rw [valid_of_letter (c := c) (by omega), valid_of_letter (by omega)]
  · rw [UInt8.toNat_inj.mp h.2]

theorem valid_toUpperB (c : UInt8) : validHeaderFieldByte (toUpperB c) = validHeaderFieldByte c := by
  rcases toUpperB_toNat c with h | h
  · rw [valid_of_letter (c := c) (by omega), valid_of_letter (by omega)]
  · rw [UInt8.toNat_inj.mp h.2]

theorem all_valid_map {f : UInt8 → UInt8} (hv : ∀ c, validHeaderFieldByte (f c) = validHeaderFieldByte c)
    (s : Bytes) : (s.map f).all validHeaderFieldByte = s.all validHeaderFieldByte := by
  simp only [List.all_map, Function.comp_def, hv]

theorem canonLoop_all_valid (s : Bytes) : ∀ up, (canonLoop up s).all validHeaderFieldByte = s.all validHeaderFieldByte := by
  induction s with
  | nil => intro up; rfl
  | cons c r ih =>
    intro up
    simp only [canonLoop, List.all_cons, ih]
    cases up <;> simp [valid_toUpperB, valid_toLowerB]

theorem canonLoop_idem (s : Bytes) : ∀ up, canonLoop up (canonLoop up s) = canonLoop up s := by
  induction s with
  | nil => intro up; rfl
  | cons c r ih =>
    intro up
    cases up <;> simp [canonLoop, toUpperB_idem, toLowerB_idem, ih]

theorem canonKey_idem (s : Bytes) : canonKey (canonKey s) = canonKey s := by
  unfold canonKey
  by_cases h : s.all validHeaderFieldByte = true
  · simp [h, canonLoop_all_valid, canonLoop_idem]
  · simp [h]

theorem canonLoop_map {f : UInt8 → UInt8} (hu : ∀ c, toUpperB (f c) = toUpperB c)
    (hl : ∀ c, toLowerB (f c) = toLowerB c) (s : Bytes) : ∀ up, canonLoop up (s.map f) = canonLoop up s := by
  induction s with
  | nil => intro up; rfl
  | cons c r ih =>
    intro up
    cases up <;> simp [canonLoop, hu, hl, ih]

theorem canonKey_map {f : UInt8 → UInt8} (hv : ∀ c, validHeaderFieldByte (f c) = validHeaderFieldByte c)
    (hu : ∀ c, toUpperB (f c) = toUpperB c) (hl : ∀ c, toLowerB (f c) = toLowerB c) (s : Bytes) :
    canonKey (s.map f) = if s.all validHeaderFieldByte then canonKey s else s.map f := by
  unfold canonKey
  rw [all_valid_map hv, canonLoop_map hu hl]
  split <;> rfl

theorem canonKey_toLower (s : Bytes) (hs : s.all validHeaderFieldByte = true) : canonKey (toLower s) = canonKey s := by
  rw [toLower, canonKey_map valid_toLowerB toUpperB_toLowerB toLowerB_idem, if_pos hs]

theorem canonKey_toUpper (s : Bytes) (hs : s.all validHeaderFieldByte = true) : canonKey (toUpper s) = canonKey s := by
  rw [toUpper, canonKey_map valid_toUpperB toUpperB_idem toLowerB_toUpperB, if_pos hs]

/-- "In any case": two names that differ only in letter case have the same canonical key (the
key under which net/http stores the header), provided one of them is a token. -/
theorem canonKey_eq_of_toLower_eq (name tok : Bytes) (hn : name.all validHeaderFieldByte = true)
    (hc : toLower tok = toLower name) : canonKey tok = canonKey name := by
  have ht : tok.all validHeaderFieldByte = true := by
    rw [← all_valid_map valid_toLowerB, ← toLower, hc, toLower, all_valid_map valid_toLowerB, hn]
  rw [← canonKey_toLower tok ht, hc, canonKey_toLower name hn]

end Martian
