import Martian.Model.H2Session
/-! The relay-session machine as a transition relation: `Step` restates `step` branch by branch (guards as
hypotheses, the new state as an update of one or two sides), and the `upd2_*`/`move_*` lemmas say how a
property of the sides survives such an update.  Everything else about the machine is proved from these. -/
namespace Martian.H2Session

def Sys.upd (s : Sys) (d : Dir) (f : Side → Side) : Sys := s.setSide d (f (s.side d))

def Sys.upd2 (s : Sys) (d : Dir) (f : Side → Side) (t : Dir) (g : Side → Side) : Sys := (s.upd d f).upd t g

/-- Reader `d` moves to `r` and side `t` is changed by `g`: the shape of the steps that take or give back
    a lock, or push a frame. -/
abbrev Sys.move (s : Sys) (d : Dir) (r : Rd) (t : Dir) (g : Side → Side) : Sys :=
  s.upd2 d (fun x => { x with r := r }) t g

inductive Step (s : Sys) : Label → Sys → Prop
  | deliver {d r} : (s.side d).r = .selReading → srcClosed s d = false →
      Step s (.deliver d r) (s.upd d fun x => { x with r := .selReady r })
  | deliverLeaked {d r} : (s.side d).r ≠ .selReading → srcClosed s d = false → (s.side d).leak = true →
      Step s (.deliver d r) (s.upd d fun x => { x with leak := false })
  | closing : Step s .closing { s with closing := true }
  | callerClose : s.returned = true → Step s .callerClose { s with ccClosed := true }
  | stall {d} : Step s (.stall d) (s.upd d fun x => { x with stalled := true })
  | unstall {d} : Step s (.unstall d) (s.upd d fun x => { x with stalled := false })
  | failWrites {d} : Step s (.failWrites d) (s.upd d fun x => { x with wfail := true })
  | rTake {d r} : (s.side d).r = .selReady r →
      Step s (.rTake d) (s.upd d fun x => { x with r := afterTake d r })
  | rWerr {d} : (s.side d).r.inSelect = true → (s.side d).werr = true →
      Step s (.rWerr d) (s.upd d fun x => { x with r := .exiting, werr := false, leak := x.leak || x.r.isReading })
  | rDone {d} : (s.side d).r.inSelect = true → s.done = true →
      Step s (.rDone d) (s.upd d fun x => { x with r := .exiting, leak := x.leak || x.r.isReading })
  | acquire {d t n wr} : (s.side d).r = .lockWait t n wr → (s.side t).fmu = none →
      Step s (.acquire d) (s.move d (.pushing t n wr) t fun y => { y with fmu := some d })
  | push {d t n wr} : (s.side d).r = .pushing t (n+1) wr → (s.side t).out < cap →
      Step s (.push d) (s.move d (.pushing t n wr) t fun y => { y with out := y.out + 1 })
  | release {d t wr} : (s.side d).r = .pushing t 0 wr →
      Step s (.release d) (s.move d (if wr then .mWait d none else .selReading) t fun y => { y with fmu := none })
  | mAcquire {d t k} : (s.side d).r = .mWait t k → (s.side t).dmu = none →
      Step s (.mAcquire d) (s.move d (.mHold t k) t fun y => { y with dmu := some (holderOf d t) })
  | mDone {d t k} : (s.side d).r = .mHold t k → ((s.side t).stalled = false ∨ (s.side t).wfail = true) →
      Step s (.mDone d) (s.move d (afterWrite d k (s.side t).wfail) t fun y => { y with dmu := none })
  | handshake {d} : (s.side d).r = .exiting → (s.side d).w = .idle →
      Step s (.handshake d) (({ s with done := true } : Sys).upd d fun x => { x with r := .gone })
  | wTake {d} : (s.side d).r ≠ .gone → (s.side d).w = .idle → 0 < (s.side d).out →
      Step s (.wTake d) (s.upd d fun x => { x with out := x.out - 1, w := if x.failed then .idle else .want })
  | wLock {d} : (s.side d).w = .want → (s.side d).dmu = none →
      Step s (.wLock d) (s.upd d fun x => { x with w := .hold, dmu := some .writer })
  | wDone {d} : (s.side d).w = .hold → ((s.side d).stalled = false ∨ (s.side d).wfail = true) →
      Step s (.wDone d) (s.upd d fun x => { x with
        w := .idle, dmu := none, failed := x.failed || x.wfail, werr := x.werr || x.wfail })
  | watchClosing : s.watcher = true → s.closing = true →
      Step s .watchClosing { s with done := true, watcher := false }
  | watchDone : s.watcher = true → s.done = true → Step s .watchDone { s with watcher := false }
  | ret : s.c.r = .gone → s.s.r = .gone → s.returned = false →
      Step s .ret { s with returned := true, scClosed := true }
  | rfClosed {d} : (s.side d).leak = true → srcClosed s d = true →
      Step s (.rfClosed d) (s.upd d fun x => { x with leak := false })

theorem Step.of_step {s s' : Sys} {l : Label} (h : step s l = some s') : Step s l s' := by
  cases l <;> simp only [step] at h
  case deliver d r =>
    split at h
    · next hr =>
      obtain ⟨hc, ⟨⟩⟩ := Option.ite_none_right_eq_some.mp h
      exact .deliver hr (by simpa using hc)
    · next hr =>
      obtain ⟨hc, ⟨⟩⟩ := Option.ite_none_right_eq_some.mp h
      simp at hc
      exact .deliverLeaked (by simpa using hr) hc.1 hc.2
  case closing | stall | unstall | failWrites => cases h; constructor
  case callerClose => obtain ⟨hc, ⟨⟩⟩ := Option.ite_none_right_eq_some.mp h; exact .callerClose hc
  case rTake d =>
    split at h
    · next r hr => cases h; exact .rTake hr
    · cases h
  case rWerr | rDone | wLock | watchClosing | watchDone | rfClosed =>
    obtain ⟨hc, ⟨⟩⟩ := Option.ite_none_right_eq_some.mp h
    simp at hc
    constructor
    · exact hc.1
    · exact hc.2
  case acquire | push | mAcquire | mDone =>
    split at h
    · obtain ⟨hc, ⟨⟩⟩ := Option.ite_none_right_eq_some.mp h
      constructor
      · assumption
      · simpa using hc
    · cases h
  case release d =>
    split at h
    · next t hr => cases h; exact .release hr
    · next t hr => cases h; exact .release hr
    · cases h
  case handshake d =>
    split at h
    · next hr =>
      obtain ⟨hc, ⟨⟩⟩ := Option.ite_none_right_eq_some.mp h
      have : ∀ x, ({ s.setSide d x with done := true } : Sys) = ({ s with done := true } : Sys).setSide d x := by
        intro x; cases d <;> rfl
      exact this _ ▸ .handshake hr (by simpa using hc)
    · cases h
  case wTake d =>
    obtain ⟨hc, h⟩ := Option.ite_none_right_eq_some.mp h
    simp at hc
    obtain ⟨⟨hr, hw⟩, ho⟩ := hc
    have : s' = s.upd d fun x => { x with out := x.out - 1, w := if x.failed then .idle else .want } := by
      split at h <;> simp_all [Sys.upd]
    exact this ▸ .wTake hr hw ho
  case wDone d =>
    obtain ⟨hc, h⟩ := Option.ite_none_right_eq_some.mp h
    simp at hc
    have : s' = s.upd d fun x => { x with
        w := .idle, dmu := none, failed := x.failed || x.wfail, werr := x.werr || x.wfail } := by
      split at h <;> simp_all [Sys.upd]
    exact this ▸ .wDone hc.1 hc.2
  case ret =>
    obtain ⟨hc, ⟨⟩⟩ := Option.ite_none_right_eq_some.mp h
    simp at hc
    exact .ret hc.1.1 hc.1.2 hc.2

theorem Step.step {s s' : Sys} {l : Label} (h : Step s l s') : step s l = some s' := by
  cases h
  case release d t wr hr => cases wr <;> simp [H2Session.step, Sys.upd2, Sys.upd, hr]
  case handshake d hr hw =>
    cases d <;> simp only [Sys.side] at hr hw <;> simp [H2Session.step, Sys.upd, Sys.side, Sys.setSide, hr, hw]
  case wTake d hr hw ho => cases hf : (s.side d).failed <;> simp [H2Session.step, Sys.upd, *]
  case wDone d hw hs => cases hf : (s.side d).wfail <;> simp_all [H2Session.step, Sys.upd]
  all_goals simp [H2Session.step, Sys.upd2, Sys.upd, *]

/-! ### What an update keeps

Every step changes the sides through `upd2` (a single update is `upd2 d f d id`; `handshake` sets `done`
besides), so each fact about updates is stated for `upd2`, as two applications of the same fact about `upd`;
what it asks of `g` holds by `rfl` for `id` and for the record updates of lock fields that occur. -/

variable {s : Sys} {d t : Dir} {r : Rd} {f g : Side → Side}

theorem upd_eq_upd2 (s : Sys) (d f) : s.upd d f = s.upd2 d f d id := by cases d <;> rfl

@[simp] theorem side_upd_self (s : Sys) (d f) : (s.upd d f).side d = f (s.side d) := by cases d <;> rfl

theorem side_upd_of_ne {u : Dir} (h : u ≠ d) (s : Sys) (f) : (s.upd d f).side u = s.side u := by
  cases d <;> cases u
  case c2s.c2s | s2c.s2c => exact absurd rfl h
  all_goals rfl

theorem upd_frame {α : Sort _} (p : Side → α) (u : Dir) (hf : p (f (s.side d)) = p (s.side d)) :
    p ((s.upd d f).side u) = p (s.side u) := by
  by_cases e : u = d
  · rw [e, side_upd_self]; exact hf
  · rw [side_upd_of_ne e]

theorem upd2_frame {α : Sort _} (p : Side → α) (u : Dir) (hf : p (f (s.side d)) = p (s.side d))
    (hg : ∀ y, p (g y) = p y := by intros; rfl) : p ((s.upd2 d f t g).side u) = p (s.side u) :=
  (upd_frame p u (hg _)).trans (upd_frame p u hf)

theorem upd_imp {p : Dir → Side → Prop} (hf : p d (s.side d) → p d (f (s.side d))) (u : Dir) :
    p u (s.side u) → p u ((s.upd d f).side u) := by
  by_cases e : u = d
  · rw [e, side_upd_self]; exact hf
  · rw [side_upd_of_ne e]; exact id

theorem upd2_imp {p : Dir → Side → Prop} (hf : p d (s.side d) → p d (f (s.side d))) (u : Dir)
    (hg : ∀ u y, p u y → p u (g y) := by intros; assumption) :
    p u (s.side u) → p u ((s.upd2 d f t g).side u) :=
  fun h => upd_imp (hg t _) u (upd_imp hf u h)

@[simp] theorem upd2_done : (s.upd2 d f t g).done = s.done := by cases d <;> cases t <;> rfl
@[simp] theorem upd2_closing : (s.upd2 d f t g).closing = s.closing := by cases d <;> cases t <;> rfl
@[simp] theorem upd2_watcher : (s.upd2 d f t g).watcher = s.watcher := by cases d <;> cases t <;> rfl
@[simp] theorem upd2_returned : (s.upd2 d f t g).returned = s.returned := by cases d <;> cases t <;> rfl
@[simp] theorem upd2_scClosed : (s.upd2 d f t g).scClosed = s.scClosed := by cases d <;> cases t <;> rfl
@[simp] theorem upd2_ccClosed : (s.upd2 d f t g).ccClosed = s.ccClosed := by cases d <;> cases t <;> rfl

theorem move_r (u : Dir) (hg : ∀ y, (g y).r = y.r := by intros; rfl) :
    ((s.move d r t g).side u).r = if u = d then r else (s.side u).r := by
  cases d <;> cases t <;> cases u <;> simp [Sys.upd2, Sys.upd, Sys.side, Sys.setSide, hg]

theorem move_set {α : Type} (p : Side → α) (o : α) (v : Dir)
    (hp : ∀ x r, p { x with r := r } = p x := by intros; rfl) (hg : ∀ y, p (g y) = o := by intros; rfl) :
    p ((s.move d r t g).side v) = if v = t then o else p (s.side v) := by
  cases d <;> cases t <;> cases v <;> simp [Sys.upd2, Sys.upd, Sys.side, Sys.setSide, hg, hp]

end Martian.H2Session
