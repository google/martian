import Martian.Model.MessageView
import Martian.Lemmas.Lists
namespace Martian.MessageView
open Martian Martian.Go

theorem snapshotMsg_id (o : Opts) (m : Msg) : snapshotMsg o m = m := by
  unfold snapshotMsg
  split
  · rename_i hc
    cases hb : m.body with
    | none => simp [captures, hb] at hc
    | some d => cases m; simp_all [readAll]
  · rfl

theorem harReadPost_id (m : Msg) : harReadPost m = m := by
  unfold harReadPost
  rw [snapshotMsg_id]
  cases m
  rename_i body _
  cases body <;> rfl

theorem logMsg_fst (l : Logger) (skip : Bool) (m : Msg) : (logMsg l skip m).1 = m := by
  cases l with
  | snapshot o => exact snapshotMsg_id o m
  | marbl => cases skip <;> rfl
  | har post body =>
    cases skip
    · simp only [logMsg, snapshotMsg_id]
      cases m.isReq
      · cases body.decide (headerGet m.hdr ctKey) <;> rfl
      · cases harHasPostData m && post.decide (headerGet m.hdr ctKey) <;> rfl
    · rfl
  | text ho dec =>
    cases skip
    · exact snapshotMsg_id _ m
    · rfl

theorem logMsg_skip (l : Logger) (m : Msg) (hl : ∀ o, l ≠ .snapshot o) : logMsg l true m = (m, none) := by
  cases l with
  | snapshot o => exact absurd rfl (hl o)
  | _ => rfl

/-- The `err` field of `logMsgT` in closed form (`logMsgT_eq`). -/
def logErr (t : Trusted) (l : Logger) (skip : Bool) (m : Msg) : Bool :=
  !skip && match l with
    | .har post body =>
      if m.isReq then harHasPostData m && post.decide (headerGet m.hdr ctKey) && !t.postParses
      else body.decide (headerGet m.hdr ctKey) && !decodesOn t noOpts m
    | .text ho dec => dec && !decodeOpensOn t { skipBody := ho, cts := [] } m
    | _ => false

theorem logMsgT_eq (t : Trusted) (l : Logger) (skip : Bool) (m : Msg) :
    logMsgT t l skip m =
      ⟨m, if logErr t l skip m then none else (logMsg l skip m).2, logErr t l skip m⟩ := by
  cases l with
  | snapshot o => simp only [logMsgT, logMsg, logErr, snapshotMsg_id]; cases skip <;> rfl
  | marbl => cases skip <;> rfl
  | har post body =>
    cases skip
    · simp only [logMsgT, logMsg, logErr, snapshotMsg_id, harReadPost_id]
      cases m.isReq
      · cases body.decide (headerGet m.hdr ctKey)
        · rfl
        · cases decodesOn t noOpts m <;> rfl
      · cases harHasPostData m && post.decide (headerGet m.hdr ctKey)
        · rfl
        · cases t.postParses <;> rfl
    · rfl
  | text ho dec =>
    cases skip
    · simp only [logMsgT, logMsg, logErr, snapshotMsg_id]
      cases dec && !decodeOpensOn t { skipBody := ho, cts := [] } m <;> rfl
    · rfl

theorem bodyReader_snapshot (o : Opts) (m : Msg) (hc : captures o m = true) :
    bodyReader (snapshot o m) = framedBody m (m.body.getD []) := by
  simp [snapshot, hc, bodyReader, sectionOf]

theorem mem_insertKV (x y : KV) (l : List KV) : y ∈ insertKV x l ↔ y = x ∨ y ∈ l := by
  induction l with
  | nil => simp [insertKV]
  | cons z zs ih =>
    unfold insertKV
    split
    · rw [List.mem_cons, ih, List.mem_cons, or_left_comm]
    · exact List.mem_cons

theorem mem_sortKV (y : KV) (l : List KV) : y ∈ sortKV l ↔ y ∈ l := by
  induction l with
  | nil => simp [sortKV]
  | cons z zs ih =>
    show y ∈ insertKV z (sortKV zs) ↔ _
    rw [mem_insertKV, ih, List.mem_cons]

theorem hexValB_hexDigitB : ∀ d, d < 16 → hexValB (hexDigitB d) = some d := by decide +kernel
theorem hexDigitB_ne_lf : ∀ d, d < 16 → (hexDigitB d == 10) = false := by decide +kernel
theorem hexDigitB_not_ws : ∀ d, d < 16 → isLineWs (hexDigitB d) = false := by decide +kernel
theorem hexDigitB_ne_semi : ∀ d, d < 16 → (hexDigitB d != 59) = true := by decide +kernel

def IsHex (c : UInt8) : Prop := ∃ d, d < 16 ∧ c = hexDigitB d

theorem hexDigits_all_hex (n : Nat) : ∀ c ∈ hexDigits n, IsHex c := by
  fun_induction hexDigits n with
  | case1 n h => exact List.forall_mem_singleton.2 ⟨n, h, rfl⟩
  | case2 n h ih =>
    exact List.forall_mem_append.2 ⟨ih, List.forall_mem_singleton.2 ⟨n % 16, Nat.mod_lt _ (by decide), rfl⟩⟩

theorem hexDigits_ne_nil (n : Nat) : hexDigits n ≠ [] := by
  fun_induction hexDigits n <;> simp

theorem parseHexAcc_append (a b : Bytes) (acc : Nat) :
    parseHexAcc (a ++ b) acc = (parseHexAcc a acc).bind (parseHexAcc b) := by
  induction a generalizing acc with
  | nil => simp [parseHexAcc]
  | cons c r ih =>
    simp only [List.cons_append, parseHexAcc]
    cases hexValB c with
    | none => simp
    | some d => simp [ih]

theorem parseHexAcc_hexDigits (n : Nat) : parseHexAcc (hexDigits n) 0 = some n := by
  fun_induction hexDigits n with
  | case1 n h => simp [parseHexAcc, hexValB_hexDigitB n h]
  | case2 n h ih =>
    rw [parseHexAcc_append, ih]
    simp [parseHexAcc, hexValB_hexDigitB (n % 16) (by omega)]
    omega

theorem parseHexUint_hexDigits (n : Nat) : parseHexUint (hexDigits n) = some n := by
  simp [parseHexUint, parseHexAcc_hexDigits, hexDigits_ne_nil]

theorem splitLine_hex (h rest : Bytes) (hh : ∀ c ∈ h, IsHex c) :
    splitLine (h ++ 13 :: 10 :: rest) = some (h ++ [13], rest) := by
  induction h with
  | nil => rfl
  | cons c r ih =>
    obtain ⟨⟨d, hd, rfl⟩, hr⟩ := List.forall_mem_cons.1 hh
    simp [splitLine, hexDigitB_ne_lf d hd, ih hr]

theorem trimRightWs_hex (h : Bytes) (hh : ∀ c ∈ h, IsHex c) : trimRightWs (h ++ [13]) = h := by
  unfold trimRightWs
  rw [List.reverse_append, List.reverse_singleton, List.singleton_append,
    List.dropWhile_cons_of_pos (by decide), dropWhile_of_all_not, List.reverse_reverse]
  intro c hc
  obtain ⟨d, hd, rfl⟩ := hh c (List.mem_reverse.1 hc)
  exact hexDigitB_not_ws d hd

theorem removeChunkExt_hex (h : Bytes) (hh : ∀ c ∈ h, IsHex c) : removeChunkExt h = h := by
  induction h with
  | nil => rfl
  | cons c r ih =>
    obtain ⟨⟨d, hd, rfl⟩, hr⟩ := List.forall_mem_cons.1 hh
    simp [removeChunkExt, List.takeWhile, hexDigitB_ne_semi d hd]
    exact ih hr

theorem dechunkAux_last (fuel : Nat) (rest acc : Bytes) :
    dechunkAux (fuel + 1) (48 :: 13 :: 10 :: rest) acc = some acc := rfl

theorem dechunkAux_chunk (fuel : Nat) (d rest acc : Bytes) (hne : d ≠ []) :
    dechunkAux (fuel + 1) (hexDigits d.length ++ 13 :: 10 :: (d ++ 13 :: 10 :: rest)) acc =
      dechunkAux fuel rest (acc ++ d) := by
  have hall := hexDigits_all_hex d.length
  rw [dechunkAux]
  simp only [splitLine_hex _ _ hall, trimRightWs_hex _ hall, removeChunkExt_hex _ hall, parseHexUint_hexDigits]
  -- the `some 0` / `some n` match reduces only on a visible successor
  cases d with
  | nil => exact absurd rfl hne
  | cons c r =>
    simp [crlf]
    omega

theorem dechunk_chunkedWrite (d rest : Bytes) : dechunk (chunkedWrite d ++ rest) = some d := by
  unfold dechunk
  cases d with
  | nil => exact dechunkAux_last _ _ _
  | cons c r =>
    -- `length_append` exposes the two units of fuel that the two size lines use
    simp only [chunkedWrite, List.isEmpty_cons, Bool.false_eq_true, if_false, crlf, List.append_assoc,
      List.cons_append, List.nil_append, List.length_append]
    exact (dechunkAux_chunk _ _ _ _ (List.cons_ne_nil c r)).trans (dechunkAux_last _ _ _)

theorem decodeBody_snapshot (infl : Bytes → Bytes → Option Bytes) (o : Opts) (m : Msg) (b : Bytes)
    (hc : captures o m = true) (hb : m.body = some b) :
    decodeBody infl (snapshot o m) =
      if compressOf m == gzipTok || compressOf m == deflateTok then infl (compressOf m) b else some b := by
  have hd := dechunk_chunkedWrite b []
  rw [List.append_nil] at hd
  unfold decodeBody
  rw [bodyReader_snapshot o m hc, hb]
  simp only [snapshot, hc, if_true]
  cases hch : isChunked m.te <;> simp [framedBody, hch, hd]

end Martian.MessageView
