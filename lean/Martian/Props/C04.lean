import Martian.Props.C04.Facts
import Martian.Props.C04.Ends
import Martian.Props.C04.Lifetime
import Martian.Props.C04.Multi
import Martian.Lemmas.Tunnel
/-!
C04 — blind CONNECT tunnels are byte-transparent both ways and propagate end-of-stream.

The theorems are about `Tunnel.handleConnect` and the two pumps it starts (`upPump`, `downPump`;
Model/Tunnel.lean), for every connection kind (every `io.Copy`/`bufio` dispatch path), every
early-data and read-ahead string and every list of events in either direction. A list of events is an arbitrary prefix of a longer script, so a
statement "for all `up`, `down`" is a statement about every quiescent point of every script.
Wall-clock promptness is outside the model (measured by the harness).
-/
namespace Martian.Props.C04
open Martian Martian.Tunnel

/-- Client → target: at every quiescent point the target has been written exactly the early data
(sent in the same segment as the CONNECT head) followed by everything the client has sent since. -/
theorem tunnel_transparent_up (cfg : Cfg) (st : Nat) (ahead early : Bytes) (up down : List Ev) :
    bytesOf (handleConnect cfg (.answered st ahead) early up down).toTarget = early ++ sentBy up := by
  rw [handleConnect, handleConnectWith_answered, bytesOf_sideLog]

/-- Target → client: after the response head the client has been written exactly the bytes the
proxy had read ahead with the downstream proxy's head, followed by everything sent since. -/
theorem tunnel_transparent_down (cfg : Cfg) (st : Nat) (ahead early : Bytes) (up down : List Ev) :
    bytesOf (handleConnect cfg (.answered st ahead) early up down).toClient = ahead ++ sentBy down := by
  rw [handleConnect, handleConnectWith_answered, bytesOf_sideLog]

/-- At every quiescent point neither pump holds a byte it has not written. -/
theorem nothing_retained_at_quiescence (cfg : Cfg) (early : Bytes) (up down : List Ev) :
    (upPump cfg early up).1.held = [] ∧ (downPump cfg down).1.held = [] := by
  simp [upPump, downPump, run_shape]

/-- What has been delivered at one quiescent point is a prefix of what is delivered at any later one
(nothing is taken back, reordered or duplicated by later traffic). -/
theorem delivery_only_grows (cfg : Cfg) (st : Nat) (ahead early : Bytes) (up more down : List Ev) :
    ∃ rest, bytesOf (handleConnect cfg (.answered st ahead) early (up ++ more) down).toTarget =
      bytesOf (handleConnect cfg (.answered st ahead) early up down).toTarget ++ rest := by
  rw [tunnel_transparent_up, tunnel_transparent_up, sentBy_append, ← List.append_assoc]
  exact ⟨_, rfl⟩

/-- When the client→target copy ends — because the client finished sending, because the client's
connection broke (reset, deadline) or because the target stopped taking bytes: `copySync` makes no
difference — the target is told so (CloseWrite) without any further input, exactly once, after every
byte that was forwarded before; nothing is written after it, and the only thing that may follow is
the final graceful `Close` once the other direction has ended too. -/
theorem end_propagates_to_target (cfg : Cfg) (st : Nat) (ahead early : Bytes) (up down : List Ev)
    (h : closes up = true) :
    ∃ ws : List Bytes,
      (handleConnect cfg (.answered st ahead) early up down).toTarget =
        ws.map .write ++ [.closeWrite] ++ releaseActs (closes down) .graceful ∧
      ws.flatten = early ++ sentBy up := by
  rw [handleConnect, handleConnectWith_answered, h]
  exact sideLog_of_closes early _ up _ _ h

/-- The same for the target→client copy. -/
theorem end_propagates_to_client (cfg : Cfg) (st : Nat) (ahead early : Bytes) (up down : List Ev)
    (h : closes down = true) :
    ∃ ws : List Bytes,
      (handleConnect cfg (.answered st ahead) early up down).toClient =
        ws.map .write ++ [.closeWrite] ++ releaseActs (closes up) .graceful ∧
      ws.flatten = ahead ++ sentBy down := by
  rw [handleConnect, handleConnectWith_answered, h, Bool.and_true]
  exact sideLog_of_closes ahead _ down _ _ h

/-- When the client finishes sending, the target is told so (CloseWrite) without any further input,
exactly once, and after every byte the client sent before. -/
theorem eof_propagates_to_target (cfg : Cfg) (st : Nat) (ahead early : Bytes) (up down : List Ev)
    (h : Ev.eof ∈ up) :
    ∃ ws : List Bytes,
      (handleConnect cfg (.answered st ahead) early up down).toTarget =
        ws.map .write ++ [.closeWrite] ++ releaseActs (closes down) .graceful ∧
      ws.flatten = early ++ sentBy up :=
  end_propagates_to_target cfg st ahead early up down (mem_eof_closes up h)

/-- When the target finishes sending, the client is told so without any further input, exactly
once, and after every byte the target sent before. -/
theorem eof_propagates_to_client (cfg : Cfg) (st : Nat) (ahead early : Bytes) (up down : List Ev)
    (h : Ev.eof ∈ down) :
    ∃ ws : List Bytes,
      (handleConnect cfg (.answered st ahead) early up down).toClient =
        ws.map .write ++ [.closeWrite] ++ releaseActs (closes up) .graceful ∧
      ws.flatten = ahead ++ sentBy down :=
  end_propagates_to_client cfg st ahead early up down (mem_eof_closes down h)

/-- No end is told "end of stream", and no connection is closed, while the copy from the other end
is still running (the other end has neither finished sending nor broken). -/
theorem no_spurious_eof (cfg : Cfg) (st : Nat) (ahead early : Bytes) (up down : List Ev) :
    (closes up = false →
      eofSeen (handleConnect cfg (.answered st ahead) early up down).toTarget = false ∧
      finalClose (handleConnect cfg (.answered st ahead) early up down).toTarget = none) ∧
    (closes down = false →
      eofSeen (handleConnect cfg (.answered st ahead) early up down).toClient = false ∧
      finalClose (handleConnect cfg (.answered st ahead) early up down).toClient = none) := by
  rw [handleConnect, handleConnectWith_answered]
  constructor <;> intro hc <;> simp [hc]

/-- On connections that do not break (only data and EOF events) "the copy has ended" is exactly
"the end finished sending": the statements above then read as in the property text. -/
theorem no_spurious_eof_clean (cfg : Cfg) (st : Nat) (ahead early : Bytes) (up down : List Ev)
    (hu : ∀ e ∈ up, e.ending = none ∨ e = .eof) (hd : ∀ e ∈ down, e.ending = none ∨ e = .eof) :
    (Ev.eof ∉ up → eofSeen (handleConnect cfg (.answered st ahead) early up down).toTarget = false) ∧
    (Ev.eof ∉ down → eofSeen (handleConnect cfg (.answered st ahead) early up down).toClient = false) := by
  have h := no_spurious_eof cfg st ahead early up down
  exact ⟨fun hn => (h.1 (Bool.eq_false_iff.2 (mt (closes_iff_mem_eof_of_clean up hu).1 hn))).1,
    fun hn => (h.2 (Bool.eq_false_iff.2 (mt (closes_iff_mem_eof_of_clean down hd).1 hn))).1⟩

/-- A CONNECT whose dial fails is answered 502 with a Warning header — for every kind of dial
error (refused, timeout, EOF, DNS, context deadline, anything else): never 504 or another status —
nothing is tunnelled, and the connection keeps serving. -/
theorem dial_failure_502_warning (cfg : Cfg) (k : DialErr) (early : Bytes) (up down : List Ev) :
    let o := handleConnect cfg (.failed k) early up down
    o.status = 502 ∧ o.warning = true ∧ o.toTarget = [] ∧ o.toClient = [] ∧ o.kept = true ∧ o.released = false := by
  simp [handleConnect, handleConnectWith]

/-- The answer to a failed dial does not depend on the kind of error. -/
theorem dial_failure_answer_independent_of_error_kind (cfg : Cfg) (k k' : DialErr) (early : Bytes)
    (up down : List Ev) :
    handleConnect cfg (.failed k) early up down = handleConnect cfg (.failed k') early up down := by
  simp [handleConnect, handleConnectWith]

/-- The status the client is answered with is the one `connect` came back with: 200 for a direct
dial, the downstream proxy's own status otherwise — for every 2xx acknowledgement (200, 201, 202,
204, 299, …) the client gets that 2xx, and everything proved in this file about the tunnel holds
for it (all theorems are ∀ `st`). -/
theorem answer_status_relayed (cfg : Cfg) (st : Nat) (ahead early : Bytes) (up down : List Ev) :
    (handleConnect cfg (.answered st ahead) early up down).status = st := by
  simp [handleConnect, handleConnectWith]

/-- Every 2xx from the downstream proxy establishes the tunnel: the client is acknowledged with a
2xx, the bytes read ahead with the head go to the client first, early data goes to the target. -/
theorem every_2xx_establishes_the_tunnel (cfg : Cfg) (st : Nat) (ahead early : Bytes) (up down : List Ev)
    (h : (Connect.answered st ahead).established = true) :
    let o := handleConnect cfg (.answered st ahead) early up down
    o.status / 100 = 2 ∧ bytesOf o.toClient = ahead ++ sentBy down ∧ bytesOf o.toTarget = early ++ sentBy up := by
  have hs : st / 100 = 2 := by simpa [Connect.established] using h
  exact ⟨by simp [handleConnect, handleConnectWith, hs], tunnel_transparent_down cfg st ahead early up down,
    tunnel_transparent_up cfg st ahead early up down⟩

/-- A direct dial that succeeds is answered 200. -/
theorem dial_success_200 (cfg : Cfg) (early : Bytes) (up down : List Ev) :
    (handleConnect cfg (.answered 200 []) early up down).status = 200 :=
  answer_status_relayed cfg 200 [] early up down

/-- Both connections are released (handler returns, deferred Close of both) exactly when both
copies have ended (each end finished sending, or its connection broke) — no further input is
needed, and no connection is closed while one direction is still open. -/
theorem both_released_iff_both_ended (cfg : Cfg) (st : Nat) (ahead early : Bytes) (up down : List Ev) :
    (handleConnect cfg (.answered st ahead) early up down).released = true ↔ (closes up = true ∧ closes down = true) := by
  simp [handleConnect, handleConnectWith_answered]

/-- On connections that do not break: released exactly when both ends have finished sending. -/
theorem both_released_iff_both_finished (cfg : Cfg) (st : Nat) (ahead early : Bytes) (up down : List Ev)
    (hu : ∀ e ∈ up, e.ending = none ∨ e = .eof) (hd : ∀ e ∈ down, e.ending = none ∨ e = .eof) :
    (handleConnect cfg (.answered st ahead) early up down).released = true ↔ (Ev.eof ∈ up ∧ Ev.eof ∈ down) := by
  rw [both_released_iff_both_ended, closes_iff_mem_eof_of_clean up hu, closes_iff_mem_eof_of_clean down hd]

/-! ### Regression statements about the previous form of the client-bound pump, `Legacy.bufferedRun`
(`io.Copy(brw, cconn)` on a client connection that is not an `io.ReaderFrom`) -/

/-- Whatever the target writes stays in the 4096-byte `bufio.Writer` as long as less than 4096 bytes
have accumulated: nothing reaches the client at quiescence. -/
theorem legacy_buffered_pump_retains (bs : Bytes) (h : bs.length < 4096) :
    bytesOf (Legacy.bufferedRun 4096 (.fresh []) [.data bs]).2 = [] ∧
    (Legacy.bufferedRun 4096 (.fresh []) [.data bs]).1.held = bs := by
  simp [Legacy.bufferedRun, Legacy.bufferedStep, Pump.fresh, Pump.finished, Ev.ending, Ev.accepted,
    Nat.div_eq_of_lt h, bytesOf]

/-- Concrete witness (test): the target writes 10 bytes and keeps the tunnel open. -/
theorem legacy_buffered_pump_counterexample :
    bytesOf (Legacy.bufferedRun 4096 (.fresh []) [.data (List.replicate 10 7)]).2 ≠ List.replicate 10 7 := by
  decide

def tcp : ConnKind := ⟨true, true⟩
def wrapped : ConnKind := ⟨false, false⟩

/-- test: the hypothesis of the EOF theorems is satisfiable -/
example : Ev.eof ∈ [Ev.data [1, 2], Ev.eof] := by decide
/-- test: the four dispatch paths are all reachable -/
example : readerWriteToLoop tcp tcp = .splice ∧ readerWriteToLoop wrapped tcp = .copy32k ∧
    readerWriteToLoop tcp wrapped = .copy32k ∧ readerWriteToLoop wrapped wrapped = .bufio4k := by decide
/-- test: one concrete run — early data, traffic both ways, client finishes first -/
example :
    let o := handleConnect ⟨wrapped, tcp⟩ (.answered 200 [9]) [1, 2] [.data [3], .eof] [.data [4, 5]]
    bytesOf o.toTarget = [1, 2, 3] ∧ eofSeen o.toTarget = true ∧
    bytesOf o.toClient = [9, 4, 5] ∧ eofSeen o.toClient = false ∧ o.released = false := by
  simp [handleConnect, handleConnectWith_answered, sentBy, closes, endOf, Ev.ending, Ev.accepted]

end Martian.Props.C04
