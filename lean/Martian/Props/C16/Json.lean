import Martian.Lemmas.JsonString
/-!
C16 — "serialising the log to JSON and parsing it back yields the same entries, with non-UTF-8
bodies preserved exactly", over the concrete model of `encoding/json`'s string coder
(`Model/JsonString.lean`: `quote` with HTML escaping, the scanner's string states, `unquote`). The
coder is not a parameter: `dec (enc s) = s` on valid UTF-8 is `json_string_roundtrip`, and the exact
image on every other byte string (`sanitize`, Go's `string([]rune(s))`) explains the open finding
F16b.
-/
namespace Martian.Props.C16
open Martian Martian.Go Martian.MessageView Martian.Har

/-- `json.Unmarshal(json.Marshal(s))` for EVERY byte string `s`: each byte that is not part of a
well-formed UTF-8 sequence comes back as U+FFFD, everything else exactly. -/
theorem json_string_roundtrip_image (s : Bytes) :
    jsonDecodeString (jsonEncodeString s) = some (sanitize s) :=
  jsonDecode_jsonEncode s

/-- Valid UTF-8 — of any length, with any mix of escapes (`"`, `\`, control characters, `<` `>` `&`,
U+2028 / U+2029) and multi-byte characters — is read back exactly. -/
theorem json_string_roundtrip (s : Bytes) (h : utf8Valid s = true) :
    jsonDecodeString (jsonEncodeString s) = some s := by
  rw [jsonDecode_jsonEncode, sanitize_of_valid s h]

/-- …and ONLY valid UTF-8 is: a string with an ill-formed byte never survives (the reason
`PostData` / `Content` switch to base64, and the whole of F16b). -/
theorem json_string_roundtrip_iff (s : Bytes) :
    jsonDecodeString (jsonEncodeString s) = some s ↔ utf8Valid s = true := by
  rw [jsonDecode_jsonEncode, Option.some.injEq, sanitize_eq_iff]

/-- What is read back is always valid UTF-8. -/
theorem json_string_image_is_valid (s : Bytes) : utf8Valid (sanitize s) = true := sanitize_is_valid s

theorem postdata_roundtrip_of_coder (enc : Bytes → Bytes) (dec : Bytes → Option Bytes)
    (hj : ∀ s, dec (enc s) = some (sanitize s)) (p : PostData) :
    unmarshalPD dec (marshalPD enc p) = some (sanitizePD p) := by
  have hparams : (p.params.map (marshalParam enc)).mapM (unmarshalParam dec) = some (p.params.map sanitizeParam) := by
    induction p.params with
    | nil => rfl
    | cons q qs ih => simp [List.mapM_cons, unmarshalParam, marshalParam, hj, ih, sanitizeParam]
  by_cases hv : utf8Valid p.text = true
  · rw [marshalPD, if_pos hv]
    simp [unmarshalPD, hj, hparams, sanitize_of_valid _ hv, sanitizePD,
      Ne.symm (beq_eq_false_iff_ne.1 nil_ne_base64Tok)]
  · rw [marshalPD, if_neg hv]
    simp [unmarshalPD, hj, hparams, sanitize_base64Tok, sanitize_b64Encode, b64_roundtrip, sanitizePD]

/-- JSON round trip of post data for ALL `PostData` values, any body bytes: the text is preserved
exactly (valid UTF-8 as text, anything else as base64); media type and parameters come back
`sanitize`d. -/
theorem postdata_json_roundtrip_image (p : PostData) :
    unmarshalPD jsonDecodeString (marshalPD jsonEncodeString p) = some (sanitizePD p) :=
  postdata_roundtrip_of_coder _ _ jsonDecode_jsonEncode p

theorem sanitizePD_eq_iff (p : PostData) :
    sanitizePD p = p ↔ (utf8Valid p.mime = true ∧ ∀ q ∈ p.params, utf8Valid q.name = true ∧
      utf8Valid q.value = true ∧ utf8Valid q.fileName = true ∧ utf8Valid q.contentType = true) := by
  obtain ⟨mime, params, text⟩ := p
  simp only [sanitizePD, PostData.mk.injEq, and_true, sanitize_eq_iff]
  refine and_congr_right fun _ => ?_
  induction params with
  | nil => simp
  | cons q qs ih =>
    obtain ⟨n, v, f, c⟩ := q
    simp [sanitizeParam, sanitize_eq_iff, ih]

/-- JSON round trip of post data through the concrete string coder: exact for every body byte
string, given a media type and parameters that are valid UTF-8. -/
theorem postdata_json_roundtrip (p : PostData) (hm : utf8Valid p.mime = true)
    (hp : ∀ q ∈ p.params, utf8Valid q.name = true ∧ utf8Valid q.value = true ∧
      utf8Valid q.fileName = true ∧ utf8Valid q.contentType = true) :
    unmarshalPD jsonDecodeString (marshalPD jsonEncodeString p) = some p := by
  rw [postdata_json_roundtrip_image, (sanitizePD_eq_iff p).2 ⟨hm, hp⟩]

/-- …and that condition is necessary (F16b, open: post parameters have no base64 form): the round
trip is exact IFF media type and parameters are valid UTF-8. -/
theorem postdata_json_roundtrip_iff (p : PostData) :
    unmarshalPD jsonDecodeString (marshalPD jsonEncodeString p) = some p ↔
      (utf8Valid p.mime = true ∧ ∀ q ∈ p.params, utf8Valid q.name = true ∧ utf8Valid q.value = true ∧
        utf8Valid q.fileName = true ∧ utf8Valid q.contentType = true) := by
  rw [postdata_json_roundtrip_image, Option.some.injEq, sanitizePD_eq_iff]

/-- F16b on its witness (`corpus/C16/directed.ops`): a multipart file part `FF D8 FF` comes back as
three U+FFFD. -/
def jpegPart : PostData :=
  { mime := strBytes "multipart/form-data", text := [],
    params := [{ name := strBytes "upload", value := [0xFF, 0xD8, 0xFF], fileName := strBytes "a.jpg",
                 contentType := strBytes "image/jpeg" }] }

theorem postdata_json_roundtrip_counterexample :
    unmarshalPD jsonDecodeString (marshalPD jsonEncodeString jpegPart) ≠ some jpegPart ∧
    ((unmarshalPD jsonDecodeString (marshalPD jsonEncodeString jpegPart)).map fun p => p.params.map (·.value)) =
      some [[0xEF, 0xBF, 0xBD, 0xEF, 0xBF, 0xBD, 0xEF, 0xBF, 0xBD]] := by
  constructor
  · intro h
    have := (postdata_json_roundtrip_iff jpegPart).1 h
    have := (this.2 _ (List.mem_singleton.2 rfl)).2.1
    revert this; decide
  · rw [postdata_json_roundtrip_image]; decide

/-- JSON round trip of response content as the logger produces it (always base64): exact for ALL
byte strings. -/
theorem content_json_roundtrip (c : Content) (hm : utf8Valid c.mime = true) (hb : c.base64 = true) :
    unmarshalContent jsonDecodeString (marshalContent jsonEncodeString c) = some c := by
  obtain ⟨size, mime, text, _⟩ := c
  subst hb
  simp [marshalContent, unmarshalContent, jsonDecode_jsonEncode, sanitize_of_valid _ hm, sanitize_base64Tok,
    sanitize_b64Encode, b64_roundtrip]

-- the coder on concrete strings (tests): HTML escaping, control characters, U+2028, U+FFFD for a bad byte
example : jsonEncodeString (strBytes "<a href=\"x\">&\n") =
    strBytes "\"\\u003ca href=\\\"x\\\"\\u003e\\u0026\\n\"" := by decide +kernel
example : jsonEncodeString [0x61, 0xE2, 0x80, 0xA8, 0xFF] = strBytes "\"a\\u2028\\ufffd\"" := by decide +kernel
example : jsonDecodeString (strBytes "\"\\ud83d\\ude00\"") = some [0xF0, 0x9F, 0x98, 0x80] := by decide +kernel
example : jsonDecodeString (strBytes "\"\\ud83d\"") = some [0xEF, 0xBF, 0xBD] ∧
    jsonDecodeString (strBytes "\"\\'\"") = none ∧ jsonDecodeString (strBytes "\"a\"b\"") = none := by decide +kernel

end Martian.Props.C16
