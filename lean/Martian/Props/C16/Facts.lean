import Martian.Generated.Har
import Martian.Model.Har
/-!
C16 — structural facts of `proxyutil.Header.Map` and `PostData.MarshalJSON`, regenerated from the
source on every check (`go/cmd/vextract/facts_har.go` → `Generated/Har.lean`), that `Model/Har.lean`
transcribes.
-/
namespace Martian.Props.C16
open Martian Martian.MessageView Martian.Har

/-- `Header.Map` stores the header map's lines first ("M") and then, for exactly the keys Host,
Content-Length, Transfer-Encoding, what `Header.All` derives from the struct fields ("F"): the
fields overwrite same-named map keys — the precedence `headerMap` (`setKey` after the copy) and
`header_list_is_what_the_wire_carries` are about. The keys are the model's `hostKey`, `clKey`,
`teKey`. -/
theorem facts_header_map_fields_overwrite_map_keys :
    Generated.Har.headerMapStoreOrder = "MF" ∧
    Generated.Har.headerMapFieldKeys.map strBytes = [hostKey, clKey, teKey] := ⟨rfl, rfl⟩

/-- `PostData.MarshalJSON` takes the text-or-base64 decision with `utf8.ValidString` on the whole
`Text` of the receiver (`marshalPD`: `utf8Valid p.text`), not on a prefix or a sniffed type. -/
theorem facts_postdata_validity_is_of_the_whole_text :
    Generated.Har.postDataValidityArgs = ["recv.Text"] := rfl

end Martian.Props.C16
