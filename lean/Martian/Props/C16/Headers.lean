import Martian.Lemmas.Har
/-!
C16 — the HAR header list follows the struct fields (`Host`, `ContentLength`, `TransferEncoding`),
i.e. what `net/http` sends, not stale same-named keys of the header map.
-/
namespace Martian.Props.C16
open Martian Martian.Go Martian.MessageView Martian.Har

/-- The head of the wire form is the start line, the field lines `wireFields`, and the blank line. -/
theorem wire_head_is_wire_fields (m : Msg) :
    headSection m = startLine m ++ crlf ++ fields (wireFields m) ++ crlf := by
  simp only [headSection, wireFields, writeSubset, fields, List.map_append, List.flatten_append,
    apply_ite (List.map field), apply_ite List.flatten, List.map_cons, List.map_nil, List.flatten_cons,
    List.flatten_nil, List.append_nil, List.append_assoc]

/-- `Header.Map`'s precedence: for each of Host / Content-Length / Transfer-Encoding whose struct
field is present, the entry lists exactly the field's values — whatever the header map holds under
that key (a stale `Content-Length` left by the parser after a modifier changed the body, a `Host`
or `Transfer-Encoding` line put into the map) — and these are the values on the wire: the single
line of that key in the head carries their `", "`-join. (For Content-Length the wire has the line
unless the message is chunked; a parsed chunked message has `ContentLength = -1`.) -/
theorem header_list_is_what_the_wire_carries (m : Msg) (k : Bytes) (vs : List Bytes)
    (hf : fieldOf m k = some vs) (hcl : k = clKey → isChunked m.te = false) :
    (∀ v, (k, v) ∈ harHeaders m ↔ v ∈ vs) ∧
    (∀ v, (k, v) ∈ wireFields m ↔ v = join vs (strBytes ", ")) := by
  refine ⟨fun v => ?_, fun v => ?_⟩
  · rw [harHeaders, mem_sortKV, mem_headerMap, hf]
  · obtain ⟨hHC, hHT, hCT⟩ := fieldKeys_distinct
    have hs := fieldOf_some m k vs hf
    rw [mem_wireFields]
    generalize hostKey = kH, clKey = kC, teKey = kT at *
    rcases hs with ⟨rfl, hr, hh, rfl⟩ | ⟨rfl, hc, rfl⟩ | ⟨rfl, ht, rfl⟩
    · simp [join, hr, hh, hHC, hHT]
    · simp [join, hcl rfl, Int.le_of_lt hc, hHC.symm, hCT]
    · simp [ht, hHT.symm, hCT.symm]

/-- An absent field falls back to the header map's own lines (as the message was received). -/
theorem absent_field_lists_the_maps_lines (m : Msg) (k v : Bytes) (hf : fieldOf m k = none) :
    (k, v) ∈ harHeaders m ↔ (k, v) ∈ m.hdr := by
  rw [harHeaders, mem_sortKV, mem_headerMap, hf]

/-- Keys without a struct field behind them (every ordinary key; `Host` on a response): the entry
lists the header map's lines, and so does the wire. -/
theorem ordinary_fields_are_the_maps (m : Msg) (kv : KV)
    (hk : kv.1 ≠ clKey ∧ kv.1 ≠ teKey ∧ (m.isReq = true → kv.1 ≠ hostKey)) :
    (kv ∈ harHeaders m ↔ kv ∈ m.hdr) ∧ (kv ∈ wireFields m ↔ kv ∈ m.hdr) := by
  obtain ⟨k, v⟩ := kv
  obtain ⟨h1, h2, h3⟩ := hk
  refine ⟨absent_field_lists_the_maps_lines m k v (fieldOf_ordinary m k ⟨h1, h2, h3⟩), ?_⟩
  rw [mem_wireFields]
  constructor
  · rintro (⟨hr, _, hk, _⟩ | ⟨_, hk, _⟩ | ⟨_, _, hk, _⟩ | ⟨h, _⟩)
    · exact absurd hk (h3 hr)
    · exact absurd hk h2
    · exact absurd hk h1
    · exact h
  · exact fun h => .inr (.inr (.inr ⟨h, h3, h1, h2⟩))

/-- Witness of the class the theorem is about: a response parsed with `Content-Length: 26` whose
body was then replaced by 5 bytes (`body.Modifier`): the map still says 26, the field says 5; the
entry lists 5 and only 5, and so does the wire. -/
def staleLength : Msg :=
  { isReq := false, method := [], url := [], major := 1, minor := 1, code := 200, status := strBytes "200 OK",
    host := [], te := [], cl := 5, hdr := [(clKey, strBytes "26"), (ctKey, strBytes "text/plain")],
    body := some (strBytes "short"), trailer := none }

example : fieldOf staleLength clKey = some [strBytes "5"] ∧
    (harHeaders staleLength).filter (fun kv => kv.1 == clKey) = [(clKey, strBytes "5")] ∧
    (wireFields staleLength).filter (fun kv => kv.1 == clKey) = [(clKey, strBytes "5")] := by decide +kernel

end Martian.Props.C16
