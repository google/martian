import Martian.Model.Query
/-!
C16 — "query parameters … equal those of the message": a pair of the raw query is cut at its FIRST
`=`; whatever follows — further `=` (base64 padding, `a=b` expressions), any byte — is the value.
-/
namespace Martian.Props.C16
open Martian Martian.Go Martian.MessageView Martian.Har

theorem splitPair_cons (c : UInt8) (r : Bytes) (hc : c ≠ 61) :
    splitPair (c :: r) = (c :: (splitPair r).1, (splitPair r).2) := by
  simp only [splitPair, List.takeWhile_cons, List.dropWhile_cons, bne_iff_ne.2 hc, if_true]

/-- For every name without `=` and EVERY value: the pair `name=value` is cut into exactly (name, value). -/
theorem split_pair_at_first_equals (k v : Bytes) (hk : ∀ c ∈ k, c ≠ 61) :
    splitPair (k ++ 61 :: v) = (k, v) := by
  induction k with
  | nil => rfl
  | cons c r ih =>
    rw [List.cons_append, splitPair_cons c _ (hk c List.mem_cons_self),
      ih fun x hx => hk x (List.mem_cons_of_mem _ hx)]

/-- A pair without `=` is a name with an empty value. -/
theorem split_pair_without_equals (p : Bytes) (hp : ∀ c ∈ p, c ≠ 61) : splitPair p = (p, []) := by
  induction p with
  | nil => rfl
  | cons c r ih =>
    rw [splitPair_cons c r (hp c List.mem_cons_self), ih fun x hx => hp x (List.mem_cons_of_mem _ hx)]

/-- Nothing after the first `=` is dropped: name, the `=`, and the value make up the whole pair. -/
theorem split_pair_loses_nothing (p : Bytes) (h : 61 ∈ p) :
    (splitPair p).1 ++ 61 :: (splitPair p).2 = p := by
  induction p with
  | nil => nomatch h
  | cons c r ih =>
    by_cases hc : c = 61
    · subst hc; rfl
    · rw [splitPair_cons c r hc]
      exact congrArg (c :: ·) (ih ((List.mem_cons.1 h).resolve_left (Ne.symm hc)))

-- witnesses (tests): base64 padding, expressions, escaped separators, `;`, empty name, bad escapes
example : harQuery (strBytes "sig=c2ln=&expr=a=b=c&a==") =
    [(strBytes "a", strBytes "="), (strBytes "expr", strBytes "a=b=c"), (strBytes "sig", strBytes "c2ln=")] := by decide +kernel
example : harQuery (strBytes "k%3D=v%26w&x+y=1;2&&=e&n&%zz=1&a=2&a=1") =
    [([], strBytes "e"), (strBytes "a", strBytes "2"), (strBytes "a", strBytes "1"), (strBytes "k=", strBytes "v&w"),
     (strBytes "n", [])] := by decide +kernel

end Martian.Props.C16
