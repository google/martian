import Martian.Skel
import Martian.Generated.Range
/-!
C20 — structural facts of `body/body_modifier.go` and `static/static_file_modifier.go`
(regenerated from the source on every check) that `Model/Range.lean` transcribes. The model
treats the Range pipeline of the two modifiers as one function of the content size: that the two
loops are the same statement list (with the size spelled `SIZE`) is itself a checked fact.
-/
namespace Martian.Props.C20
open Martian Skel
open Martian.Generated.Range

-- `+kernel`: `decEq` on string literals is slow enough that only the kernel is asked to evaluate it.

/-- Both modifiers run the same Range loop. -/
theorem facts_both_modifiers_same_range_loop : rangeLoopBody = rangeLoopStatic := rfl

/-- The loop body is the one `Range.parseOne` transcribes: the open-ended rewrite with `SIZE-1`,
the split on "-" with the 416 for anything but two halves, `Atoi` of the trimmed halves with the
error returned, the 416 rule `start > end || start >= SIZE`, the clamp `end >= SIZE → SIZE - 1`. -/
theorem facts_range_loop_is_parseOne :
    rangeLoopBody =
      ["if strings.HasSuffix(rng, \"-\") {", "call fmt.Sprintf", "set rng = fmt.Sprintf(\"%s%d\", rng, SIZE-1)", "}",
       "call strings.Split", "set rs = strings.Split(rng, \"-\")",
       "if len(rs) != 2 {", "set res.StatusCode = http.StatusRequestedRangeNotSatisfiable", "return nil", "}",
       "call strconv.Atoi", "call strings.TrimSpace", "set start = strconv.Atoi(strings.TrimSpace(rs[0]))",
       "if err != nil {", "return err", "}",
       "call strconv.Atoi", "call strings.TrimSpace", "set end = strconv.Atoi(strings.TrimSpace(rs[1]))",
       "if err != nil {", "return err", "}",
       "if start > end || start >= SIZE {", "set res.StatusCode = http.StatusRequestedRangeNotSatisfiable", "return nil", "}",
       "if end >= SIZE {", "set end = SIZE - 1", "}",
       "set ranges = append(ranges, []int{start, end})"] := rfl

/-- The header is lower-cased, left-trimmed with the cutset "bytes=" and split on "," (both). -/
theorem facts_range_header_split :
    hasBlock ["set rh = strings.ToLower(rh)", "call strings.Split", "call strings.TrimLeft",
              "set sranges = strings.Split(strings.TrimLeft(rh, \"bytes=\"), \",\")"] preludeBody = true ∧
    hasBlock ["set rh = strings.ToLower(rh)", "call strings.Split", "call strings.TrimLeft",
              "set sranges = strings.Split(strings.TrimLeft(rh, \"bytes=\"), \",\")"] preludeStatic = true := by decide +kernel

/-- The single-range branch slices `[start : end+1]` (body) / reads `end - start + 1` bytes at
`start` (static): `Range.goSlice content s (e + 1)`. -/
theorem facts_single_range_slice :
    hasSeq ["set start = ranges[0][0]", "set end = ranges[0][1]", "set seg = m.body[start : end+1]"] singleBody = true ∧
    hasSeq ["set start = ranges[0][0]", "set end = ranges[0][1]", "set length = end - start + 1", "set seg = make([]byte, length)",
            "call f.ReadAt"] singleStatic = true := by decide +kernel

/-- Path resolution of the static modifier is `filepath.Join(path.Clean(root), filepath.Clean(URL.Path))`
(`Range.resolve`); an explicit mapping is joined under the same cleaned root. -/
theorem facts_static_path_resolution :
    staticCtor = ["rootPath: path.Clean(rootPath)"] ∧
    hasBlock ["call filepath.Clean", "set reqpth = filepath.Clean(res.Request.URL.Path)", "call filepath.Join",
              "set fpth = filepath.Join(s.rootPath, reqpth)",
              "if _, ok := s.explicitPaths[reqpth]; ok {", "call filepath.Join",
              "set fpth = filepath.Join(s.rootPath, s.explicitPaths[reqpth])", "}"] preludeStatic = true :=
  ⟨rfl, by decide +kernel⟩

end Martian.Props.C20
