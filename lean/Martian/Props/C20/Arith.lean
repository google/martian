import Martian.Lemmas.Range
/-!
C20 — the model computes with unbounded integers where the Go code computes with `int` (64 bit).
These theorems justify that: every number the Range pipeline computes from a parsed range lies
inside int64, so no Go operation in it can wrap around (the seeded defects that panic in `make`
or slice with a negative index do so exactly by leaving this envelope).
-/
namespace Martian.Props.C20
open Martian Martian.Go Martian.Range

/-- `strconv.Atoi` never yields a value outside int64. -/
theorem atoi_within_int64 {s : Bytes} {v : Int} (h : atoi s = some v) : minInt64 ≤ v ∧ v ≤ maxInt64 :=
  ⟨(atoi_some h).1, (atoi_some h).2.1⟩

/-- For every accepted range of a content that fits in memory, each intermediate of the Go code —
`start`, `end`, `end+1` (slice bound), `end-start+1` (buffer length of the static modifier),
`size-1` (clamp / open-ended rewrite) — is a non-negative int64: the arithmetic is exact. -/
theorem accepted_range_arithmetic_is_exact {size : Nat} {rng : Bytes} {s e : Int}
    (hsz : (size : Int) ≤ maxInt64) (h : parseOne size rng = .ok s e) :
    0 ≤ s ∧ s ≤ maxInt64 ∧ 0 ≤ e ∧ e + 1 ≤ maxInt64 ∧ 0 < e - s + 1 ∧ e - s + 1 ≤ (size : Int) ∧
      0 ≤ (size : Int) - 1 := by
  obtain ⟨h0, h1, h2⟩ := parseOne_ok h
  omega

/-- Non-vacuity: `5-20` on ten bytes is accepted (clamped to 5..9). -/
example : parseOne 10 (strBytes "5-20") = .ok 5 9 ∧ ((10 : Nat) : Int) ≤ maxInt64 := by
  rw [strBytes_ofList]
  decide +kernel

end Martian.Props.C20
