import Martian.Lemmas.Shutdown
import Martian.Generated.Shutdown
import Martian.Props.C07.Faults
import Martian.Props.C07.Tunnels
import Martian.Props.C07.Upload
import Martian.Props.C07.History
/-!
C07 — Shutdown completes in-flight exchanges, refuses new ones and closes everything.

All theorems are about `Martian.Shutdown.step` (Model/Shutdown.lean), the interleaving model of
`Serve` / `handleLoop` / `handle` / `readRequest` / `Close` of `/repo/proxy.go`, and quantify over
ALL schedules (`Reachable s := ∃ sched, run init sched = some s`; a schedule is any list of labels,
so any number of connections, any placement of `Close`, any order in which exchanges parked — held inside a
modifier, the round tripper, a dial or a write — are let go on).

Reading of the statement (DESIGN §7): "marked connection-close" = marked whenever shutdown was
observable at the close decision; a response decided earlier is complete and followed by the close.

The model also covers CONNECT (blind tunnels, MITM, HTTP/2 sessions), hijacking modifiers,
response-write failures and further callers of `Close` — see `Props/C07/Tunnels.lean` and
`Props/C07/Faults.lean`. An exchange whose modifier hijacked the connection, or whose response write
failed because the CLIENT went away (environment label `writeErr`), gets no complete response from the
proxy; both are counted separately (`hijacked`, `aborted`) and are 0 on every schedule without those two
labels (`Faults.no_fault_labels_no_faults`).

Finding F07 (open): `conns.Add(1)` runs inside the spawned goroutine, so the clause "shutdown returns
only after every accepted connection has been closed" is FALSE for the faithful model
(`close_returns_after_all_handlers_done_counterexample`); what holds is the same for all *counted*
connections (`close_returns_after_all_counted_handlers_done`) and the full clause under the hypothesis
that no accepted connection is still uncounted when `Close` returns (`…_partial`).
-/
namespace Martian.Props.C07
open Martian.Shutdown

/-! ### tie: the skeleton of proxy.go the model transcribes (regenerated from /repo on every check) -/

/-- `conns.Add` is called in `handleLoop` only (inside the spawned goroutine — F07); `Close` signals
first and then waits under `connsMu`; `handleLoop` counts itself, defers `conns.Done` then
`conn.Close` (so the connection is closed BEFORE the handler is un-counted) and checks `Closing()`
before its serving loop; `readRequest` selects on the closing signal; `Serve` checks `Closing()` at
the loop top, before `Accept`, and spawns the handler with a `go` statement afterwards. -/
theorem facts_shutdown_skeleton :
    Generated.Shutdown.addSites = ["handleLoop"] ∧
    Generated.Shutdown.closeCalls = ["close", "p.connsMu.Lock", "p.conns.Wait", "p.connsMu.Unlock"] ∧
    Generated.Shutdown.handleLoopPrologue = ["p.connsMu.Lock", "p.conns.Add", "p.connsMu.Unlock", "p.Closing"] ∧
    Generated.Shutdown.handleLoopDefers = ["p.conns.Done", "conn.Close"] ∧
    Generated.Shutdown.readRequestSelectArms = ["<-errc", "<-reqc", "<-p.closing"] ∧
    Generated.Shutdown.serveSkeleton = ["p.Closing", "l.Accept", "go p.handleLoop"] := by
  decide +kernel

/-- What the model of write failures, tunnels and `Close` itself relies on, regenerated from `/repo` on every check:
* the only kind of deadline the proxy ever puts on a connection is `SetDeadline` (the per-iteration idle
  deadline `p.timeout` of `handleLoop` and of the MITM loop, configured by the application), and `handle`
  sets none between the close decision and the response write — so the model has no move of the proxy
  that abandons a write (`response_write_ends_only_complete`; `writeErr` is the environment's);
* the only socket options the proxy sets are the keep-alive ones on accepted connections: nothing (linger)
  changes what the handler's `conn.Close()` does to response bytes still in flight, so `closeConn` after
  `writeEnd` leaves the completely written response deliverable;
* the shutdown signal is consulted exactly three times through `Closing()` (`Serve`, `handleLoop`, the close
  decision), received from twice (`Closing` itself, `readRequest`), closed once (`Close`) and handed on
  once, to the HTTP/2 session (`h2Stop` depends on `closing`; `tunnel`, `mitmPeek`, `mitmHandshake` have no
  move that does);
* `Close` contains no `go` statement, no `select` and no timer: it waits for the wait group itself and
  unconditionally (`close_never_gives_up`);
* `handle`: request modifier, hijack check, round trip, response modifier, hijack check, close decision,
  write, flush — in this order; `handleLoop` leaves after `handle` on a closeable error or a hijacked session. -/
theorem facts_shutdown_round3 :
    Generated.Shutdown.deadlineKinds = ["SetDeadline"] ∧
    Generated.Shutdown.sockoptKinds = ["SetKeepAlive", "SetKeepAlivePeriod"] ∧
    Generated.Shutdown.closingUses = ["Closing", "Closing", "Closing", "arg:Proxy", "close", "recv", "recv"] ∧
    Generated.Shutdown.handleOrder =
      ["readRequest", "handleConnectRequest", "ModifyRequest", "Hijacked", "roundTrip", "ModifyResponse",
       "Hijacked", "Closing", "Write", "Flush"] ∧
    Generated.Shutdown.handleLoopBody = ["handle", "isCloseable", "Hijacked"] ∧
    Generated.Shutdown.closeShape = [] := by
  decide +kernel

/-! ### every started exchange is completed before its connection is closed -/

/-- In every reachable state every handler has completed all the exchanges it started, except
possibly the one it is in the middle of. -/
theorem exchange_accounting {s : Sys} (hr : Reachable s) :
    ∀ h ∈ s.hs, h.started = h.completed + h.hijacked + h.aborted + (if h.pc.inExchange then 1 else 0) ∧
      h.marks.length + h.cresps = h.completed :=
  fun h hm => ⟨((reachable_good hr).hok h hm).exch, ((reachable_good hr).hok h hm).mlen⟩

/-- Safety form of "receives its complete response before its connection is closed": whenever the
handler of connection `k` closes the connection, every exchange whose request modifier had started
has had its response written completely — except those a modifier hijacked and those whose write
failed because the client went away. -/
theorem started_exchange_completes {s s' : Sys} {k : Nat} {h : Handler} (hr : Reachable s)
    (hk : s.hs[k]? = some h) (hs : step s (.h k .closeConn) = some s') :
    h.completed + h.hijacked + h.aborted = h.started ∧ h.pc.inExchange = false := by
  have ok := (reachable_good hr).hok h (List.mem_of_getElem? hk)
  cases step_eq_some_iff.mp hs with
  | h hk2 _ st =>
    rw [hk] at hk2; cases hk2
    cases st with
    | closeConn hpc =>
      have := ok.exch
      rw [hpc] at this ⊢
      exact ⟨this.symm, rfl⟩

/-- Once the handler is on its way out (`Pc.winding`) nothing it started is unfinished. -/
theorem closed_connection_has_no_unfinished_exchange {s : Sys} (hr : Reachable s) :
    ∀ h ∈ s.hs, h.pc.winding = true → h.completed + h.hijacked + h.aborted = h.started := by
  intro h hm hw
  have := ((reachable_good hr).hok h hm).exch
  rw [Pc.not_inExchange_of_winding hw] at this
  exact this.symm

/-! ### marked connection-close iff shutdown was observable at the close decision -/

/-- Every completed response is marked `Connection: close` exactly when the request or the
response asked for it or shutdown was observable (`Closing()` true) at the close decision; in
particular every response decided while shutdown was observable is marked. -/
theorem marked_close_iff_closing_observable_at_decision {s : Sys} (hr : Reachable s) :
    ∀ h ∈ s.hs, ∀ m ∈ h.marks, m.2.2 = (m.2.1 || m.1) :=
  fun h hm => ((reachable_good hr).hok h hm).mark

/-- The pending decision of an exchange obeys the same rule, and `obsAtDecision` is only ever true
if shutdown has really been signalled. -/
theorem pending_decision_rule {s : Sys} (hr : Reachable s) :
    ∀ h ∈ s.hs, (∀ b, (h.pc = .decided b ∨ h.pc = .writing b) → b = (h.reqClose || h.resClose || h.obsAtDecision)) ∧
      (h.obsAtDecision = true → s.closing = true) :=
  fun h hm => ⟨((reachable_good hr).hok h hm).dec, ((reachable_good hr).hok h hm).obs⟩

/-- A response marked close is the last one on its connection: the handler is closing the
connection and never reads another request. -/
theorem marked_response_is_followed_by_close {s : Sys} (hr : Reachable s) :
    ∀ h ∈ s.hs, (anyMarked h.marks = true → h.pc.winding = true) ∧ h.servedAfterMark = false :=
  fun h hm => ⟨((reachable_good hr).hok h hm).afterMark, ((reachable_good hr).hok h hm).sam⟩

/-- Placement form, for shutdown requested inside the request modifier, during the round trip or
inside the response modifier (any point of a started non-CONNECT exchange before its close decision):
if shutdown is observable in `s` while connection `k` is at such a point, then on EVERY continuation
(any schedule) in which a further response gets recorded on that connection, the first such response
— this exchange's — is marked `Connection: close`; by `marked_response_is_followed_by_close` the
connection is then closed. -/
theorem shutdown_before_decision_marks_response {s s' : Sys} {k : Nat} {h h' : Handler} {sched : List Label}
    (hc : s.closing = true) (hk : s.hs[k]? = some h) (hp : h.pc.beforeDecision = true) (hcn : h.conn = .no)
    (hrun : run s sched = some s') (hk' : s'.hs[k]? = some h') (hdone : h.marks.length < h'.marks.length) :
    ∃ o a, h'.marks[h.marks.length]? = some (o, a, true) := by
  rcases track_after_run hc hk (.inl ⟨rfl, hcn, .inl hp⟩) hrun hk' with ⟨h1, _⟩ | ⟨_, h3⟩ | ⟨h1, _⟩
  · omega
  · exact h3
  · omega

/-- The same without assuming that a response gets recorded: on every continuation the tracked exchange
is still in flight and bound to be marked, or its response is recorded and marked, or it was dropped —
hijacked by a modifier or its write failed because the client went away — and the handler is closing
the connection without ever recording another response. -/
theorem shutdown_before_decision_outcomes {s s' : Sys} {k : Nat} {h h' : Handler} {sched : List Label}
    (hc : s.closing = true) (hk : s.hs[k]? = some h) (hp : h.pc.beforeDecision = true) (hcn : h.conn = .no)
    (hrun : run s sched = some s') (hk' : s'.hs[k]? = some h') :
    (h'.marks.length = h.marks.length ∧
      (h'.pc.beforeDecision = true ∨ h'.pc = .decided true ∨ h'.pc = .writing true)) ∨
    (∃ o a, h'.marks[h.marks.length]? = some (o, a, true)) ∨
    (h'.marks.length = h.marks.length ∧ h'.pc.winding = true) := by
  rcases track_after_run hc hk (.inl ⟨rfl, hcn, .inl hp⟩) hrun hk' with ⟨h1, _, h3⟩ | ⟨_, h3⟩ | h3
  · exact Or.inl ⟨h1, h3⟩
  · exact Or.inr (Or.inl h3)
  · exact Or.inr (Or.inr h3)

/-- Shutdown requested while the connection is idle or in the middle of a request head: the handler
can close the connection at once (`closingSeen` is enabled), without any response. If instead the
`select` of `readRequest` takes a request that has arrived, that exchange is started with shutdown
observable and `shutdown_before_decision_marks_response` applies to it. -/
theorem shutdown_while_reading_closes {s : Sys} {k : Nat} {h : Handler}
    (hc : s.closing = true) (hk : s.hs[k]? = some h) (hp : h.pc.readable = true) :
    ∃ s' h', step s (.h k .closingSeen) = some s' ∧ s'.hs[k]? = some h' ∧ h'.pc = .closingConn ∧
      h'.started = h.started ∧ h'.completed = h.completed := by
  have hlt : k < s.hs.length := (List.getElem?_eq_some_iff.mp hk).1
  exact ⟨_, _, step_eq_some_iff.mpr (.h hk nofun (.closingSeen ⟨hp, hc⟩)),
    List.getElem?_set_self hlt, rfl, rfl, rfl⟩

/-! ### no request modifier starts after `Close` has returned (holds at full strength, F07 notwithstanding) -/

theorem no_reqmod_after_close_returns {s : Sys} (hr : Reachable s) :
    ∀ h ∈ s.hs, h.startedAfterReturn = false :=
  fun h hm => ((reachable_good hr).hok h hm).sar

/-- Enabledness form: once `Close` has returned, `reqmodStart` is disabled for every connection —
also for connections that were not yet counted when it returned, and for later accepts. -/
theorem reqmod_disabled_after_close_returns {s : Sys} (hr : Reachable s) (hc : s.cpc = .returned) (k : Nat) :
    step s (.h k .reqmodStart) = none := by
  cases hs : step s (.h k .reqmodStart) with
  | none => rfl
  | some s' =>
    cases step_eq_some_iff.mp hs with
    | h hk _ st =>
      cases st with
      | reqmodStart hp =>
        have := ((reachable_good hr).hok _ (List.mem_of_getElem? hk)).ret hc
        rw [hp] at this; cases this

/-! ### `Close` returns only after every COUNTED handler is done (what holds given F07) -/

theorem close_returns_after_all_counted_handlers_done {s s' : Sys} (hr : Reachable s)
    (hs : step s .ret = some s') :
    ∀ h ∈ s'.hs, h.pc = .done ∨ h.pc = .accepted ∨ h.pc = .spawned := by
  cases step_eq_some_iff.mp hs with
  | ret hc =>
    intro h hm
    rcases Pc.counted_eq_false_iff.mp (((reachable_good hr).hok h hm).zero hc) with hp | hp | hp
    · exact .inr (.inl hp)
    · exact .inr (.inr hp)
    · exact .inl hp

/-- After `Close` has returned no handler is ever again inside the serving loop. -/
theorem after_close_returned_nobody_serves {s : Sys} (hr : Reachable s) (hc : s.cpc = .returned) :
    ∀ h ∈ s.hs, h.pc.afterClosing = true :=
  fun h hm => ((reachable_good hr).hok h hm).ret hc

/-- The schedule of finding F07. -/
def f07Schedule : List Label :=
  [.serveCheck, .accept, .h 0 .spawn, .closeCall, .closeChan, .lock, .waitZero, .ret]

/-- F07 (test on a concrete witness, `decide`): at full strength the clause "shutdown returns only
after every accepted connection has been closed and its handler has finished" is false for the
model of the code as it is: after `accept; spawn; closeChan; lock; waitZero; ret` the accepted
connection 0 is neither closed nor counted, and it is closed only afterwards. -/
theorem close_returns_after_all_handlers_done_counterexample :
    ∃ s, run init f07Schedule = some s ∧ s.cpc = .returned ∧ s.returnedEarly = true ∧
      (∃ h, s.hs[0]? = some h ∧ h.pc = .spawned) ∧
      ∃ s', run s [.h 0 .add, .h 0 .checkClosing, .h 0 .closeConn, .h 0 .finish] = some s' ∧
        ∃ h', s'.hs[0]? = some h' ∧ h'.pc = .done := by
  decide +kernel

/-- The clause at full strength, under the hypothesis that excludes exactly F07: no accepted
connection is still waiting for its `conns.Add(1)` when `Close` returns. -/
theorem close_returns_after_all_handlers_done_partial {s s' : Sys} (hr : Reachable s)
    (hs : step s .ret = some s')
    (hcounted : ∀ h ∈ s.hs, h.pc ≠ .accepted ∧ h.pc ≠ .spawned) :
    (∀ h ∈ s'.hs, h.pc = .done) ∧ s'.returnedEarly = false := by
  have hall := close_returns_after_all_counted_handlers_done hr hs
  cases step_eq_some_iff.mp hs with
  | ret hc =>
    have hd : ∀ h ∈ s.hs, h.pc = .done := fun h hm =>
      (hall h hm).resolve_right fun h1 => h1.elim (hcounted h hm).1 (hcounted h hm).2
    refine ⟨hd, ?_⟩
    show (s.hs.any fun h => h.pc != .done) = false
    simp only [List.any_eq_false]
    intro h hm
    simp [hd h hm]

/-! ### connections accepted after shutdown began are closed without being served -/

theorem late_accepts_not_served {s : Sys} (hr : Reachable s) :
    ∀ h ∈ s.hs, h.late = true →
      h.entered = false ∧ h.started = 0 ∧ h.completed = 0 ∧ h.pc.afterClosing = true := by
  intro h hm hl
  have ok := (reachable_good hr).hok h hm
  have he := (ok.late hl).2
  have := ok.ent he
  have hx := ok.exch
  refine ⟨he, this.2, ?_, this.1⟩
  omega

/-! ### concurrent accept and shutdown never deadlock -/

/-- Progress: in every reachable state in which `Close` has been called and shutdown is not yet
complete (`Close` returned and every accepted connection's handler done), some move is enabled that is
either a move of the proxy itself — no client has to do anything; a modifier, round trip, dial or write in
progress is assumed to return (`reqmodEnd`/`rtEnd`/`resmodEnd`/`writeEnd`/`dialEnd` count as moves) — or, and
only if some handler is waiting for a peer (`Pc.peerBlocked`: open blind tunnel, first byte / TLS handshake of a
MITM'd tunnel, rest of a request body), the move of that peer that ends the wait. This holds with any number of
connections accepted before, during and after the call. -/
theorem no_deadlock {s : Sys} (hr : Reachable s) (hc : s.cpc ≠ .idle) (hnf : ¬ Final s) :
    ∃ l, (step s l).isSome = true ∧
      (l.internal = true ∨ (l.peerMove = true ∧ ∃ h ∈ s.hs, h.pc.peerBlocked = true)) :=
  progress_by_proxy_or_peer hr hc hnf

/-- When no handler is waiting for a peer, the move `no_deadlock` yields is one of the proxy itself. -/
theorem no_deadlock_without_open_tunnels {s : Sys} (hr : Reachable s) (hc : s.cpc ≠ .idle) (hnf : ¬ Final s)
    (hnb : ∀ h ∈ s.hs, h.pc.peerBlocked = false) :
    ∃ l, l.internal = true ∧ (step s l).isSome = true := by
  obtain ⟨l, h1, h2 | ⟨_, h, hm, hb⟩⟩ := no_deadlock hr hc hnf
  · exact ⟨l, h2, h1⟩
  · rw [hnb h hm] at hb; cases hb

/-- Every move of the proxy itself strictly decreases `measure`: there is no infinite run without
client moves (no livelock), from ANY state. -/
theorem proxy_moves_terminate {s s' : Sys} {l : Label} (hs : step s l = some s') (hi : l.internal = true) :
    measure s' < measure s :=
  drain_step_decreases hs (by simp [Label.drain, hi])

/-- So does every peer move that ends the wait of a peer-blocked handler. -/
theorem drain_moves_terminate {s s' : Sys} {l : Label} (hs : step s l = some s') (hi : l.drain = true) :
    measure s' < measure s :=
  drain_step_decreases hs hi

/-- Together: from every reachable state after `Close` was called, drain moves (moves of the proxy,
plus the peer moves that end the wait of a peer-blocked handler) reach — within
`measure s` steps — a state in which `Close` has returned and every accepted connection is closed
and its handler finished; and since every drain move decreases the measure, every maximal run of
drain moves ends there (`no_deadlock` says it cannot stop earlier). -/
theorem shutdown_completes {s : Sys} (hr : Reachable s) (hc : s.cpc ≠ .idle) :
    ∃ sched s', (∀ l ∈ sched, l.drain = true) ∧ sched.length ≤ measure s ∧
      run s sched = some s' ∧ Final s' :=
  completes_by (D := Label.drain) (I := fun _ => True) (fun _ h => h) (fun _ _ _ => trivial)
    (fun hr hc _ hf => progress hr hc hf) hr hc trivial

/-- If no connection has a tunnel open, is about to
open one or is inside a CONNECT exchange (`AllPlain`), moves of the PROXY ALONE complete the shutdown. -/
theorem shutdown_completes_by_proxy_moves_alone {s : Sys} (hr : Reachable s) (hc : s.cpc ≠ .idle)
    (hp : AllPlain s) :
    ∃ sched s', (∀ l ∈ sched, l.internal = true) ∧ sched.length ≤ measure s ∧
      run s sched = some s' ∧ Final s' := by
  refine completes_by (D := Label.internal) (I := AllPlain) ?drain ?plain ?progress hr hc hp
  case drain =>
    intro l hi
    simp [Label.drain, hi]
  case plain =>
    -- the two labels that lead out of the plain states are client moves
    intro s s' l hp hi hs
    exact step_allPlain hp (fun k e => by subst e; cases hi) (fun k rc e => by subst e; cases hi) hs
  case progress =>
    intro s hr hc hp hf
    exact no_deadlock_without_open_tunnels hr hc hf fun h hm => (Handler.plain_iff.mp (hp h hm)).1

/-! ### the upstream phase is insensitive to shutdown

The model has no step that abandons a round trip or a response write: trace validation therefore
rejects any run of the real proxy in which the round trip of a started exchange ends without the
origin's response (trace event `rtx` of the test harness, e.g. because the request's context was cancelled at shutdown). -/

/-- While an exchange is in the upstream round trip, the only moves of its handler are the return of the
round trip — with the origin's response (`rtEnd rc`) or with an ERROR (`rtFail`: dial refused, reset,
truncated head, timeout; `handle` then builds a 502). In BOTH outcomes the handler goes on to the response
modifier with the exchange still in flight, and neither the move nor its result depends on `closing`, on
`connsMu` or on whether `Close` has returned: shutdown does not turn a failed round trip into a dropped
exchange. -/
theorem round_trip_ends_only_with_origin_response {c m r : Bool} {h h' : Handler} {l : HL}
    (hp : h.pc = .inRoundTrip) (hs : hstep c m r h l = some h') :
    ((∃ rc, l = .rtEnd rc ∧ h' = { h with pc := .postRoundTrip, resClose := rc }) ∨
     (l = .rtFail ∧ h' = { h with pc := .postRoundTrip, resClose := false, rtFailed := h.rtFailed + 1 })) ∧
    h'.pc = .postRoundTrip ∧ h'.started = h.started ∧ h'.completed = h.completed ∧ h'.pc.inExchange = true ∧
      ∀ c' m' r', hstep c' m' r' h l = some h' := by
  have st := hstep_eq_some_iff.mp hs
  obtain ⟨_, e⟩ := st.edge_from hp
  have hi := st.indep (by cases e <;> rfl)
  cases e <;> cases st
  case rtEnd rc _ => exact ⟨.inl ⟨rc, rfl, rfl⟩, rfl, rfl, rfl, rfl, hi⟩
  case rtFail => exact ⟨.inr ⟨rfl, rfl⟩, rfl, rfl, rfl, rfl, hi⟩

/-- A failed round trip is answered: on EVERY schedule — with any number of `rtFail` labels, any placement
of `Close` — without the two fault labels of the client side (`writeErr`, `hijack`), every exchange whose
request modifier has started is still in flight or has had its response (the origin's, or the 502)
completely written, and a handler that closes its connection has completed everything it started. In
particular an exchange whose round trip failed after shutdown began is not dropped. -/
theorem failed_round_trip_is_answered {sched : List Label} {s : Sys} (hr : run init sched = some s)
    (hl : ∀ l ∈ sched, l.isFault = false) :
    ∀ h ∈ s.hs, h.started = h.completed + (if h.pc.inExchange then 1 else 0) ∧
      (h.pc.winding = true → h.completed = h.started) ∧ (Label.h 0 .rtFail).isFault = false :=
  fun h hm => ⟨(started_exchange_completes_without_faults hr hl h hm).1,
    (started_exchange_completes_without_faults hr hl h hm).2, rfl⟩

/-- Test on a concrete schedule: shutdown while the exchange is parked in the round trip, the round trip
then fails — the 502 is complete, marked `Connection: close`, the connection is closed, `Close` returns. -/
theorem failed_round_trip_during_shutdown_witness :
    ∃ s, run init
      [.serveCheck, .accept, .h 0 .spawn, .h 0 .add, .h 0 .checkClosing, .h 0 (.gotReq false), .h 0 .reqmodStart,
       .h 0 .reqmodEnd, .h 0 .rtStart, .closeCall, .closeChan, .lock,
       .h 0 .rtFail, .h 0 .resmodStart, .h 0 .resmodEnd, .h 0 .decide, .h 0 .writeStart, .h 0 .writeEnd,
       .h 0 .closeConn, .h 0 .finish, .waitZero, .ret] = some s ∧
      Final s ∧ s.returnedEarly = false ∧
      ∃ h, s.hs[0]? = some h ∧ h.marks = [(true, false, true)] ∧ h.started = 1 ∧ h.completed = 1 ∧ h.rtFailed = 1 := by
  refine ⟨_, rfl, ⟨rfl, ?_⟩, rfl, _, rfl, rfl, rfl, rfl, rfl⟩
  decide +kernel

/-- While a response is being written, the only move of the PROXY is the completion of the write (the
response is counted as completely written), whatever the shutdown state; the only other way out is the
environment label `writeErr` (the client went away, or stalled beyond the idle timeout the application
configured). In particular the proxy has no move — no deadline of its own, no reaction to `closing` —
that abandons a response it is writing. -/
theorem response_write_ends_only_complete {c m r b : Bool} {h h' : Handler} {l : HL}
    (hp : h.pc = .writing b) (hs : hstep c m r h l = some h') :
    ((l = .writeEnd ∧ h'.completed = h.completed + 1 ∧ h'.started = h.started) ∨
     (l = .writeErr ∧ (Label.h 0 l).internal = false ∧ h'.aborted = h.aborted + 1 ∧ h'.pc = .closingConn)) ∧
      ∀ c' m' r', hstep c' m' r' h l = some h' := by
  have st := hstep_eq_some_iff.mp hs
  obtain ⟨_, e⟩ := st.edge_from hp
  have hi := st.indep (by cases e <;> rfl)
  cases e
  case writeEndDrain | writeEndClose | writeEndKeep => cases st; exact ⟨.inl ⟨rfl, rfl, rfl⟩, hi⟩
  case writeErr => cases st <;> exact ⟨.inr ⟨rfl, rfl, rfl, rfl⟩, hi⟩

/-- In every state (shutdown requested or not) the return of a pending round trip is enabled and
changes nothing but that handler's position. -/
theorem round_trip_return_enabled_during_shutdown {s : Sys} {k : Nat} {h : Handler}
    (hk : s.hs[k]? = some h) (hp : h.pc = .inRoundTrip) (rc : Bool) :
    ∃ s', step s (.h k (.rtEnd rc)) = some s' ∧ s'.closing = s.closing ∧ s'.wg = s.wg ∧
      s'.cpc = s.cpc ∧ s'.hs = s.hs.set k { h with pc := .postRoundTrip, resClose := rc } :=
  ⟨_, step_eq_some_iff.mpr (.h hk nofun (.rtEnd rc hp)), rfl, rfl, rfl, rfl⟩

/-! ### the proxy's configured timeout (`SetTimeout`) during shutdown

`p.timeout` appears in the code only as the deadline `handleLoop` (and the MITM loop) arm on the CLIENT
connection before reading a request. In the model it can therefore act only where the handler reads from or
writes to the client: as `readErr` (reading), `writeErr` (writing — an exchange that outlasts the timeout
finds the deadline expired when it writes its response), `peeked`/`handshakeEnd` (MITM). -/

/-- While an exchange is parked in (or between) the request modifier, the round trip / dial and the response
modifier, up to the close decision, every move of its handler is a move of the proxy itself (a gate being
released), enabled whatever the shutdown state: no step there stands for a timeout — the handler's progress
does not depend on `p.timeout` while it is parked in a modifier or the round tripper. -/
theorem idle_timeout_acts_only_on_client_io {c m r : Bool} {h h' : Handler} {l : HL}
    (hp : h.pc.beforeDecision = true ∨ h.pc = .dialing) (hs : hstep c m r h l = some h') :
    (Label.h 0 l).internal = true ∧ ∀ c' m' r', (hstep c' m' r' h l).isSome = true := by
  have st := hstep_eq_some_iff.mp hs
  obtain ⟨hi, hsh⟩ := st.edge.beforeDecision hp 0
  refine ⟨hi, fun c' m' r' => ?_⟩
  rcases hsh with hsh | rfl
  · rw [st.indep hsh c' m' r']; rfl
  · cases st with
    | decide hg => rw [hstep_eq_some_iff.mpr (.decide hg)]; rfl

/-- `Close` never gives up: once it holds `connsMu` the only step that moves it on is `waitZero`, enabled
only when the wait-group counter is 0 — there is no step by which it returns on a timer. With
`close_waits_for_every_counted_handler`: however long an exchange stays parked, `Close` stays pending. -/
theorem close_never_gives_up {s s' : Sys} {l : Label} (hc : s.cpc = .locked) (hs : step s l = some s')
    (hne : s'.cpc ≠ s.cpc) : l = .waitZero ∧ s.wg = 0 ∧ s'.cpc = .zeroSeen := by
  cases step_eq_some_iff.mp hs with
  | waitZero h1 => exact ⟨rfl, h1.2, rfl⟩
  | closeCall h1 | closeChan h1 | lock h1 | ret h1 => rw [hc] at h1; cases h1
  | _ => exact absurd rfl hne

/-! ### non-vacuity: the hypotheses above are satisfiable, the parked states are reachable -/

/-- A run in which `Close` is called while connection 0 is parked inside its request modifier and
connection 1 is idle; both end closed, the in-flight response is complete and marked, `Close` returns
after both handlers are done (test on a concrete schedule). -/
example : ∃ s, run init
    [.serveCheck, .accept, .h 0 .spawn, .serveCheck, .accept, .h 1 .spawn, .serveCheck,
     .h 0 .add, .h 0 .checkClosing, .h 1 .add, .h 1 .checkClosing,
     .h 0 (.gotReq false), .h 0 .reqmodStart,
     .closeCall, .closeChan, .lock,
     .h 1 .closingSeen, .h 1 .closeConn, .h 1 .finish,
     .h 0 .reqmodEnd, .h 0 .rtStart, .h 0 (.rtEnd false), .h 0 .resmodStart, .h 0 .resmodEnd, .h 0 .decide,
     .h 0 .writeStart, .h 0 .writeEnd, .h 0 .closeConn, .h 0 .finish,
     .waitZero, .ret] = some s ∧ Final s ∧ s.returnedEarly = false ∧
     (∃ h, s.hs[0]? = some h ∧ h.marks = [(true, false, true)] ∧ h.started = 1 ∧ h.completed = 1) ∧
     (∃ h, s.hs[1]? = some h ∧ h.started = 0) := by
  refine ⟨_, rfl, ⟨rfl, ?_⟩, rfl, ⟨_, rfl, rfl, rfl, rfl⟩, ⟨_, rfl, rfl⟩⟩
  decide +kernel

/-- Shutdown that arrives while the response is being written: the response is complete, NOT marked
(the decision was taken before), and the connection is closed right after it. -/
example : ∃ s, run init
    [.serveCheck, .accept, .h 0 .spawn, .h 0 .add, .h 0 .checkClosing, .h 0 (.gotReq false), .h 0 .reqmodStart,
     .h 0 .reqmodEnd, .h 0 .rtStart, .h 0 (.rtEnd false), .h 0 .resmodStart, .h 0 .resmodEnd, .h 0 .decide,
     .h 0 .writeStart, .closeCall, .closeChan, .h 0 .writeEnd, .h 0 .closingSeen, .h 0 .closeConn, .h 0 .finish,
     .lock, .waitZero, .ret] = some s ∧
     (∃ h, s.hs[0]? = some h ∧ h.marks = [(false, false, false)] ∧ h.pc = .done) ∧ s.returnedEarly = false :=
  ⟨_, rfl, ⟨_, rfl, rfl, rfl⟩, rfl⟩

/-- The hypothesis of `close_returns_after_all_handlers_done_partial` is satisfiable, and a late
accept exists: a connection accepted after `closeChan` (Serve was already blocked in `Accept`). -/
example : ∃ s s', run init
    [.serveCheck, .closeCall, .closeChan, .accept, .h 0 .spawn, .serveCheck, .h 0 .add, .h 0 .checkClosing,
     .h 0 .closeConn, .h 0 .finish, .lock, .waitZero] = some s ∧
     (∀ h ∈ s.hs, h.pc ≠ .accepted ∧ h.pc ≠ .spawned) ∧ step s .ret = some s' ∧ s.acc = .stopped ∧
     (∃ h, s.hs[0]? = some h ∧ h.late = true ∧ h.pc = .done) := by
  refine ⟨_, _, rfl, ?_, rfl, rfl, ⟨_, rfl, rfl, rfl⟩⟩
  decide +kernel

end Martian.Props.C07
