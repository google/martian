import Martian.Lemmas.Mitm
import Martian.Generated.Mitm
import Martian.Props.C06.Hostname
import Martian.Props.C06.Normalise
import Martian.Props.C06.Sched
import Martian.Props.C06.Facts
import Martian.Props.C06.Fault
import Martian.Props.C06.Chain
import Martian.Props.C06.Usable
/-!
C06 — Forged certificates verify for the requested host under the configured CA.

Quantifiers: every host byte string (`hostname`, as the SNI or the CONNECT authority gives it),
every time `now` (an `Int`, ms; times in a history need not be monotone), every cache state reachable
by any history of requests (`run`), every schedule of the two atomic steps of N concurrent requesters
(`runSched`; `runF` in Props/C06/Sched.lean is the finer cut with a clock that moves between steps).
"Verifies" is `verifiesFor`: the NAME part is the transcription of Go's `VerifyHostname`
(`verifyHostname`; what it accepts on issued certificates is characterised in Props/C06/Hostname.lean),
the WINDOW part is `NotBefore ≤ now ≤ NotAfter` on whole-second bounds, the CA signature and the key
are two trusted bits (RSA, x509 chain building, ASN.1 are exercised by the harness with Go's real
verifier and real handshakes).

The model follows the **repaired** code (repo-patches/C06-fix-refuse-empty-host.patch);
`empty_host_served_before_fix` is the defect on the code before the repair.

`Servable hostname` (decidable): after port stripping the host is non-empty, not ".", and does not
begin with `[`. Every spelling the property lists satisfies it (`normalise_portForm` for the spellings
with a port; the examples at the end); `[v6]` without a port does not (`bracketed_v6_without_port`).
-/
namespace Martian.Props.C06
open Martian Martian.Go Martian.Mitm

/-! ### one call of `Config.cert` -/

/-- The certificate returned for a servable host verifies for the port-stripped host at the time of
the call, whatever the cache holds (fresh or reused), provided the configured validity is at least
one second (ASN.1 times are whole seconds, see `subsecond_validity_born_expired`). -/
theorem returned_cert_verifies (cfg : Config) (hostname : Bytes) (now : Int) (s : State) {c : Cert} {f : Bool}
    (hv : 1000 ≤ cfg.validity) (hs : Servable hostname)
    (h : (cert cfg hostname now s).2 = .served c f) :
    verifiesFor c (normalise hostname) now = true :=
  served_verifies_under_faults cfg hostname now true s hv hs (by rw [certS_healthy]; exact h)

/-- A host that names something is never refused. -/
theorem named_host_served (cfg : Config) (hostname : Bytes) (now : Int) (s : State)
    (hne : normalise hostname ≠ []) : (cert cfg hostname now s).2 ≠ .refused := by
  rcases cert_cases cfg hostname now s with ⟨e, _⟩ | ⟨_, _, _, _, e⟩ | ⟨_, _, e⟩
  · exact absurd e hne
  · rw [e]; nofun
  · rw [e]; nofun

/-- A cached entry that no longer verifies (window passed, or any other reason) is not handed out:
a fresh certificate (new serial) is issued, stored under the same key, and it verifies. -/
theorem stale_entry_replaced (cfg : Config) (hostname : Bytes) (now : Int) (s : State) (old : Cert)
    (hne : normalise hostname ≠ [])
    (hold : s.cache.lookup (normalise hostname) = some old)
    (hstale : goVerify old (normalise hostname) now = false) :
    let fresh := issue cfg (normalise hostname) now s.next
    cert cfg hostname now s = (store s (normalise hostname) fresh, .served fresh true) ∧
      (cert cfg hostname now s).1.cache.lookup (normalise hostname) = some fresh ∧
      fresh.serial = s.next ∧
      (1000 ≤ cfg.validity → Servable hostname → verifiesFor fresh (normalise hostname) now = true) := by
  rcases cert_cases cfg hostname now s with ⟨e, _⟩ | ⟨_, c, hl, hg, _⟩ | ⟨_, _, e⟩
  · exact absurd e hne
  · rw [hold] at hl; cases hl; rw [hstale] at hg; cases hg
  · exact ⟨e, by rw [e]; simp [issueAndStore, store], rfl, verifiesFor_issue cfg now _⟩

/-- In particular an entry whose validity window has passed is stale. -/
theorem expired_is_stale (c : Cert) (host : Bytes) (now : Int) (h : c.notAfter < now) :
    goVerify c host now = false :=
  goVerify_of_expired h

/-- A cached certificate is reused only while it still verifies for that host. -/
theorem reuse_only_while_valid (cfg : Config) (hostname : Bytes) (now : Int) (s : State) {c : Cert}
    (h : (cert cfg hostname now s).2 = .served c false) :
    s.cache.lookup (normalise hostname) = some c ∧ goVerify c (normalise hostname) now = true ∧
      (cert cfg hostname now s).1 = s := by
  rcases cert_cases cfg hostname now s with ⟨_, e⟩ | ⟨_, _, hl, hg, e⟩ | ⟨_, _, e⟩
  · rw [e] at h; cases h
  · rw [e] at h ⊢; cases h; exact ⟨hl, hg, rfl⟩
  · rw [e] at h; cases h

/-- While a cached entry verifies it is the one served (no needless re-issue) and the state is unchanged. -/
theorem valid_entry_reused (cfg : Config) (hostname : Bytes) (now : Int) (s : State) (c : Cert)
    (hne : normalise hostname ≠ [])
    (hl : s.cache.lookup (normalise hostname) = some c) (hg : goVerify c (normalise hostname) now = true) :
    cert cfg hostname now s = (s, .served c false) := by
  rcases cert_cases cfg hostname now s with ⟨e, _⟩ | ⟨_, _, hl', _, e⟩ | ⟨_, hno, _⟩
  · exact absurd e hne
  · rw [hl] at hl'; cases hl'; exact e
  · rw [hno c hl] at hg; cases hg

/-- No cross-host reuse: under the cache invariant the served certificate carries exactly the SAN
the template builds for the port-stripped requested host — `DNSNames = [host]` or
`IPAddresses = [ip]`, nothing else — is signed by the CA and backed by the proxy's key. -/
theorem no_cross_host (cfg : Config) (hostname : Bytes) (now : Int) (s : State) {c : Cert} {f : Bool}
    (hi : CacheInv s) (h : (cert cfg hostname now s).2 = .served c f) :
    (c.names, c.ips) = sanFor (normalise hostname) ∧ c.signedByCA = true ∧ c.keyHeld = true := by
  rw [← certS_healthy] at h
  rcases served_is_verified_or_fresh cfg hostname now true s h with ⟨_, hl, _⟩ | ⟨_, _, rfl⟩
  · exact (hi _ _ (mem_of_lookup hl)).1
  · exact goodFor_issue ..

/-- A DNS host gets exactly `DNSNames = [host]`, an IP literal exactly `IPAddresses = [ip]`. -/
theorem san_dns_or_ip (host : Bytes) :
    (parseIP host = none ∧ sanFor host = ([host], [])) ∨ (∃ ip, parseIP host = some ip ∧ sanFor host = ([], [ip])) := by
  unfold sanFor
  cases parseIP host with
  | none => exact Or.inl ⟨rfl, rfl⟩
  | some ip => exact Or.inr ⟨ip, rfl, rfl⟩

/-- The only cache key a call touches is the port-stripped host; every other key keeps its entry. -/
theorem cache_key_is_normalised_host (cfg : Config) (hostname : Bytes) (now : Int) (s : State) :
    ((cert cfg hostname now s).1 = s ∨
      ∃ c, (cert cfg hostname now s).1 = store s (normalise hostname) c ∧ (cert cfg hostname now s).2 = .served c true) ∧
    ∀ k, k ≠ normalise hostname → (cert cfg hostname now s).1.cache.lookup k = s.cache.lookup k := by
  rcases cert_cases cfg hostname now s with ⟨_, e⟩ | ⟨_, _, _, _, e⟩ | ⟨_, _, e⟩
  · rw [e]; exact ⟨.inl rfl, fun _ _ => rfl⟩
  · rw [e]; exact ⟨.inl rfl, fun _ _ => rfl⟩
  · rw [e]
    refine ⟨.inr ⟨_, rfl, rfl⟩, fun k hk => ?_⟩
    have : (k == normalise hostname) = false := by simpa using hk
    simp [issueAndStore, store, List.lookup, this]

/-! ### host selection and refusal -/

/-- `TLSForHost`: no SNI and a fallback host that names nothing (empty, `:443`, `[]:443`) — the
handshake is refused and nothing is cached. -/
theorem no_host_refused (cfg : Config) (fallback : Bytes) (now : Int) (s : State)
    (h : normalise fallback = []) : getCertForHost cfg fallback [] now s = (s, .refused) := by
  simp [getCertForHost, cert, h]

/-- `TLS()`: no SNI — refused. -/
theorem tls_no_sni_refused (cfg : Config) (now : Int) (s : State) : getCertTLS cfg [] now s = (s, .refused) := by
  simp [getCertTLS]

/-- Refusal happens only then: a request is refused iff the selected host names nothing. -/
theorem refused_iff_no_host (cfg : Config) (r : Req) (s : State) :
    (serve cfg r s).2 = .refused ↔ normalise r.host = [] := by
  rw [serve_eq_cert]
  rcases cert_cases cfg r.host r.time s with ⟨e0, e⟩ | ⟨hne, _, _, _, e⟩ | ⟨hne, _, e⟩
  · simp [e, e0]
  · simp [e, hne]
  · simp [e, hne, issueAndStore]

/-- SNI wins over the fallback host; the fallback is used exactly when SNI is absent. -/
theorem sni_or_fallback (cfg : Config) (fallback sni : Bytes) (now : Int) (s : State) :
    getCertForHost cfg fallback sni now s = cert cfg (if sni = [] then fallback else sni) now s := by
  unfold getCertForHost
  cases sni <;> simp

/-- The defect before the repair (F06): with no SNI and the fallback `:443` the unrepaired code
serves — and caches under the empty key — a certificate whose only DNS name is the empty string. -/
theorem empty_host_served_before_fix :
    (certUnpatched { validity := 3600000, org := [] } (strBytes ":443") 1000000 {}).2 =
      .served (issue { validity := 3600000, org := [] } [] 1000000 0) true ∧
    (issue { validity := 3600000, org := [] } [] 1000000 0).names = [[]] := by
  decide +kernel

/-! ### every history -/

/-- Organisation: with the configuration fixed, every entry of every reachable cache carries it. -/
theorem org_in_every_history (cfg : Config) (rs : List Req) :
    ∀ k c, (k, c) ∈ (run cfg rs {}).cache → c.org = cfg.org :=
  entries_run (P := fun _ c => c.org = cfg.org) (fun _ _ _ => rfl) rs nofun

/-- **The property over all histories.** After any history of requests (any hosts, any times) on a
fresh `Config`, the answer to any further request is either a refusal — exactly when neither SNI nor
the fallback names a host — or a certificate that carries exactly the SAN of the port-stripped
requested host, the configured organisation, the CA's signature and the proxy's key, and that verifies
for that host at the time of the request. -/
theorem served_cert_right_in_every_history (cfg : Config) (rs : List Req) (r : Req) {c : Cert} {f : Bool}
    (h : (serve cfg r (run cfg rs {})).2 = .served c f) :
    normalise r.host ≠ [] ∧
    (c.names, c.ips) = sanFor (normalise r.host) ∧
    c.org = cfg.org ∧ c.signedByCA = true ∧ c.keyHeld = true ∧
    (1000 ≤ cfg.validity → Servable r.host → verifiesFor c (normalise r.host) r.time = true) := by
  rw [serve_eq_cert] at h
  have hi := cacheInv_run cfg rs cacheInv_init
  rcases cert_cases cfg r.host r.time (run cfg rs {}) with ⟨_, e⟩ | ⟨hne, _, hl, hg, e⟩ | ⟨hne, _, e⟩
  · rw [e] at h; cases h
  · rw [e] at h; cases h
    have hm := mem_of_lookup hl
    obtain ⟨hsan, hca, hkey⟩ := (hi _ _ hm).1
    exact ⟨hne, hsan, org_in_every_history cfg rs _ _ hm, hca, hkey, fun _ _ => verifiesFor_of_goVerify hne hg⟩
  · rw [e] at h; cases h
    exact ⟨hne, (goodFor_issue ..).1, rfl, rfl, rfl, verifiesFor_issue cfg _ _⟩

/-! ### "valid for exactly that host" -/

/-- **Exactly that host, in every history.** The certificate served for a request whose port-stripped
host `k` is an IP literal verifies for a host string `h` iff `h` (brackets optional) is the same
address; if `k` is a plain DNS name, iff `h` is not an IP literal and equals `k` up to ASCII letter
case and one trailing dot. No other name is covered (no wildcard, no second SAN). -/
theorem served_cert_valid_for_exactly_that_host (cfg : Config) (rs : List Req) (r : Req) {c : Cert} {f : Bool}
    (h : (serve cfg r (run cfg rs {})).2 = .served c f) (other : Bytes) :
    (∀ ip, parseIP (normalise r.host) = some ip →
      (verifyHostname c other = true ↔ parseIP (stripBrackets other) = some ip)) ∧
    (parseIP (normalise r.host) = none → PlainName (normalise r.host) →
      (verifyHostname c other = true ↔
        parseIP (stripBrackets other) = none ∧ toLower (trimDot other) = toLower (normalise r.host))) := by
  obtain ⟨_, hsan, _, hca, hkey, _⟩ := served_cert_right_in_every_history cfg rs r h
  have hg : GoodFor (normalise r.host) c := ⟨hsan, hca, hkey⟩
  exact ⟨fun ip hk => issued_ip_exact hg hk other, fun hk hp => issued_dns_exact hg hk hp other⟩

/-- The listed spellings end to end, DNS name × letter case × port: for a plain name `d` in any case
mix `d'`, with any port, the certificate served — fresh or from the cache, in any history — verifies
for `d` at the time of the request. -/
theorem dns_any_case_any_port_verifies (cfg : Config) (rs : List Req) (d d' p : Bytes) (now : Int) {c : Cert} {f : Bool}
    (hv : 1000 ≤ cfg.validity) (hcase : toLower d' = toLower d)
    (hd : PlainName d') (hnip : parseIP d' = none) (hnipd : parseIP (stripBrackets d) = none)
    (d1 : colon ∉ d') (d2 : lbr ∉ d') (d3 : rbr ∉ d') (p1 : colon ∉ p) (p2 : lbr ∉ p) (p3 : rbr ∉ p)
    (h : (serve cfg (.forHost (d' ++ colon :: p) [] now) (run cfg rs {})).2 = .served c f) :
    verifiesFor c d now = true := by
  have hn : normalise (d' ++ colon :: p) = d' := normalise_host_port d1 d2 d3 p1 p2 p3
  have hne : d' ≠ [] := validPattern_ne_nil hd.1
  have hdot : d' ≠ [dot] := by
    intro e; rw [e] at hd; revert hd; decide
  obtain ⟨_, hsan, _, hca, hkey, hver⟩ := served_cert_right_in_every_history cfg rs _ h
  have hver' := hver hv (servable_host_port hne hdot d1 d2 d3 p1 p2 p3)
  simp only [Req.host, List.isEmpty_nil, if_true, Req.time, hn] at hver' hsan
  have hname := issued_verifies_any_case ⟨hsan, hca, hkey⟩ hnip hne hdot d hnipd hcase.symm
  have hdne : d ≠ [] := by
    intro e; rw [e] at hcase; exact hne (toLower_eq_nil.mp hcase)
  obtain ⟨_, _, hw, hs⟩ := verifiesFor_iff.mp hver'
  exact verifiesFor_iff.mpr ⟨hdne, hname, hw, hs⟩

/-! ### concurrent handshakes -/

/-- N requesters run `Config.cert` concurrently as two atomic steps each (lookup+verify under the
read lock; issue+insert under the write lock), interleaved by an arbitrary schedule with arbitrary
times, starting from any reachable cache. Whoever has returned holds a refusal only if its own host
names nothing, otherwise a certificate issued for **its own** port-stripped host (exact SAN, CA
signature, proxy key) that verified for that host when it was handed out. Last-writer-wins on the
map is harmless. -/
theorem concurrent_own_host (cfg : Config) (hosts : List Bytes) (s : State) (hc : CacheInv s)
    (sched : List (Nat × Int)) (i : Nat) (hostname : Bytes) (o : Outcome) (t : Int)
    (hh : hosts[i]? = some hostname)
    (hd : (runSched cfg sched { st := s, threads := hosts.map Pc.start }).threads[i]? = some (.done o t)) :
    match o with
    | .refused => normalise hostname = []
    | .served c _ =>
      normalise hostname ≠ [] ∧ (c.names, c.ips) = sanFor (normalise hostname) ∧
      c.signedByCA = true ∧ c.keyHeld = true ∧
      (1000 ≤ cfg.validity → Servable hostname → verifiesFor c (normalise hostname) t = true) := by
  have hinv := sysInv_run (cfg := cfg) (hosts := hosts) sched (sysInv_start (cfg := cfg) (hosts := hosts) hc)
  obtain ⟨h', hh', hg⟩ := hinv.2 i _ hd
  rw [hh] at hh'
  cases hh'
  cases o with
  | refused => exact hg
  | served c f => exact ⟨hg.1, hg.2.1.1, hg.2.1.2.1, hg.2.1.2.2, hg.2.2⟩

/-- The hypothesis of `served_under_every_fine_schedule` holds of the cache that any history leaves behind
in a fresh `Config`. -/
theorem reachable_cache_good (cfg : Config) (rs : List Req) :
    ∀ k c, (k, c) ∈ (run cfg rs {}).cache → GoodFor k c ∧ c.org = cfg.org :=
  entries_run (P := GoodOrg cfg) (fun _ _ _ => ⟨goodFor_issue .., rfl⟩) rs nofun

/-- Concurrent handshakes after any history, every fine-grained schedule, time moving between steps: each
requester that has returned holds a certificate for its own host that was valid when checked. -/
theorem concurrent_after_any_history (cfg : Config) (rs : List Req) (hosts : List Bytes) (t0 : Int)
    (sched : List (Nat × Nat)) (i : Nat) (hostname : Bytes) (c : Cert) (f : Bool) (tchk tret : Int)
    (hh : hosts[i]? = some hostname) (hv : 1000 ≤ cfg.validity) (hs : Servable hostname)
    (hd : (runF cfg sched { st := run cfg rs {}, clock := t0, threads := hosts.map FPc.start }).threads[i]? =
      some (.done (.served c f) tchk tret)) :
    (c.names, c.ips) = sanFor (normalise hostname) ∧ c.org = cfg.org ∧ tchk ≤ tret ∧
      verifiesFor c (normalise hostname) tchk = true ∧
      (verifiesFor c (normalise hostname) tret = true ↔ tret ≤ c.notAfter) := by
  have h := served_under_every_fine_schedule cfg hosts (run cfg rs {}) t0 (reachable_cache_good cfg rs) sched i hostname _ tchk tret hh hd
  obtain ⟨_, hsan, _, _, horg, hle, hrest⟩ := h
  obtain ⟨h1, h2, _⟩ := hrest hv hs
  exact ⟨hsan, horg, hle, h1, h2⟩

/-- The sequential function is the two steps run back to back (so the schedule semantics really is
`Config.cert` cut at its lock boundaries). -/
theorem two_steps_are_cert (cfg : Config) (hostname : Bytes) (now : Int) (s : State) :
    let sys := stepThread cfg (stepThread cfg { st := s, threads := [.start hostname] } 0 now) 0 now
    sys.st = (cert cfg hostname now s).1 ∧ sys.threads = [.done (cert cfg hostname now s).2 now] := by
  by_cases he : (normalise hostname).isEmpty = true
  · simp [stepThread, cert, he]
  · cases hl : s.cache.lookup (normalise hostname) with
    | none => simp [stepThread, cert, certFor, he, hl, issueAndStore]
    | some c =>
      cases hg : goVerify c (normalise hostname) now <;>
        simp [stepThread, cert, certFor, he, hl, hg, issueAndStore]

/-! ### facts regenerated from the source on every check (vextract, `Generated/Mitm.lean`) -/

/-- The cache map is touched in exactly two places of the package: the lookup inside an
(R)Lock/(R)Unlock pair and the insert inside a Lock/Unlock pair of `certmu` — the two atomic steps
of `stepThread`. An edit that adds an unguarded access or drops a lock breaks this theorem. -/
theorem facts_lock_discipline :
    Generated.Mitm.certsAccesses = 2 ∧ Generated.Mitm.lookupUnderLock = true ∧
      Generated.Mitm.insertUnderWriteLock = true := by decide +kernel

/-- Defaults of `NewConfig`, which the driver's initial state (3 600 000 ms, "Martian Proxy") mirrors. -/
theorem facts_defaults :
    Generated.Mitm.defaultValidity = "time.Hour" ∧ Generated.Mitm.defaultOrg = "\"Martian Proxy\"" := by decide +kernel

/-! ### boundaries of the statement (documented, not findings) -/

/-- Why validity ≥ 1 s is assumed: certificate times are whole seconds, so a 50 ms validity issued at
…1.900 s ends at …1.000 s — born expired. -/
theorem subsecond_validity_born_expired :
    inWindow (issue { validity := 50, org := [] } (strBytes "example.com") 1900 0) 1900 = false := by
  decide +kernel

/-- Outside the listed spellings: a bracketed IPv6 literal **without** a port is not stripped, does not
parse as an IP, gets a DNS-name SAN `[::1]`, and that certificate does not verify for the host (Go's
verifier reads `[::1]` as the address ::1). Not demanded by the property; recorded here. -/
theorem bracketed_v6_without_port :
    ¬ Servable (strBytes "[::1]") ∧
    (issue { validity := 3600000, org := [] } (normalise (strBytes "[::1]")) 5000 0).names = [strBytes "[::1]"] ∧
    verifiesFor (issue { validity := 3600000, org := [] } (normalise (strBytes "[::1]")) 5000 0) (strBytes "[::1]") 5000 = false := by
  decide +kernel

/-! ### non-vacuity: the listed spellings are servable and normalise as intended -/

example : Servable (strBytes "Example.COM") ∧ normalise (strBytes "Example.COM") = strBytes "Example.COM" := by decide +kernel
example : Servable (strBytes "example.com:443") ∧ normalise (strBytes "example.com:443") = strBytes "example.com" := by decide +kernel
example : Servable (strBytes "10.0.0.1:8443") ∧ normalise (strBytes "10.0.0.1:8443") = strBytes "10.0.0.1" := by decide +kernel
example : Servable (strBytes "::1") ∧ normalise (strBytes "::1") = strBytes "::1" := by decide +kernel
example : Servable (strBytes "[2001:db8::1]:443") ∧ normalise (strBytes "[2001:db8::1]:443") = strBytes "2001:db8::1" := by decide +kernel
example : normalise (strBytes ":443") = [] ∧ normalise [] = [] ∧ normalise (strBytes "[]:443") = [] := by decide +kernel
example : sanFor (strBytes "10.0.0.1") = ([], [[0, 0, 0, 0, 0, 0, 0, 0, 0, 0, 255, 255, 10, 0, 0, 1]]) := by decide +kernel
example : sanFor (strBytes "::1") = ([], [[0, 0, 0, 0, 0, 0, 0, 0, 0, 0, 0, 0, 0, 0, 0, 1]]) := by decide +kernel
example : sanFor (strBytes "example.com") = ([strBytes "example.com"], []) := by decide +kernel
/-- the hypotheses of `stale_entry_replaced` are satisfiable: a 2-second certificate, three seconds later -/
example : let c := issue { validity := 2000, org := [] } (strBytes "example.com") 10400 0
    goVerify c (strBytes "example.com") 10401 = true ∧ goVerify c (strBytes "example.com") 13400 = false := by decide +kernel
/-- a mixed-case request verifies against its own certificate, and a cached lower-case one would too -/
example : verifiesFor (issue { validity := 2000, org := [] } (strBytes "example.com") 10400 0) (strBytes "EXAMPLE.com") 10400 = true := by decide +kernel

end Martian.Props.C06
