import Martian.Props.C20.Arith
import Martian.Props.C20.Facts
import Martian.Lemmas.Range
import Martian.Lemmas.Path
import Martian.Lemmas.PathBytes
/-!
C20 — Synthetic bodies honour Range requests exactly and stay inside their root.
Quantifiers: every content (any length), every Range header byte string (ASCII; see Go/Strings),
every component list of a request path.
-/
namespace Martian.Props.C20
open Martian Martian.Go Martian.Range

/-- The modelled Range pipeline never reaches a Go slice-bounds panic. -/
theorem never_panics (content : Bytes) (hdr : Option Bytes) : respond content hdr ≠ .panic := by
  rcases respond_eq content hdr with (h | h | h) | ⟨rs, -, h⟩ <;> rw [h]
  case inr => split <;> nofun
  all_goals nofun

/-- No Range header (or an empty one): the whole content, unchanged. -/
theorem full_when_no_range (content : Bytes) :
    respond content none = .full content ∧ respond content (some []) = .full content := by
  simp [respond]

/-- A single-range 206 carries exactly bytes `s..e` of the content, `e` inside the content,
and the advertised total is the content length. -/
theorem single_range_exact {content : Bytes} {hdr : Option Bytes} {s e : Int} {t : Nat} {b : Bytes}
    (h : respond content hdr = .single s e t b) :
    0 ≤ s ∧ s ≤ e ∧ e < (content.length : Int) ∧ t = content.length ∧
      b = (content.drop s.toNat).take (e.toNat + 1 - s.toNat) ∧ b.length = e.toNat + 1 - s.toNat := by
  rcases respond_eq content hdr with (h' | h' | h') | ⟨rs, hall, h'⟩ <;> rw [h'] at h
  case inr =>
    split at h <;> cases h
    obtain ⟨h0, h1, h2⟩ := hall _ List.mem_cons_self
    refine ⟨h0, h1, h2, rfl, rfl, ?_⟩
    rw [slice, List.length_take, List.length_drop,
      Nat.min_eq_left (Nat.sub_le_sub_right ((Int.toNat_lt (Int.le_trans h0 h1)).2 h2) _)]
  all_goals cases h

/-- A multi-range 206 has one part per accepted range, each exactly the bytes of its range. -/
theorem multi_range_parts {content : Bytes} {hdr : Option Bytes} {t : Nat}
    {parts : List (Int × Int × Bytes)} (h : respond content hdr = .multi t parts) :
    t = content.length ∧ ∀ p ∈ parts, 0 ≤ p.1 ∧ p.1 ≤ p.2.1 ∧ p.2.1 < (content.length : Int) ∧
      p.2.2 = (content.drop p.1.toNat).take (p.2.1.toNat + 1 - p.1.toNat) := by
  rcases respond_eq content hdr with (h' | h' | h') | ⟨rs, hall, h'⟩ <;> rw [h'] at h
  case inr =>
    split at h <;> cases h
    refine ⟨rfl, fun p hp => ?_⟩
    obtain ⟨q, hq, rfl⟩ := List.mem_map.mp hp
    exact ⟨(hall q hq).1, (hall q hq).2.1, (hall q hq).2.2, rfl⟩
  all_goals cases h

/-- Whatever is returned is a contiguous piece of the content: never bytes from outside it. -/
theorem never_outside_content {content : Bytes} {hdr : Option Bytes} {s e : Int} {t : Nat} {b : Bytes}
    (h : respond content hdr = .single s e t b) : b <:+: content := by
  have := single_range_exact h
  rw [this.2.2.2.2.1]
  exact ⟨content.take s.toNat, (content.drop s.toNat).drop (e.toNat + 1 - s.toNat), by
      rw [List.append_assoc, List.take_append_drop, List.take_append_drop]⟩

/-- An accepted range is what was asked for, with the last position clamped to the final byte;
a first position at or past the end, or a reversed range, is 416. -/
theorem clamp_or_416 (size : Nat) (a b : Bytes) (s e : Int)
    (hsplit : split (if hasSuffix (a ++ [minus] ++ b) [minus] then a ++ [minus] ++ b ++ itoa ((size : Int) - 1)
        else a ++ [minus] ++ b) minus = [a, b])
    (hs : atoi (trimSpace a) = some s) (he : atoi (trimSpace b) = some e) :
    parseOne size (a ++ [minus] ++ b) =
      if s > e ∨ s ≥ (size : Int) then .unsat else .ok s (min e ((size : Int) - 1)) := by
  have hmin : (if e ≥ (size : Int) then (size : Int) - 1 else e) = min e ((size : Int) - 1) := by omega
  simp only [parseOne, hsplit, hs, he, hmin]

/-- Static modifier: after cleaning, a rooted request path has no `..`, `.` or empty component. -/
theorem clean_rooted_has_no_dotdot (pathComps : List Bytes) :
    dotdot ∉ cleanComps true pathComps :=
  fun h => (cleanComps_rooted pathComps dotdot h).2.2.2 rfl

/-- Static modifier: joining the cleaned root with the cleaned rooted request path and cleaning
again (what `filepath.Join` does) keeps every root component as a prefix: the resolved file lies
beneath the root, however dotted or slashed the request path was. -/
theorem resolved_under_root (rootComps pathComps : List Bytes) :
    cleanComps true (cleanComps true rootComps ++ cleanComps true pathComps)
      = cleanComps true rootComps ++ cleanComps true pathComps :=
  cleanComps_plain _ _ fun x hx =>
    (List.mem_append.1 hx).elim (fun h => (cleanComps_rooted _ x h).2) (fun h => (cleanComps_rooted _ x h).2)

/-- Byte level, as the static modifier computes it: for a rooted root directory and a rooted request
path - however dotted or slashed - the components of the resolved file name
`filepath.Join(Clean(root), Clean(path))` are the root's components followed by the cleaned path's
components, and no `..` is among the latter: the file lies beneath the root. -/
theorem resolved_bytes_under_root (root p : Bytes) (hr : isRooted root = true) (hp : isRooted p = true) :
    comps (resolve root p) = comps (clean root) ++ comps (clean p) ∧ dotdot ∉ comps (clean p) := by
  have hcr := clean_rooted_isRooted root hr
  have hX : isRooted (clean root ++ slash :: clean p) = true := by
    rw [clean_rooted hr] at hcr ⊢; exact hcr
  refine ⟨?_, by rw [comps_clean_rooted p hp]; exact clean_rooted_has_no_dotdot _⟩
  -- neither argument is empty, so `join2` is `clean (clean root ++ slash :: clean p)`
  rw [resolve, join2, isEmpty_of_isRooted hcr, isEmpty_of_isRooted (clean_rooted_isRooted p hp),
    Bool.false_and, if_neg Bool.false_ne_true, if_neg Bool.false_ne_true, if_neg Bool.false_ne_true,
    List.append_assoc, List.singleton_append]
  -- its components: those of the two halves around the inserted slash, cleaned
  rw [comps_clean_rooted _ hX, split_append_sep, ← cleanComps_filter, List.filter_append]
  show cleanComps true (comps (clean root) ++ comps (clean p)) = _
  rw [comps_clean_rooted root hr, comps_clean_rooted p hp]
  exact resolved_under_root _ _

/-- **Every answer is about the file as it is now.** After any history of rewrites and requests on one
served path, a request is answered from the content most recently written — size, clamping, the 416
test, `Content-Range` total and the bytes all follow the current file, never an earlier one — so all
theorems above apply to it with `content :=` the current content. -/
theorem answer_follows_current_file (disk : Bytes) (ops : List FileOp) (hdr : Option Bytes) :
    (fileStep (fileRun disk ops) (.get hdr)).2 = some (respond (lastWritten disk ops) hdr) := by
  induction ops generalizing disk with
  | nil => rfl
  | cons op ops ih => cases op <;> simpa [fileRun, fileStep, lastWritten] using ih _

/-- **An explicit path mapping is consulted by exact key only.** A request whose cleaned path is not the
key is resolved as if there were no mapping — so `resolved_bytes_under_root` applies to it, however the
path is dotted below a key that looks like a directory — and a request that hits the key gets the
configured file, whatever else its path spelt. -/
theorem mapping_is_exact_key_only (root key value p : Bytes) :
    (clean p ≠ key → resolveMapped root key value p = resolve root p) ∧
    (clean p = key → resolveMapped root key value p = join2 (clean root) value) := by
  constructor <;> intro h <;> simp [resolveMapped, h]

/-! Non-vacuity / sanity on concrete inputs (tests, labelled as such). -/
example : (fileStep (fileRun (strBytes "0123456789") [.get none, .write (strBytes "0123")]) (.get (some (strBytes "bytes=2-7")))).2
    = some (.single 2 3 4 (strBytes "23")) := by
  repeat rw [strBytes_ofList]
  decide +kernel
example : respond (strBytes "0123456789") (some (strBytes "bytes=5-20"))
    = .single 5 9 10 (strBytes "56789") := by
  repeat rw [strBytes_ofList]
  decide +kernel
example : respond (strBytes "0123456789") (some (strBytes "bytes=2-"))
    = .single 2 9 10 (strBytes "23456789") := by
  repeat rw [strBytes_ofList]
  decide +kernel
example : respond (strBytes "0123456789") (some (strBytes "bytes=10-12")) = .unsat := by
  repeat rw [strBytes_ofList]
  decide +kernel
example : respond (strBytes "0123456789") (some (strBytes "bytes=0-1, 4-5"))
    = .multi 10 [(0, 1, strBytes "01"), (4, 5, strBytes "45")] := by
  repeat rw [strBytes_ofList]
  decide +kernel
example : respond [] (some (strBytes "bytes=0-")) = .unsat := by
  repeat rw [strBytes_ofList]
  decide +kernel
example : respond (strBytes "abc") (some (strBytes "bytes=x-2")) = .err := by
  repeat rw [strBytes_ofList]
  decide +kernel
example : clean (strBytes "/a/../../etc//passwd/.") = strBytes "/etc/passwd" := by
  repeat rw [strBytes_ofList]
  decide +kernel
example : resolve (strBytes "/srv/root/") (strBytes "/../../x") = strBytes "/srv/root/x" := by
  repeat rw [strBytes_ofList]
  decide +kernel
example : resolveMapped (strBytes "/srv/root") (strBytes "/assets/") (strBytes "files") (strBytes "/assets/../../../secret")
    = strBytes "/srv/root/secret" := by
  repeat rw [strBytes_ofList]
  decide +kernel

end Martian.Props.C20
