import Martian.Lemmas.Config
import Martian.Generated.Config
import Martian.Props.C12.Matchers
import Martian.Props.C12.Json
import Martian.Props.C12.Facts
/-!
C12 — A JSON modifier configuration means what its tree says, for every tree.
Quantifiers: every configuration tree `Node` (any depth, any width, any scope list at every level,
any priorities), every condition valuation of the message, both message kinds, every history of
POSTed bodies. Filter conditions are concrete (`Cond`); the theorems of this file hold for every
valuation of them (`Msg`), so in particular for the one a concrete exchange induces through the six
matchers (`Props/C12/Matchers.lean`). JSON decoding: `Props/C12/Json.lean`.
-/
namespace Martian.Props.C12
open Martian Martian.Config

/-- **Main theorem.** If `parse.FromJSON` accepts the tree, then running the compiled modifier
(through `martianhttp.Modifier`) on a request or a response runs exactly the leaves, in exactly the
order, and reports exactly the errors, of the depth-first reading `specEval` of the tree. -/
theorem compile_eval_eq_spec (n : Node) (r : Result) (k : Kind) (msg : Msg) (h : compile n = .ok r) :
    flatO (run r k msg) = specEval k (msg k) n :=
  run_spec h k msg

/-- An error value produced by any compiled modifier is nil, a leaf error, or a non-empty
`MultiError` of leaf errors (depth never exceeds one: by type; never empty: here). -/
theorem multierror_never_empty (v : Cond → Bool) (m : Mod) : (eval v m).2 ≠ .multi [] := eval_wf v m

/-- `priority.Group`'s insertion loop over the listed modifiers = stable descending sort of the
reversed list. -/
theorem priority_insert_sorted {α : Type} (ms : List (Int × α)) : insertAll ms = stableSortDesc ms.reverse :=
  insertAll_eq_stableSort ms

/-- The order the insertion loop leaves: the same elements, in non-increasing priority, and among the
elements of any one priority the later-listed first. -/
theorem priority_order_characterised {α : Type} (ms : List (Int × α)) :
    (insertAll ms).Perm ms ∧ SortedDesc (insertAll ms) ∧
    ∀ p : Int, (insertAll ms).filter (fun y => y.1 == p) = ms.reverse.filter (fun y => y.1 == p) :=
  ⟨insertAll_perm ms, insertAll_sorted ms, fun p => filter_insertAll p ms⟩

/-- The two ordering clauses of `priority_order_characterised` determine the run order uniquely. -/
theorem priority_order_unique {α : Type} (ms l : List (Int × α)) (hs : SortedDesc l)
    (he : ∀ p : Int, l.filter (fun y => y.1 == p) = ms.reverse.filter (fun y => y.1 == p)) : l = insertAll ms :=
  sorted_filter_unique l (insertAll ms) hs (insertAll_sorted ms) fun p => (he p).trans (filter_insertAll p ms).symm

/-- One insertion: the new modifier goes after every strictly higher priority and in front of
everything else (so in front of its equals). -/
theorem priority_insert_position {α : Type} (x : Int × α) (l : List (Int × α)) (hs : SortedDesc l) :
    ∃ pre suf, ins x l = pre ++ x :: suf ∧ l = pre ++ suf ∧ (∀ m ∈ pre, m.1 > x.1) ∧ (∀ m ∈ suf, x.1 ≥ m.1) := by
  obtain ⟨pre, suf, h1, h2, h3⟩ := ins_split x l
  refine ⟨pre, suf, h1, h2, h3, ?_⟩
  have hsorted := ins_sorted x hs
  rw [h1] at hsorted
  have := (List.pairwise_append.mp hsorted).2.1
  exact fun m hm => (List.pairwise_cons.mp this).1 m hm

def scopeOf : Node → Scope
  | .leaf _ _ _ _ s => s
  | .fifo s _ _ => s
  | .prio s _ => s
  | .filter _ s _ _ => s
  | _ => none

def capsOf : Node → Caps
  | .leaf _ c _ _ _ => c
  | _ => Caps.both

/-- An accepted node exposes a request (response) modifier iff its scope names requests
(responses); with no scope, iff its Go type supports them. `[]` exposes nothing, `nil` everything. -/
theorem scope_projection (n : Node) (r : Result) (k : Kind) (h : compile n = .ok r) :
    (r.side k).isSome = acts (scopeOf n) (capsOf n) k := by
  -- whatever the node, its result comes from `parse.NewResult` with the node's scope and capabilities
  have key : ∃ F : Kind → Mod, newResult (capsOf n) (F .req) (F .res) (scopeOf n) = .ok r := by
    revert h
    fun_cases compile n
    -- leaf, fifo, prio, filter with all children accepted; every other branch is an error
    case case1 | case5 | case7 | case10 => exact fun h => ⟨fun | .req => _ | .res => _, h⟩
    all_goals exact nofun
  obtain ⟨F, h⟩ := key
  rw [newResult_side F h k]
  cases acts (scopeOf n) (capsOf n) k <;> rfl

/-- A message kind that the root's scope does not name is left alone: no leaf runs, no error. -/
theorem out_of_scope_untouched (n : Node) (r : Result) (k : Kind) (msg : Msg) (h : compile n = .ok r)
    (hs : acts (scopeOf n) (capsOf n) k = false) : run r k msg = ([], .none) := by
  have := scope_projection n r k h
  rw [hs] at this
  cases hk : r.side k with
  | none => simp [run, hk, orNoop, eval]
  | some m => simp [hk] at this

/-- The same at every level of the specification (so, by the main theorem, of the compiled tree):
whatever is below a node that does not act on `k` does not run for `k`. -/
theorem spec_out_of_scope (n : Node) (k : Kind) (v : Cond → Bool) (hs : acts (scopeOf n) (capsOf n) k = false) :
    specEval k v n = ([], []) := by
  cases n <;> simp_all [specEval, scopeOf, capsOf]

/-- fifo group without aggregation: the first child that fails ends the group; the children after
it do not run, its error is returned as it is. -/
theorem first_error_stops (v : Cond → Bool) (pre post : List Mod) (m : Mod)
    (hpre : ∀ x ∈ pre, (eval v x).2 = .none) (hm : (eval v m).2 ≠ .none) :
    eval v (.fifo false (pre ++ m :: post)) = (pre.flatMap (fun x => (eval v x).1) ++ (eval v m).1, (eval v m).2) := by
  rw [eval, evalList_eq, List.map_append, List.map_cons,
    fifoLoop_append_of_none _ _ _ _ (List.forall_mem_map.mpr hpre), fifoLoop_cons_err false _ _ _ hm, List.flatMap_map]
  rfl

/-- priority group: the same, over the run order. -/
theorem first_error_stops_priority (v : Cond → Bool) (pre post : List (Int × Mod)) (m : Int × Mod)
    (hpre : ∀ x ∈ pre, (eval v x.2).2 = .none) (hm : (eval v m.2).2 ≠ .none) :
    eval v (.prio (pre ++ m :: post)) = (pre.flatMap (fun x => (eval v x.2).1) ++ (eval v m.2).1, (eval v m.2).2) := by
  rw [eval, prioLoop_eq_fifoLoop, evalPList_eq, List.map_append, List.map_cons,
    fifoLoop_append_of_none _ _ _ _ (List.forall_mem_map.mpr hpre), fifoLoop_cons_err false _ _ _ hm, List.flatMap_map]
  rfl

/-- no failing child: everything runs, nil is returned (either policy). -/
theorem no_error_runs_all (v : Cond → Bool) (agg : Bool) (ms : List Mod) (h : ∀ x ∈ ms, (eval v x).2 = .none) :
    eval v (.fifo agg ms) = (ms.flatMap (fun x => (eval v x).1), .none) := by
  have := fifoLoop_append_of_none agg (ms.map (eval v)) [] [] (List.forall_mem_map.mpr h)
  rw [List.append_nil, List.flatMap_map] at this
  rw [eval, evalList_eq, this]
  simp [fifoLoop]

/-- fifo group with `aggregateErrors`: every child runs, and the errors reported are those of the
children, each once, in order (nested `MultiError`s flattened). -/
theorem aggregate_runs_all_reports_each_once (v : Cond → Bool) (ms : List Mod) :
    flatO (eval v (.fifo true ms)) = (ms.flatMap (fun x => (eval v x).1), ms.flatMap (fun x => (eval v x).2.flat)) := by
  simp only [eval, evalList_eq]
  rw [fifoLoop_true, allErrors_eq]
  simp [List.flatMap_map, flatO]

/-- "every error is reported once" is once EACH: errors are VALUES (the model identifies one by the leaf
that returned it; it has no message texts, so nothing can depend on them), and the reported list keeps
multiplicities — an error value that occurs several times below an aggregating group (leaves with
equal labels, the same leaf listed twice, at any depth of nested aggregation) is reported exactly as
many times as it occurred. No merging, no de-duplication. -/
theorem aggregate_reports_with_multiplicity (v : Cond → Bool) (ms : List Mod) (l : Nat) :
    (flatO (eval v (.fifo true ms))).2.count l = (ms.map fun x => (eval v x).2.flat.count l).sum := by
  rw [aggregate_runs_all_reports_each_once]
  simp [List.count_flatMap, Function.comp_def]

/-- Multiplicities survive a nested aggregating group: what the inner group collected is appended
whole to what the outer one has, also when the outer one already holds equal errors. -/
theorem nested_aggregate_keeps_equal_errors (v : Cond → Bool) (pre inner post : List Mod) :
    (flatO (eval v (.fifo true (pre ++ .fifo true inner :: post)))).2 =
      pre.flatMap (fun x => (eval v x).2.flat) ++ inner.flatMap (fun x => (eval v x).2.flat) ++ post.flatMap (fun x => (eval v x).2.flat) := by
  rw [aggregate_runs_all_reports_each_once]
  have hin := aggregate_runs_all_reports_each_once v inner
  simp only [flatO, Prod.mk.injEq] at hin
  simp [List.flatMap_append, hin.2]

/-- A body is accepted iff every node of it names a registered modifier, has the right JSON shape
and a scope its modifier supports (`valid` recurses through the whole tree). -/
theorem accept_iff_valid (n : Node) : (∃ r, compile n = .ok r) ↔ valid n = true := by
  rw [← compile_okB n, okB_eq_true]

/-- Anything unknown, unsupported or malformed anywhere ⇒ the whole body is an error: no result. -/
theorem reject_whole (n : Node) (h : valid n = false) : ∃ e, compile n = .error e :=
  okB_eq_false.mp ((compile_okB n).trans h)

/-- "anywhere", explicitly: a body is rejected iff some node of it — at any depth, under any scope,
in any branch — is itself bad (`badHere`: unregistered name, wrong shape, unsupported scope). -/
theorem reject_iff_bad_node_anywhere (n : Node) : (∃ e, compile n = .error e) ↔ anyNode badHere n = true := by
  rw [← okB_eq_false, compile_okB, valid_eq_not_any, Bool.not_eq_false']

/-- "anywhere", spelled out for groups and filters: one bad child/branch poisons the parent,
whatever the parent's scope (even `[]`) and whatever the siblings. -/
theorem bad_child_rejects_parent (scope : Scope) (agg : Bool) (pre post : List Node) (c : Node) (p : Int)
    (cond : Cond) (t : Node) (e : Option Node) (h : valid c = false) :
    valid (.fifo scope agg (pre ++ c :: post)) = false ∧
    valid (.prio scope ((pre.map fun x => (p, x)) ++ (p, c) :: (post.map fun x => (p, x)))) = false ∧
    valid (.filter cond scope c e) = false ∧ valid (.filter cond scope t (some c)) = false := by
  simp [valid, validOpt, validList_eq_all, validPList_eq_all, h]

/-- `servePOST`: a rejected body changes nothing; an accepted body installs exactly its own
compilation, whatever was there before. -/
theorem reconfig_atomic (s : Active) (body : Node) :
    (servePOST s body).1 = (match compile body with | .ok r => r | .error _ => s) := by
  unfold servePOST; cases compile body <;> rfl

theorem rejected_leaves_previous (s : Active) (body : Node) (h : valid body = false) (k : Kind) (msg : Msg) :
    run (servePOST s body).1 k msg = run s k msg := by
  obtain ⟨e, he⟩ := reject_whole body h
  simp [servePOST, he]

theorem accepted_replaces_completely (s s' : Active) (body : Node) (h : valid body = true) :
    (servePOST s body).1 = (servePOST s' body).1 := by
  obtain ⟨r, hr⟩ := (accept_iff_valid body).mpr h
  simp [servePOST, hr]

/-- State after a history of POSTs. -/
def afterPosts (s : Active) (bodies : List Node) : Active := bodies.foldl (fun s b => (servePOST s b).1) s

/-- The last valid body of a history, if any. -/
def lastValid (bodies : List Node) : Option Node := bodies.reverse.find? valid

/-- After any history of POSTs the traffic is treated exactly as the depth-first reading of the last
accepted body says — or, if none was accepted, as before the history. -/
theorem traffic_follows_last_accepted (s : Active) (bodies : List Node) (k : Kind) (msg : Msg) :
    flatO (run (afterPosts s bodies) k msg) =
      (match lastValid bodies with
       | some b => specEval k (msg k) b
       | none => flatO (run s k msg)) := by
  induction bodies generalizing s with
  | nil => rfl
  | cons b bs ih =>
    -- the bodies after `b` decide unless none of them is accepted; then `b` does, if it is
    have hl : lastValid (b :: bs) = (lastValid bs).or ([b].find? valid) := by
      simp [lastValid, List.find?_append]
    rw [show afterPosts s (b :: bs) = afterPosts (servePOST s b).1 bs from rfl, ih, hl]
    cases lastValid bs with
    | some b' => rfl
    | none =>
      cases hv : valid b with
      | true =>
        obtain ⟨r, hr⟩ := (accept_iff_valid b).mpr hv
        simp only [servePOST, hr, List.find?_cons, hv, Option.none_or]
        exact compile_eval_eq_spec b r k msg hr
      | false =>
        simp only [List.find?_cons, hv, List.find?_nil, Option.none_or]
        rw [rejected_leaves_previous s b hv]

/-- **Replacement is complete after any history.** Whatever was done to the endpoint before — bodies
accepted or rejected, modifiers installed through `SetRequestModifier` / `SetResponseModifier` in any
order — an accepted body installs exactly its own compilation: nothing of the earlier state survives. -/
theorem accepted_post_replaces_after_any_history (s : Active) (ops : List EOp) (body : Node) (r : Result)
    (h : compile body = .ok r) : afterOps s (ops ++ [.post body]) = r := by
  simp [afterOps, List.foldl_append, applyOp, servePOST, h]

/-- The traffic after an accepted body is treated as the depth-first reading of that body says, on both sides,
also when one side had been replaced through the Go API since the same body was last accepted. -/
theorem accepted_post_discards_installed_modifiers (s : Active) (ops : List EOp) (body : Node)
    (hv : valid body = true) (k : Kind) (msg : Msg) :
    flatO (run (afterOps s (ops ++ [.post body])) k msg) = specEval k (msg k) body := by
  obtain ⟨r, hr⟩ := (accept_iff_valid body).mpr hv
  rw [accepted_post_replaces_after_any_history s ops body r hr]
  exact compile_eval_eq_spec body r k msg hr

/-- `Set*Modifier` replaces one side only: the other side treats every message as before. -/
theorem set_leaves_other_side (s : Active) (k k' : Kind) (m : Option Mod) (hk : k' ≠ k) (msg : Msg) :
    run (setSide s k m) k' msg = run s k' msg := by
  cases k <;> cases k' <;> simp_all [setSide, run, Result.side]

/-- `Set*Modifier` installs exactly the given modifier on its own side (`nil` = noop). -/
theorem set_installs_side (s : Active) (k : Kind) (m : Option Mod) (msg : Msg) :
    run (setSide s k m) k msg = eval (msg k) (orNoop m) := by
  cases k <;> simp [setSide, run, Result.side]

/-- A rejected body leaves the pair in force, also a side installed through the Go API. -/
theorem rejected_post_keeps_installed_modifiers (s : Active) (ops : List EOp) (body : Node)
    (hv : valid body = false) : afterOps s (ops ++ [.post body]) = afterOps s ops := by
  obtain ⟨e, he⟩ := reject_whole body hv
  simp [afterOps, List.foldl_append, applyOp, servePOST, he]

/-! ## Regenerated facts (from `/repo`'s source on every run; evaluation of a finite table) -/

/-- The event order of `martianhttp.Modifier.servePOST` that `Config.servePOST` transcribes. -/
def expectedServePOST : List (String × String) :=
  [("return", ""), ("call", "parse.FromJSON"), ("return", ""), ("call", "json.Indent"), ("return", ""),
   ("call", "m.mu.Lock"), ("defer", "m.mu.Unlock"), ("write", "m.config"),
   ("call", "m.setRequestModifier"), ("call", "m.setResponseModifier")]

theorem facts_servePOST_order : Generated.Config.servePOST = expectedServePOST := rfl

/-- an event that changes the handler's state -/
def isStateWrite (e : String × String) : Bool :=
  e.1 == "write" || e.2 == "m.setRequestModifier" || e.2 == "m.setResponseModifier" ||
  e.2 == "m.SetRequestModifier" || e.2 == "m.SetResponseModifier"

/-- What that order means: the body is parsed before the lock is taken and before any state is
written; every early `return` precedes every write; both sides are installed under one lock. -/
theorem facts_servePOST_parse_then_swap :
    let ev := Generated.Config.servePOST
    let firstWrite := ev.findIdx isStateWrite
    ev.idxOf ("call", "parse.FromJSON") < ev.idxOf ("call", "m.mu.Lock") ∧ ev.idxOf ("call", "m.mu.Lock") < firstWrite ∧
    (∀ i, i < ev.length → ev[i]? = some ("return", "") → i < firstWrite) ∧
    ev.contains ("call", "m.setRequestModifier") ∧ ev.contains ("call", "m.setResponseModifier") ∧
    ev.count ("call", "m.mu.Lock") = 1 := by
  rw [facts_servePOST_order]; decide +kernel

/-- Both insertion loops of `priority.Group` test `new.priority >= existing.priority` (the `ins` of the model). -/
theorem facts_priority_insert_test : Generated.Config.prioInsertTest =
    ["AddRequestModifier: preqmod.priority >= m.priority", "AddResponseModifier: presmod.priority >= m.priority"] := rfl

/-! ## Non-vacuity (concrete witnesses; evaluation here is a test, not a proof of the property) -/

def leafOK (l : Nat) : Node := .leaf l Caps.both false false none
def leafFail (l : Nat) : Node := .leaf l Caps.both true true none

/-- some condition (`method.Filter {"method": "PUT"}`) -/
def c7 : Cond := .method [80, 85, 84]

/-- aggregate group [ leaf 1 (fails) ; request-scoped priority group (0↦2, 5↦3, 0↦4) ;
filter on condition `c7` (then: failing leaf 5, else: leaf 6) ; response-only leaf 7 ]. -/
def exTree : Node :=
  .fifo none true
    [leafFail 1,
     .prio (some [.request]) [(0, leafOK 2), (5, leafOK 3), (0, leafOK 4)],
     .filter c7 none (leafFail 5) (some (leafOK 6)),
     .leaf 7 ⟨false, true⟩ false false none]

def atom7 : Msg := fun _ a => a == c7
def noAtom : Msg := fun _ _ => false

def runTree (n : Node) (k : Kind) (msg : Msg) : Option SOutcome :=
  match compile n with
  | .ok r => some (flatO (run r k msg))
  | .error _ => none

def errOf (n : Node) : Option PErr :=
  match compile n with
  | .ok _ => none
  | .error e => some e

example : valid exTree = true := by decide +kernel
example : runTree exTree .req atom7 = some ([1, 3, 4, 2, 5], [1, 5]) := by decide +kernel
example : runTree exTree .req noAtom = some ([1, 3, 4, 2, 6], [1]) := by decide +kernel
example : runTree exTree .res atom7 = some ([1, 5, 7], [1, 5]) := by decide +kernel
example : specEval .req (atom7 .req) exTree = ([1, 3, 4, 2, 5], [1, 5]) := by decide +kernel
/-- without aggregation the first failing leaf stops everything -/
example : runTree (.fifo none false [leafOK 0, leafFail 1, leafOK 2]) .req noAtom = some ([0, 1], [1]) := by decide +kernel
/-- two failing leaves with the SAME label (equal error values), the later one inside a nested aggregating
group, also through a filter: each is reported, `[7, 7, 7]` -/
example : runTree (.fifo none true [leafFail 7, .fifo none true [leafFail 7, leafOK 8, .filter c7 none (.fifo none true [leafFail 7]) none]]) .req atom7
    = some ([7, 7, 8, 7], [7, 7, 7]) := by decide +kernel
/-- hypotheses of `reject_whole` are satisfiable: an unknown name four levels down, under a `[]` scope -/
example : valid (.fifo none false [.filter c7 (some []) (leafOK 1) (some (.prio none [(1, .fifo none true [.unknown])]))]) = false := by decide +kernel
/-- unsupported scope: a response scope on a request-only leaf -/
example : errOf (.leaf 1 ⟨true, false⟩ false false (some [.response])) = some .invalidScope := by decide +kernel
/-- the error reported is the first one met in parse order (child before the parent's own scope) -/
example : errOf (.fifo (some [.other]) false [leafOK 1, .unknown, .malformed]) = some .unknownModifier := by decide +kernel
/-- nil scope vs `[]` scope -/
example : runTree (.fifo (some []) false [leafOK 1]) .req noAtom = some ([], []) := by decide +kernel
example : runTree (.fifo none false [leafOK 1]) .req noAtom = some ([1], []) := by decide +kernel
/-- reconfiguration: rejected body keeps the old tree, accepted body replaces it -/
example : (lastValid [exTree, .unknown]).isSome = true ∧ (lastValid [.unknown]).isSome = false := by decide +kernel
example : insertAll [((0 : Int), 1), (5, 2), (0, 3), (5, 4), (9, 5)] = [(9, 5), (5, 4), (5, 2), (0, 3), (0, 1)] := by decide +kernel

-- a side installed through the API is discarded by re-posting the body that was already accepted
example : (afterOps Active.init [.post exTree, .set .req none, .post exTree]).req.isSome = true ∧
    (afterOps Active.init [.post exTree, .set .req none]).req.isSome = false := by decide +kernel

end Martian.Props.C12
