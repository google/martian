import Martian.Lemmas.Proxy
import Martian.Lemmas.ProxyTrace
import Martian.Lemmas.ProxyState
/-!
C05 — "… and the connection's TLS state attached": *which* TLS state. One client connection can
carry several TLS sessions, nested in each other: the one a transparent-TLS listener terminates
(id 1) and one per MITM'd CONNECT whose tunnel starts with a handshake (id `j + 2` for the CONNECT
with index `j`) - a CONNECT arriving on a TLS listener connection, a second CONNECT inside a tunnel.
`handle` takes `req.TLS` from the connection it is given, on every request anew; `reqmod … tid`
records whose state that is. Proved for every script and every starting state: a request carries
the state of the innermost session it was decrypted from - never the listener's, never an outer
tunnel's - and cleartext inside a tunnel stays on the session of the enclosing layer.
-/
namespace Martian.Props.C05
open Martian.Proxy

variable (sd : Bool) (base : Nat) (items : List Item)

/-- What the request modifier sees for a request handled in state `s`. -/
theorem reqmod_reflects_state (s : St) (i c : Nat) (it : Item) :
    Ev.reqmod i c (s.secure || s.connTls) (s.secure || s.connTls) s.connTls (if s.connTls then s.tlsId else 0)
      ∈ (handleItem sd s i c it).1 := by
  rw [handleItem_fst]
  simp [pre]

/-- The request with index `k` carries TLS state exactly when `handle` is given a TLS connection,
and then it is the state of the session computed by `tidAt`: the innermost one at that point. -/
theorem request_tls_state_is_the_innermost_sessions (s0 : St) (k : Nat) (s' : St) (it : Item)
    (h : at? sd base s0 0 items k = some (s', it)) :
    Ev.reqmod k (base + k) (s'.secure || s'.connTls) (s'.secure || s'.connTls) s'.connTls
      (if s'.connTls then tidAt 0 s0.tlsId items k else 0) ∈ runConnOn s0 sd base items := by
  have := reqmod_reflects_state sd s' k (base + k) it
  rw [(at?_tls h).1] at this
  exact mem_run_of_at? [] h _ this

/-- Every request decrypted from a tunnel carries that tunnel's TLS session: after the MITM
CONNECT with index `j` (tunnel starting with a handshake), and as long as no further such CONNECT
follows, a request is https, on a secure session, and its TLS state is that of session `j + 2` -
whatever the connection started as (plain listener, transparent-TLS listener, …). -/
theorem tunnel_request_carries_its_tunnels_session (s0 : St) (j k : Nat) (rq : ReqB) (rs : ResB) (s' : St) (it : Item)
    (hj : items[j]? = some (.connectMitm true rq rs)) (hjk : j < k)
    (hno : ∀ m, j < m → m < k → ∀ x, items[m]? = some x → isTlsMitm x = false)
    (h : at? sd base s0 0 items k = some (s', it)) :
    Ev.reqmod k (base + k) true true true (j + 2) ∈ runConnOn s0 sd base items := by
  obtain ⟨h2, _⟩ := at?_after_mitm (Nat.zero_le j) hjk hj h
  have := request_tls_state_is_the_innermost_sessions sd base items s0 k s' it h
  simp only [h2, Bool.or_true] at this
  rw [tidAt_after 0 s0.tlsId items j k (Nat.zero_le j) hjk ⟨_, hj, rfl⟩ hno] at this
  simpa using this

/-- A tunnelled request never carries the listener's session: on a transparent-TLS listener
connection (session 1), a request served after a TLS MITM CONNECT never carries session 1, nor no
state at all. -/
theorem tunnel_request_never_carries_the_listeners_session (j k : Nat) (rq : ReqB) (rs : ResB) (s' : St) (it : Item)
    (hj : items[j]? = some (.connectMitm true rq rs)) (hjk : j < k)
    (h : at? sd base tlsListenerState 0 items k = some (s', it)) :
    s'.connTls = true ∧ s'.tlsId ≠ 1 ∧ s'.tlsId ≠ 0 := by
  refine ⟨(at?_after_mitm (Nat.zero_le j) hjk hj h).1, ?_⟩
  rw [(at?_tls h).1]
  -- the session in force is `m + 2` for the last TLS CONNECT `m` before `k`, and there is one (`j`)
  have := two_le_tidAt 0 tlsListenerState.tlsId items k (.inr ⟨j, _, Nat.zero_le j, hjk, hj, rfl⟩)
  omega

/-- A modifier that hijacks the session inside a tunnel is handed the decrypted connection of that
tunnel - the innermost one (`session.setConn` re-points the session at every level). -/
theorem hijacker_is_handed_the_innermost_tunnels_connection (s0 : St) (j k : Nat) (rq : ReqB) (rs : ResB)
    (s' : St) (it : Item)
    (hj : items[j]? = some (.connectMitm true rq rs)) (hjk : j < k)
    (hno : ∀ m, j < m → m < k → ∀ x, items[m]? = some x → isTlsMitm x = false)
    (h : at? sd base s0 0 items k = some (s', it)) :
    ∀ t tid, Ev.hijacked k t tid ∈ (handleItem sd s' k (base + k) it).1 → t = true ∧ tid = j + 2 := by
  obtain ⟨h2, h3⟩ := at?_after_mitm (Nat.zero_le j) hjk hj h
  have hid : s'.tlsId = j + 2 := by
    rw [(at?_tls h).1]
    exact tidAt_after 0 s0.tlsId items j k (Nat.zero_le j) hjk ⟨_, hj, rfl⟩ hno
  intro t tid ht
  obtain ⟨_, rfl, rfl⟩ := of_item ht
  simp [hijTid, h3, hid]

/-- A second CONNECT inside a tunnel opens a session of its own: requests after it carry the inner
tunnel's state, not the outer tunnel's. -/
theorem second_connect_inside_tunnel_has_its_own_session (s0 : St) (j1 j2 k : Nat) (rq1 rq2 : ReqB) (rs1 rs2 : ResB)
    (s' : St) (it : Item)
    (_h1 : items[j1]? = some (.connectMitm true rq1 rs1)) (h2 : items[j2]? = some (.connectMitm true rq2 rs2))
    (h12 : j1 < j2) (h2k : j2 < k)
    (hno : ∀ m, j2 < m → m < k → ∀ x, items[m]? = some x → isTlsMitm x = false)
    (h : at? sd base s0 0 items k = some (s', it)) :
    Ev.reqmod k (base + k) true true true (j2 + 2) ∈ runConnOn s0 sd base items ∧ j2 + 2 ≠ j1 + 2 :=
  ⟨tunnel_request_carries_its_tunnels_session sd base items s0 j2 k rq2 rs2 s' it h2 h2k hno h, by omega⟩

/-- CONNECT inside a transparent-TLS listener connection, tunnel carrying cleartext HTTP (and any
other traffic before a tunnel with a handshake of its own): still https, secure, and the state
attached is the listener session's. -/
theorem cleartext_inside_tls_listener_carries_the_listeners_session (k : Nat) (s' : St) (it : Item)
    (hno : ∀ m, m < k → ∀ x, items[m]? = some x → isTlsMitm x = false)
    (h : at? sd base tlsListenerState 0 items k = some (s', it)) :
    Ev.reqmod k (base + k) true true true 1 ∈ runConnOn tlsListenerState sd base items := by
  have hc := (at?_tls h).2 rfl
  have := request_tls_state_is_the_innermost_sessions sd base items tlsListenerState k s' it h
  rw [hc, tidAt_none 0 _ items k fun m _ => hno m] at this
  simpa [tlsListenerState] using this

/-- Cleartext after a MITM CONNECT on a plain listener carries no TLS state at all. -/
theorem cleartext_after_mitm_connect_has_no_tls_state (k : Nat) (s' : St) (it : Item)
    (hno : ∀ m, m < k → ∀ x, items[m]? = some x → isTlsMitm x = false)
    (h : at? sd base {} 0 items k = some (s', it)) :
    Ev.reqmod k (base + k) false false false 0 ∈ runConn sd base items := by
  have hp : Plain s' := at?_plain ⟨rfl, rfl, rfl⟩ hno h
  obtain ⟨h1, h2, _⟩ := hp
  have := reqmod_reflects_state sd s' k (base + k) it
  rw [h1, h2] at this
  exact mem_run_of_at? [] h _ (by simpa using this)

/-! ### Handshakes that fail -/

/-- A failed handshake changes no session state: a MITM CONNECT whose TLS handshake fails leaves
the loop with exactly the state a plain request leaves behind (`stAfter s`: nothing re-pointed,
nothing newly marked), on the same connection. -/
theorem failed_handshake_changes_no_session_state (s : St) (i c : Nat) (rq : ReqB) (rs : ResB)
    (hq : rq ≠ .hijack) (hs : rs ≠ .hijack) :
    (handleItem sd s i c (.connectMitmFail rq rs)).2 = .again (afterReq rq (stAfter s)) ∧
    (handleItem sd s i c (.connectMitmFail rq rs)).2 = (handleItem false s i c (.x false rq .pass (.ok 200 false))).2 := by
  rw [handleItem_snd, handleItem_snd, Item.after_of_not_tls s i _ rfl, Item.after_of_not_tls s i _ rfl]
  simp [Item.rq, endsConn, hq, hs]

/-- After handshakes that failed - and tunnels carrying cleartext - on a plain listener connection,
every request is plain HTTP on an insecure session without TLS state: the CONNECT whose handshake
failed at index `j` is just another item that is not a (successful) TLS MITM CONNECT. -/
theorem after_failed_handshake_traffic_is_plain (j k : Nat) (rq : ReqB) (rs : ResB) (s' : St) (it : Item)
    (_hj : items[j]? = some (.connectMitmFail rq rs)) (_hjk : j < k)
    (hno : ∀ m, m < k → ∀ x, items[m]? = some x → isTlsMitm x = false)
    (h : at? sd base {} 0 items k = some (s', it)) :
    Ev.reqmod k (base + k) false false false 0 ∈ runConn sd base items :=
  cleartext_after_mitm_connect_has_no_tls_state sd base items k s' it hno h

/-- A handshake that fails inside a tunnel leaves that tunnel's session in force. -/
theorem failed_handshake_inside_tunnel_keeps_the_tunnels_session (s0 : St) (j m k : Nat) (rq rq' : ReqB) (rs rs' : ResB)
    (s' : St) (it : Item)
    (hj : items[j]? = some (.connectMitm true rq rs)) (_hm : items[m]? = some (.connectMitmFail rq' rs'))
    (_hjm : j < m) (hmk : m < k)
    (hno : ∀ n, j < n → n < k → ∀ x, items[n]? = some x → isTlsMitm x = false)
    (h : at? sd base s0 0 items k = some (s', it)) :
    Ev.reqmod k (base + k) true true true (j + 2) ∈ runConnOn s0 sd base items :=
  tunnel_request_carries_its_tunnels_session sd base items s0 j k rq rs s' it hj (by omega) hno h

/-! ### What modifiers do to the session through its public API -/

/-- One session, one storage, for the whole connection: when the request with index `k` is read,
the session holds every value stored during the `k` earlier exchanges of the connection - across
CONNECT, the TLS upgrade (`setConn`), nested tunnels, failed handshakes and whatever the modifiers
did. (`stored` counts the values; the recording request modifier stores one per request.) -/
theorem session_values_survive_the_connection (s0 : St) (k : Nat) (s' : St) (it : Item)
    (h : at? sd base s0 0 items k = some (s', it)) : s'.stored = s0.stored + k := by
  simpa using at?_stored h

/-- `MarkInsecure()` by a modifier does not downgrade a decrypted connection: after an exchange
whose request modifier cleared the flag, the flag *is* cleared (`secure = false`), and the next
request read from the TLS connection is https on a secure session with TLS state all the same -
`handle` looks at the connection it is given, every time. -/
theorem markinsecure_lasts_until_the_next_request (s : St) (i c : Nat) (rc : Bool) (rs : ResB) (org : Org) (s2 : St)
    (hs : Sec s) (h : (handleItem sd s i c (.x rc .insecure rs org)).2 = .again s2) (i' c' : Nat) (it : Item) :
    s2.secure = false ∧
      Ev.reqmod i' c' true true true s2.tlsId ∈ (handleItem sd s2 i' c' it).1 := by
  rw [handleItem_snd] at h
  split at h
  · split at h <;> cases h
  cases h
  refine ⟨by rw [Item.after_secure _ _ _ rfl, Item.rq, if_pos rfl], ?_⟩
  simpa [(after_sec s i _ hs).1] using reqmod_reflects_state sd ((Item.x rc .insecure rs org).after s i) i' c' it

/-! ### Several connections through one proxy -/

/-- A proxy serving several connections one after the other: every connection is run by its own
`handleLoop` from the initial state of its listener kind (`newSession`: insecure, no values), with
context ids of its own (`base j`). -/
def runProxy (s0 : St) (base : Nat → Nat) (conns : List (List Item)) : List (List Ev) :=
  (List.range conns.length).zip conns |>.map fun (j, items) => runConnOn s0 sd (base j) items

/-- Connections are independent: what happens on the `j`-th connection of a proxy depends on its
own script only - not on what earlier (or later) connections carried: replacing all other
connections by anything leaves its trace unchanged. In particular a plain connection after a MITM'd
TLS connection starts insecure, and no session value crosses connections. -/
theorem connections_are_independent (s0 : St) (base : Nat → Nat) (before before' after after' : List (List Item))
    (items : List Item) (h : before.length = before'.length) :
    (runProxy sd s0 base (before ++ items :: after))[before.length]? =
      (runProxy sd s0 base (before' ++ items :: after'))[before'.length]? := by
  have key : ∀ b a : List (List Item),
      (runProxy sd s0 base (b ++ items :: a))[b.length]? = some (runConnOn s0 sd (base b.length) items) := by
    intro b a; simp [runProxy]
  rw [key, key, h]

/-- The first request of any connection on a plain listener is plain, whatever the proxy served before. -/
theorem new_connection_starts_plain (base : Nat → Nat) (before after : List (List Item)) (it : Item) (rest : List Item) :
    ∃ evs, (runProxy sd {} base (before ++ (it :: rest) :: after))[before.length]? = some evs ∧
      Ev.reqmod 0 (base before.length + 0) false false false 0 ∈ evs := by
  refine ⟨runConnOn {} sd (base before.length) (it :: rest), by simp [runProxy], ?_⟩
  exact cleartext_after_mitm_connect_has_no_tls_state sd (base before.length) (it :: rest) 0 {} it
    (fun m hm => absurd hm (Nat.not_lt_zero m)) (by simp [at?])

/-! ### Upstream: TLS or nothing -/

/-- Upstream contact on behalf of a secure session is over TLS or does not happen: whatever the
exchange (any modifier behaviour, any origin outcome - a failing TLS layer is `Org.fail`), every
upstream event it produces in a state that is secure or on a TLS connection carries `tls = true`. -/
theorem secure_upstream_is_tls_or_nothing (s : St) (i c : Nat) (it : Item) (hs : (s.secure || s.connTls) = true) :
    ∀ t, Ev.upstream i t ∈ (handleItem sd s i c it).1 → t = true := by
  intro t ht
  exact (of_item ht).2.trans hs

/-- When the round trip of a secure session fails the client gets the 502 with its Warning, nothing else. -/
theorem failed_secure_round_trip_is_a_502 (s : St) (i c : Nat) (rc : Bool) (hs : (s.secure || s.connTls) = true) :
    (handleItem sd s i c (.x rc .pass .pass .fail)).1 =
      pre s i c .pass ++ [.upstream i true, .warnRt i, .resmod i c 502, .write i 502 (rc || sd) true, .unlink c] := by
  simp [handleItem, handleX, rqSkip, rsErr, stAfter, hs]

/-! Non-vacuity (tests): a transparent-TLS listener connection with a request, a CONNECT with a
handshake, a request, a CONNECT carrying cleartext, a request, a third CONNECT with a handshake, a
request: sessions 1, 1, 3, 3, 3, 3, 7. -/
example : (runConnOn tlsListenerState false 0 [.x false .pass .pass (.ok 200 false), .connectMitm true .pass .pass,
      .x false .pass .pass (.ok 200 false), .connectMitm false .pass .pass, .x false .pass .pass (.ok 200 false),
      .connectMitm true .pass .pass, .x false .pass .pass (.ok 200 false)]).filterMap
      (fun e => match e with | .reqmod i _ _ _ _ tid => some (i, tid) | _ => none)
    = [(0, 1), (1, 1), (2, 3), (3, 3), (4, 3), (5, 3), (6, 7)] := by decide +kernel
example : at? false 0 tlsListenerState 0 [.connectMitm true .pass .pass, .x false .pass .pass (.ok 200 false)] 1
    = some ({ secure := true, connTls := true, sessTls := true, tlsId := 2, stored := 1 }, .x false .pass .pass (.ok 200 false)) := by decide +kernel

end Martian.Props.C05
