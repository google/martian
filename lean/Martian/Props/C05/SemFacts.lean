import Martian.Generated.ProxySem
/-!
C05 — semantic facts of `proxy.go` (regenerated from the source on every check by
`go/cmd/vextract/facts_proxy_sem.go`), independent of statement order and of the names of
temporaries: where values come from, which fields are written, whether a branch can be left.
-/
namespace Martian.Props.C05

/-- Every assignment to `req.TLS` in `handle` takes the `tls.ConnectionState` from the connection
`handle` was given (its `conn` parameter, directly or unwrapped from a traffic-shaped connection),
traced through local definitions and type assertions - not from the session, a cache or any other
object. That is what the model's `tid` (`if s.connTls then s.tlsId else 0`, the state of the
connection argument) transcribes; there is at least one such assignment. -/
theorem facts_req_tls_comes_from_handles_connection :
    Martian.Generated.ProxySem.reqTLSSources.all (· == "conn") = true ∧
    Martian.Generated.ProxySem.reqTLSSources ≠ [] := by
  decide +kernel

end Martian.Props.C05
