import Martian.Skel
import Martian.Generated.Proxy
/-!
C05 — structural facts of `proxy.go` (regenerated from the source on every check) behind the
no-downgrade theorems: `handle` marks the session secure and sets `req.TLS` whenever the connection
it is given is a TLS connection (directly or inside a traffic-shaped one), *before* the scheme is
chosen; the scheme is https exactly when the session is secure; after a MITM handshake the buffered
reader and writer and the session are re-pointed to the decrypted connection and every request
of the tunnel is handled on it (F05 repair).
-/
namespace Martian.Props.C05
open Martian Skel
open Martian.Generated.Proxy (handle connectMitm)

theorem facts_secure_marking_precedes_scheme :
    hasBlock ["if tsconn, ok := conn.(*trafficshape.Conn); ok {", "if sconn, ok := wrconn.(*tls.Conn); ok {",
              "call session.MarkSecure", "set req.TLS = &cs", "}", "}",
              "if tconn, ok := conn.(*tls.Conn); ok {", "call session.MarkSecure", "set req.TLS = &cs", "}",
              "set req.URL.Scheme = \"http\"", "if session.IsSecure() {", "set req.URL.Scheme = \"https\"", "}"] handle = true ∧
    hasSeq ["set req.URL.Scheme = \"https\"", "call p.handleConnectRequest", "call p.reqmod.ModifyRequest"] handle = true ∧
    count "set req.URL.Scheme = \"http\"" handle = 1 := by
  decide +kernel

theorem facts_tunnel_served_on_decrypted_connection :
    hasSeq ["if b[0] == 22 {", "call tls.Server", "call tlsconn.Handshake", "set nconn = tlsconn",
            "call brw.Writer.Reset", "call brw.Reader.Reset", "call session.setConn",
            "for {", "call nconn.SetDeadline", "call p.handle", "}", "}"] connectMitm = true ∧
    hasBlock ["if err := tlsconn.Handshake(); err != nil {", "call p.mitm.HandshakeErrorCallback", "return err", "}"] connectMitm = true ∧
    hasBlock ["if ptsconn, ok := conn.(*trafficshape.Conn); ok {", "call ptsconn.Listener.GetTrafficShapedConn",
              "set nconn = ptsconn.Listener.GetTrafficShapedConn(tlsconn)", "}"] connectMitm = true := by
  decide +kernel

end Martian.Props.C05
