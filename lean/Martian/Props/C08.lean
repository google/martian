import Martian.Lemmas.H2Relay
import Martian.Generated.H2Relay
import Martian.Props.C08.Hpack
/-!
C08 — HTTP/2 relay delivers each stream's frames faithfully for any framing and order.

Theorems about the model of `h2/relay.go` + `h2/queued_frames.go` (`Model/H2Relay.lean`). Two clauses are FALSE for
the code as it is and are stated with a counterexample and the part that holds: header blocks
leaving in encode order (F08b) and the flag of an all-zero priority (F08d).
-/
namespace Martian.Props.C08
open Martian Martian.H2Relay

/-- A self-contained frame: not a CONTINUATION, and a HEADERS / PUSH_PROMISE has END_HEADERS. -/
def complete : Frame → Bool
  | .continuation .. => false
  | .headers _ _ eh _ _ => eh
  | .pushPromise _ _ eh _ => eh
  | _ => true

/-- RFC 7540 §4.3 / §6.10: the units a valid frame sequence of one direction consists of. -/
inductive FUnit
  | single (f : Frame)
  | hblock (sid : Nat) (es : Bool) (prio : Option Prio) (first : Bytes) (mid : List Bytes) (last : Bytes)
  | pblock (sid promised : Nat) (first : Bytes) (mid : List Bytes) (last : Bytes)

def FUnit.valid : FUnit → Prop
  | .single f => complete f = true
  | _ => True

def FUnit.frames : FUnit → List Frame
  | .single f => [f]
  | .hblock sid es prio first mid last =>
    .headers sid es false prio first :: (mid.map (Frame.continuation sid false) ++ [.continuation sid true last])
  | .pblock sid promised first mid last =>
    .pushPromise sid promised false first :: (mid.map (Frame.continuation sid false) ++ [.continuation sid true last])

/-- The meaning of a unit, stated without reference to the relay: one logical event carrying the
whole header block, the opening frame's END_STREAM, priority and promised id. -/
def FUnit.call : FUnit → Call
  | .single (.data sid es payload pad) => .data sid (flowLen payload pad) payload es
  | .single (.headers sid es _ prio frag) => .header sid frag es (prio.getD Prio.zero)
  | .single (.headersRep sid es prio reps) => .headerRep sid reps es (prio.getD Prio.zero)
  | .single (.pushPromise sid promised _ frag) => .pushPromise sid promised frag
  | .single (.continuation ..) => .nilContinuation
  | .single (.priority sid p) => .priority sid p
  | .single (.rst sid code) => .rst sid code
  | .single (.settings kvs) => .settings kvs
  | .single .settingsAck => .settingsAck
  | .single (.ping ack data) => .ping ack data
  | .single (.goaway last code debug) => .goaway last code debug
  | .single (.windowUpdate sid inc) => .windowUpdate sid inc
  | .hblock sid es prio first mid last => .header sid (first ++ mid.flatten ++ last) es (prio.getD Prio.zero)
  | .pblock sid promised first mid last => .pushPromise sid promised (first ++ mid.flatten ++ last)

private theorem dispatch_complete (d : DState) (f : Frame) (h : complete f = true) :
    dispatch d f = (d, [FUnit.call (.single f)]) := by
  cases f with
  | headers sid es eh prio frag => obtain rfl : eh = true := h; rfl
  | pushPromise sid promised eh frag => obtain rfl : eh = true := h; rfl
  | continuation sid eh frag => cases h
  | _ => rfl

private theorem dispatchAll_unit (d : DState) (u : FUnit) (hu : u.valid) :
    (dispatchAll d u.frames).2 = [u.call] := by
  cases u with
  | single f => simp [FUnit.frames, dispatchAll, dispatch_complete d f hu]
  | hblock | pblock => simp [FUnit.frames, FUnit.call, dispatchAll, dispatch, dispatchAll_conts, completeCall]

/-- **Any framing.** Whatever state earlier blocks left behind, a valid frame sequence is
dispatched to exactly the calls its units mean — header blocks whole, END_STREAM exactly where
the HEADERS frame had it (F08a: not invented on continued headers), for every way of cutting
the blocks into CONTINUATION frames. -/
theorem dispatch_units (d : DState) (us : List FUnit) (hv : ∀ u ∈ us, u.valid) :
    (dispatchAll d (us.flatMap FUnit.frames)).2 = us.map FUnit.call := by
  induction us generalizing d with
  | nil => rfl
  | cons u us ih =>
    rw [List.flatMap_cons, dispatchAll_append, List.map_cons, dispatchAll_unit d u (hv u (by simp)),
      ih _ fun v hvm => hv v (by simp [hvm])]
    rfl

/-- **Control frames.** SETTINGS, SETTINGS-ack, PING and GOAWAY are written to the destination at
once and unchanged; they never enter, leave or reorder a stream queue. -/
theorem control_frames_identical (s : Sys) (d : Dir) (enc : Bytes) (order : List Nat) :
    (∀ ack data, applyCall s d enc order (.ping ack data) = some (s.on d (.ctl (.ping ack data)))) ∧
    (∀ l c dbg, applyCall s d enc order (.goaway l c dbg) = some (s.on d (.ctl (.goaway l c dbg)))) ∧
    applyCall s d enc order .settingsAck = some (s.on d (.ctl .settingsAck)) ∧
    (∀ kvs, applyCall s d enc order (.settings kvs) =
        some ((applySettings s d.peer order kvs).on d (.ctl (.settings kvs)))) ∧
    (∀ (r : Relay) (c : Ctl), (rstep r (.ctl c)).wrote = r.wrote ++ [c] ∧ (rstep r (.ctl c)).emitted = r.emitted ∧
        (rstep r (.ctl c)).accepted = r.accepted ∧ (rstep r (.ctl c)).ob = r.ob) := by
  refine ⟨fun _ _ => rfl, fun _ _ _ => rfl, rfl, fun _ => rfl, fun r c => ⟨rfl, rfl, rfl, rfl⟩⟩

def payloadOf : QFrame → Bytes
  | .data _ _ p => p
  | _ => []

def endStreamOf : QFrame → Bool
  | .data _ es _ => es
  | .headers _ es _ _ _ _ => es
  | _ => false

/-- **DATA.** One `Data` call (any size) becomes DATA frames on the same stream whose payloads
concatenate to the call's bytes, each at most MAX_FRAME_SIZE, END_STREAM only on the last one
and only if the call had it. -/
theorem data_split_faithful (sid : Nat) (es : Bool) (payload : Bytes) (max : Nat) (hm : 0 < max) :
    let fs := mkData sid es (dataChunks max payload.length payload)
    (fs.map payloadOf).flatten = payload ∧ (∀ f ∈ fs, f.sid = sid ∧ (payloadOf f).length ≤ max) ∧
    fs.map endStreamOf = List.replicate (fs.length - 1) false ++ [es] := by
  have hfl := dataChunks_flatten max hm _ payload (Nat.le_refl _)
  obtain ⟨cs, c, hcs⟩ := (List.eq_nil_or_concat _).resolve_left (dataChunks_ne_nil max payload.length payload)
  rw [List.concat_eq_append] at hcs
  refine ⟨?_, fun f hf => ?_, ?_⟩
  · rw [hcs] at hfl ⊢
    simpa [mkData_concat, Function.comp_def, payloadOf] using hfl
  · obtain ⟨c, hc, e, rfl⟩ := mem_mkData hf
    exact ⟨rfl, dataChunks_le _ _ _ c hc⟩
  · simp [hcs, mkData_concat, Function.comp_def, endStreamOf, List.map_const']

/-- **Header block chunks.** `splitIntoChunks` loses nothing and respects both bounds. -/
theorem chunks_concat (firstMax contMax : Nat) (data : Bytes) (hc : 0 < contMax) :
    (splitIntoChunks firstMax contMax data).flatten = data ∧
    (splitIntoChunks firstMax contMax data).head?.map List.length ≤ some firstMax ∧
    (∀ c ∈ (splitIntoChunks firstMax contMax data).tail, c.length ≤ contMax ∧ 0 < c.length) ∧
    splitIntoChunks firstMax contMax data ≠ [] := by
  refine ⟨?_, ?_, ?_, by simp [splitIntoChunks]⟩
  · simp only [splitIntoChunks, List.flatten_cons]
    rw [chunkRest_flatten contMax hc _ _ (by simp)]
    exact List.take_append_drop _ _
  · simp only [splitIntoChunks, List.head?_cons, Option.map_some, List.length_take]
    exact Option.some_le_some.mpr (Nat.min_le_left _ _)
  · exact fun c hcm => ⟨chunkRest_le _ _ _ c hcm, chunkRest_pos hc _ _ c hcm⟩

/-- **A fragmented header block is deliverable (HEADERS).** What `relay.header` enqueues for an
encoded block of ANY length, with or without priority, under any legal MAX_FRAME_SIZE of the
receiver (≥ 5 suffices): the fragments concatenate to the encoded block, and every frame `send`
puts on the wire — the HEADERS frame *including its 5 priority octets*, and each CONTINUATION —
has a payload of at most the receiver's MAX_FRAME_SIZE, so an endpoint that enforces the limit it
advertised (FRAME_SIZE_ERROR otherwise) receives the whole block. -/
theorem header_block_frames_fit (r : Relay) (sid : Nat) (fields : Bytes) (es : Bool) (prio : Prio)
    (encoded : Bytes) (hm : 5 ≤ r.maxFrame) :
    ∃ chunks, acceptedOf r (.header sid fields es prio encoded) = [.headers sid es prio r.nextStamp fields chunks] ∧
      chunks.flatten = encoded ∧
      (QFrame.headers sid es prio r.nextStamp fields chunks).wireMax ≤ r.maxFrame := by
  exact ⟨_, rfl, (chunks_concat _ _ encoded (by omega)).1,
    splitIntoChunks_wire_le (if prio.isZero then 0 else 5) r.maxFrame (by split <;> omega) encoded⟩

/-- **PUSH_PROMISE blocks fit as well** (`header_block_frames_fit`); the first frame carries the 4 octets of the
promised stream id. -/
theorem push_block_frames_fit (r : Relay) (sid promised : Nat) (fields encoded : Bytes) (hm : 5 ≤ r.maxFrame) :
    ∃ chunks, acceptedOf r (.push sid promised fields encoded) = [.push sid promised r.nextStamp fields chunks] ∧
      chunks.flatten = encoded ∧
      (QFrame.push sid promised r.nextStamp fields chunks).wireMax ≤ r.maxFrame := by
  exact ⟨_, rfl, (chunks_concat _ _ encoded (by omega)).1, splitIntoChunks_wire_le 4 r.maxFrame (by omega) encoded⟩

/-- Test (tightness): with the two size arguments of `splitIntoChunks` exchanged, or the metadata
octets not deducted from the first fragment, the first frame is larger than the limit. -/
example : (QFrame.headers 1 false ⟨0, false, 15⟩ 0 [] (splitIntoChunks 8 (8 - 5) (List.replicate 9 0))).wireMax = 13 := by decide +kernel
example : (QFrame.push 1 2 0 [] (splitIntoChunks 8 (8 - 4) (List.replicate 9 0))).wireMax = 12 := by decide +kernel
example : (QFrame.headers 1 false ⟨0, false, 15⟩ 0 [] (splitIntoChunks (8 - 5) 8 (List.replicate 9 0))).wireMax = 8 := by decide +kernel

/-- Frames enqueued by a whole history. -/
def acceptedRun : Relay → List RIn → List QFrame
  | _, [] => []
  | r, i :: is => acceptedOf r i ++ acceptedRun (rstep r i) is

/-- Everything ever enqueued is, in order, the image (`acceptedOf`) of the sink calls: one queued
frame per HEADERS / PUSH_PROMISE / PRIORITY / RST_STREAM call with the same fields, END_STREAM,
priority, promised id, code; the DATA frames of `data_split_faithful` per `Data` call. -/
theorem accepted_is_image_of_calls (r : Relay) (is : List RIn) :
    (run r is).accepted = r.accepted ++ acceptedRun r is := by
  induction is generalizing r with
  | nil => simp [run, acceptedRun]
  | cons i is ih =>
    have := ih (rstep r i)
    simp only [run, List.foldl_cons] at this ⊢
    rw [this, rstep_accepted, acceptedRun, List.append_assoc]

/-- **Per-stream order and content; no loss, no duplication.** After any history — any
interleaving of streams, any window schedule (WINDOW_UPDATEs, INITIAL_WINDOW_SIZE changes), any
map iteration orders — on every stream the frames put on the output channel followed by the
frames still queued are exactly, in order, the image of that stream's calls: what has left is a
prefix of what must leave, nothing is dropped, duplicated or reordered within a stream. -/
theorem per_stream_order_and_content (is : List RIn) (hok : OkRun {} is) (s : Nat) :
    onS s (run {} is).emitted ++ ((run {} is).ob s).q = onS s (acceptedRun {} is) := by
  have hg := (run_invariant is good0_init allstuck_init hok).1
  have := hg.conserve s
  rw [accepted_is_image_of_calls] at this
  simpa using this

/-- Header blocks reach the peer in the order the relay's HPACK encoder produced them (stamps
0, 1, 2, …): the only order in which the peer's decoder reconstructs the same field lists. -/
def EncodeOrder (r : Relay) : Prop := blocks r.emitted = List.range (blocks r.emitted).length

/-- The full statement: after every admissible history. It is FALSE for the code as it is. -/
def HeaderBlocksLeaveInEncodeOrder : Prop := ∀ is : List RIn, OkRun {} is → EncodeOrder (run {} is)

/-- F08b witness (DESIGN §3 C08): the receiver advertised INITIAL_WINDOW_SIZE 0; stream 1 sends
HEADERS, DATA and trailers, stream 3 sends HEADERS; then the receiver opens stream 1. -/
def f08b : List RIn :=
  [.initWin 0 [], .header 1 [1] false Prio.zero [0], .data 1 [7, 7, 7, 7, 7] false,
   .header 1 [2] true Prio.zero [0], .header 3 [3] true Prio.zero [0], .windowUpdate 1 100 []]

/-- The blocks leave as 0, 2, 1: stream 3's block, encoded last, overtakes stream 1's trailers. -/
theorem header_blocks_leave_in_encode_order_counterexample : ¬ HeaderBlocksLeaveInEncodeOrder := by
  intro h
  have h1 := h f08b (okRunB_sound _ _ (by decide +kernel))
  have h2 : blocks (run {} f08b).emitted = [0, 2, 1] := by decide +kernel
  simp [EncodeOrder, h2] at h1
  exact absurd h1 (by decide)

/-- Histories outside the F08b class: every step is admissible and no header block is encoded
while a block encoded earlier is still queued on another stream. -/
def SafeRun : Relay → List RIn → Prop
  | _, [] => True
  | r, i :: is => OkStep r i ∧ SafeIn r i ∧ SafeRun (rstep r i) is

private theorem SafeRun.blocksUpTo {r : Relay} {is : List RIn} (hg : Good0 r) (hj : BlocksUpTo r r.nextStamp)
    (hs : SafeRun r is) : BlocksUpTo (run r is) (run r is).nextStamp := by
  induction is generalizing r with
  | nil => exact hj
  | cons i is ih => exact ih (rstep_good0 hg i) (rstep_blocksUpTo hg hj i hs.2.1) hs.2.2

theorem header_blocks_leave_in_encode_order_partial (is : List RIn) (hs : SafeRun {} is) :
    EncodeOrder (run {} is) ∧ (blocks (run {} is).emitted).length ≤ (run {} is).nextStamp := by
  have hj0 : BlocksUpTo ({} : Relay) (({} : Relay).nextStamp) := ⟨0, by simp, by simp⟩
  obtain ⟨s0, -, h2⟩ := hs.blocksUpTo good0_init hj0
  exact prefix_of_range h2

/-- Executable form of `SafeRun`. -/
def safeInB (r : Relay) : RIn → Bool
  | .header sid _ _ _ _ => r.keys.all fun t => t == sid || (blocks (r.ob t).q).isEmpty
  | .push sid _ _ _ => r.keys.all fun t => t == sid || (blocks (r.ob t).q).isEmpty
  | _ => true

def safeRunB : Relay → List RIn → Bool
  | _, [] => true
  | r, i :: is => okStepB r i && safeInB r i && safeRunB (rstep r i) is

theorem safeRunB_sound (r : Relay) (is : List RIn) (h : safeRunB r is = true) : SafeRun r is := by
  induction is generalizing r with
  | nil => trivial
  | cons i is ih =>
    simp only [safeRunB, Bool.and_eq_true] at h
    refine ⟨okStepB_sound r i h.1.1, ?_, ih _ h.2⟩
    have h2 := h.1.2
    cases i with
    | header sid _ _ _ _ | push sid _ _ _ =>
      simp only [safeInB, List.all_eq_true, Bool.or_eq_true, beq_iff_eq, List.isEmpty_iff] at h2
      exact fun t ht hne => (h2 t ht).resolve_left hne
    | _ => trivial

/-- Non-vacuity: trailers waiting behind blocked DATA are still in the safe class as long as no
other stream encodes a block meanwhile; the blocks then leave in order. -/
def safeSample : List RIn :=
  [.initWin 0 [], .header 1 [1] false Prio.zero [0], .data 1 [7, 7] false, .header 1 [2] true Prio.zero [0],
   .windowUpdate 1 100 [], .header 3 [3] true ⟨1, false, 16⟩ [0, 0]]

example : SafeRun {} safeSample := safeRunB_sound _ _ (by decide +kernel)
example : blocks (run {} safeSample).emitted = [0, 1, 2] := by decide +kernel
example : safeRunB {} f08b = false := by decide +kernel

/-- What `queuedHeaderFrame.send` puts on the wire: `http2.Framer.WriteHeaders` only writes a
priority that is not `IsZero()`. -/
def wirePrio (p : Prio) : Option Prio := if p.isZero then none else some p

/-- The priority a HEADERS frame carried (present or absent) arrives unchanged, unless it was
present with all-zero contents. -/
theorem priority_flag_partial (prio : Option Prio) (h : prio ≠ some Prio.zero) :
    wirePrio (prio.getD Prio.zero) = prio := by
  cases prio with
  | none => simp [wirePrio, Prio.isZero]
  | some p =>
    have : p ≠ Prio.zero := fun e => h (by rw [e])
    simp [wirePrio, Prio.isZero, this]

/-- F08d: a priority present with dependency 0, non-exclusive, weight field 0 loses its flag. -/
theorem priority_flag_counterexample : wirePrio ((some Prio.zero).getD Prio.zero) ≠ some Prio.zero := by
  decide +kernel

/-! ## Facts regenerated from `/repo` on every run (`go/cmd/vextract/facts_c08.go`) -/

/-- The protocol constants of `h2/relay.go` are the ones the model starts from and subtracts. -/
theorem facts_relay_constants :
    Generated.H2Relay.initialMaxFrameSize = ({} : Relay).maxFrame ∧
    Generated.H2Relay.defaultInitialWindowSize = ({} : Relay).initWin ∧
    (Generated.H2Relay.defaultInitialWindowSize : Int) = ({} : Relay).connWin ∧
    Generated.H2Relay.headersPriorityMetadataLength = 5 ∧ Generated.H2Relay.pushPromiseMetadataLength = 4 := by
  decide +kernel

/-- `processFrame` stores the HEADERS frame's own END_STREAM flag and `headerContinuation.complete`
passes that stored flag on (F08a fix), as `dispatch` does. -/
theorem facts_continued_headers_keep_end_stream : Generated.H2Relay.continuedHeadersKeepEndStream = true := by
  decide +kernel

/-- `forwardPreface` reads the whole 24-byte preface (F08c fix); the transport may deliver it in
arbitrarily small pieces. Outside the relay model; visible only end to end. -/
theorem facts_preface_read_in_full : Generated.H2Relay.prefaceReadInFull = true := by decide +kernel

end Martian.Props.C08
