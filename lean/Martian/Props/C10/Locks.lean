import Martian.Lemmas.H2Session
/-!
# C10 — lock discipline of the relay (`destMu`, `flowMu`)

`destMu` of a relay guards writes to its destination connection and is taken by three goroutines:
the relay's writer (`f.send`), the relay's own reader (SETTINGS / SETTINGS ack / PING / GOAWAY
forwarded directly by `processFrame`) and the PEER relay's reader (`sendWindowUpdates` for a DATA
frame).  The model keeps an explicit owner (`Side.dmu`).  A `processFrame` that returned with the
mutex still locked (for instance on the error path of a failed direct write) would wedge the other
two for ever: `Proxy` would not return.  These theorems state that this cannot happen in the model;
`Generated/H2Session.lean` (lock-balance facts, `Props/C10/Facts.lean`) ties them to the source.
-/
namespace Martian.Props.C10
open Martian.H2Session

/-- The explicit owner of each `destMu` is exactly the list of goroutines whose control state is
    inside its critical section (writer in `f.send`, own reader / peer reader in a direct write). -/
theorem dest_owner_exact {s : Sys} (hr : Reach s) (t : Dir) : destUsers s t = (s.side t).dmu.toList :=
  good_destUsers (good_reach hr) t

/-- Mutual exclusion: at most one goroutine is inside the critical section of a `destMu`. -/
theorem dest_mutual_exclusion {s : Sys} (hr : Reach s) (t : Dir) : (destUsers s t).length ≤ 1 := by
  rw [dest_owner_exact hr t]; cases (s.side t).dmu <;> simp

/-- No lock is held at any return of `processFrame` (nor before it is called): a reader that is in
    its `select`, at the `readerDone` rendez-vous or gone owns no `destMu` (neither its own relay's nor
    the peer's) and no `flowMu`. -/
theorem no_lock_held_outside_processFrame {s : Sys} (hr : Reach s) (d : Dir)
    (h : (s.side d).r.inProcessFrame = false) (t : Dir) :
    (s.side t).dmu ≠ some (holderOf d t) ∧ (s.side t).fmu ≠ some d ∧ (s.side d).r.isPushing t = false := by
  have g := good_reach hr
  have hp : (s.side d).r.isPushing t = false := by
    cases hx : (s.side d).r <;> simp [hx, Rd.inProcessFrame] at h ⊢
  refine ⟨fun hm => ?_, fun hf => ?_, hp⟩
  · have hh := (g.dest.reader d t).mpr hm
    cases hx : (s.side d).r <;> simp [hx, Rd.inProcessFrame] at h hh
  · simp [(g.flow d t).mpr hf] at hp

/-- The writer goroutine owns its relay's `destMu` exactly while it is inside `f.send`; in particular
    not in its `select` and not after it has left. -/
theorem writer_owns_only_while_sending {s : Sys} (hr : Reach s) (d : Dir) :
    ((s.side d).dmu = some .writer ↔ (s.side d).w = .hold) ∧ ((s.side d).r = .gone → (s.side d).w = .idle) := by
  have g := good_reach hr
  exact ⟨(g.dest.writer d).symm, g.life.idle_of_gone d⟩

/-- The direct write of a reader releases the mutex on BOTH outcomes: whether the write completed or
    failed, after the step the `destMu` is free and the reader is outside the critical section. -/
theorem direct_write_unlocks_on_both_paths {s s' : Sys} {d t : Dir} {k : Option Nat}
    (hs : (s.side d).r = .mHold t k) (h : step s (.mDone d) = some s') :
    (s'.side t).dmu = none ∧ (s'.side d).r = afterWrite d k (s.side t).wfail ∧
    ((s.side t).wfail = true → (s'.side d).r = .exiting) := by
  cases Step.of_step h with
  | mDone hr _ =>
    obtain ⟨rfl, rfl⟩ := Rd.mHold.inj (hs.symm.trans hr)
    refine ⟨(move_set Side.dmu none t).trans (if_pos rfl), (move_r d).trans (if_pos rfl), fun hx => ?_⟩
    rw [(move_r d).trans (if_pos rfl), hx]; cases k <;> rfl

/-- When `Proxy` has returned, all four mutexes of the session are free. -/
theorem all_locks_free_on_return {s : Sys} (hr : Reach s) (h : s.returned = true) :
    s.c.dmu = none ∧ s.s.dmu = none ∧ lockHeld s .c2s = false ∧ lockHeld s .s2c = false := by
  have g := good_reach hr
  have gone := g.life.gone_of_returned h
  have dfree : ∀ t, (s.side t).dmu = none := fun t => by
    have u := good_destUsers g t
    simp [destUsers, gone, g.life.idle_of_gone t (gone t)] at u
    cases hm : (s.side t).dmu <;> simp [hm] at u ⊢
  have ffree : ∀ t, lockHeld s t = false := fun t => by
    cases hm : (s.side t).fmu with
    | none => simp [lockHeld, hm]
    | some o => simpa [gone o] using (g.flow o t).mpr hm
  exact ⟨dfree .c2s, dfree .s2c, ffree _, ffree _⟩

/-! ### `flowMu` -/

/-- The explicit owner of each `flowMu` is exactly the reader whose control state is inside
    `emitEligibleFrames` for that relay (`pushing t _ _`): every `flowMu.Lock()` of the window paths
    (WINDOW_UPDATE, SETTINGS: `Work.peer`, `Work.settings`, also with nothing to release, `n = 0`) and
    of the enqueue paths (`Work.own`, `Work.data`) is matched by its `Unlock()`. -/
theorem flow_owner_exact {s : Sys} (hr : Reach s) (t o : Dir) :
    (s.side t).fmu = some o ↔ (s.side o).r.isPushing t = true :=
  ((good_reach hr).flow o t).symm

/-- Mutual exclusion on `flowMu`: the two readers are never both inside the critical section of the
    same relay's `flowMu`. -/
theorem flow_mutual_exclusion {s : Sys} (hr : Reach s) (t : Dir) :
    ¬ (s.c.r.isPushing t = true ∧ s.s.r.isPushing t = true) := by
  intro ⟨a, b⟩
  have ha := ((good_reach hr).flow .c2s t).mp a
  have hb := ((good_reach hr).flow .s2c t).mp b
  rw [ha] at hb; cases hb

/-- A frame that takes a `flowMu` gives it back: when the reader has pushed what the frame released
    (nothing, for a WINDOW_UPDATE on a stream without queued frames) the `release` step is enabled and
    leaves that `flowMu` unowned, whichever relay's it is and whatever follows (back to the `select`,
    or on to `WriteSettings`). -/
theorem window_update_releases_flowMu {s : Sys} {d t : Dir} {wr : Bool} (hr : Reach s)
    (hs : (s.side d).r = .pushing t 0 wr) :
    ∃ s', step s (.release d) = some s' ∧ (s'.side t).fmu = none ∧ lockHeld s' t = false ∧
      (s'.side d).r = (if wr then .mWait d none else .selReading) := by
  have e : ∀ o, ((s.move d (if wr then Rd.mWait d none else .selReading) t fun y => { y with fmu := o }).side t).fmu = o :=
    fun o => (move_set Side.fmu o t).trans (if_pos rfl)
  exact ⟨_, (Step.release hs).step, e none, by rw [lockHeld, e none]; rfl, (move_r d).trans (if_pos rfl)⟩

/-- The shape of seeded defect C10-J: a reader has returned from `processFrame` (a WINDOW_UPDATE whose
    early return forgot the `Unlock`) leaving the s2c relay's `flowMu` owned by nobody's critical
    section; the s2c reader, with a frame to enqueue, waits for it; the session has been told to end
    and the c2s side has left. -/
def leakedFlowMu : Sys :=
  { c := { r := .gone }, s := { r := .lockWait .s2c 1 false, fmu := some .c2s },
    done := true, closing := true, watcher := false }

/-- `leakedFlowMu` is wedged for ever and is not an F10c state. -/
theorem leaked_flowMu_wedges :
    termed leakedFlowMu = true ∧ unstalled leakedFlowMu = true ∧ quiescent leakedFlowMu = true ∧
    leakedFlowMu.returned = false ∧ leakedFlowMu.scClosed = false ∧ f10cBlocked leakedFlowMu = false := by decide +kernel

/-- `leakedFlowMu` is not reachable: in the model no frame makes `processFrame` return with a `flowMu` held. -/
theorem leaked_flowMu_unreachable : ¬ Reach leakedFlowMu :=
  wedged_unreachable leaked_flowMu_wedges

/-- What the invariant excludes (the shape of seeded defect C10-C): the s2c reader has returned from
    `processFrame` — and from `relayFrames` — leaving `destMu` of the s2c relay locked; the c2s reader,
    processing a DATA frame, waits for that mutex for its window acknowledgement. -/
def leakedDestMu : Sys :=
  { c := { r := .mWait .s2c (some 1) }, s := { r := .gone, dmu := some .own }, done := true, watcher := false }

/-- `leakedDestMu` is wedged for ever (a terminating event has happened, nothing is stalled, no process
    can move, `Proxy` has not returned, the upstream connection is open) and it is not an F10c state. -/
theorem leaked_destMu_wedges :
    termed leakedDestMu = true ∧ unstalled leakedDestMu = true ∧ quiescent leakedDestMu = true ∧
    leakedDestMu.returned = false ∧ leakedDestMu.scClosed = false ∧ f10cBlocked leakedDestMu = false := by decide +kernel

/-- `leakedDestMu` is not reachable: no schedule and no sequence of faults makes the model's `processFrame`
    return with a `destMu` held. -/
theorem leaked_destMu_unreachable : ¬ Reach leakedDestMu :=
  wedged_unreachable leaked_destMu_wedges

/-! ### Non-vacuity: the schedule that needs the error path to unlock -/

/-- The client stops reading; a PING from the server is forwarded directly: the s2c reader holds the
    s2c `destMu` inside the blocked `WritePing`.  The client uploads a DATA frame: the c2s reader
    waits for the same mutex (`mAcquire .c2s` is disabled).  Then writes toward the client fail: the
    s2c reader unlocks and leaves, the c2s reader gets the mutex, its acknowledgement fails too, it
    unlocks and leaves; `Proxy` returns with the upstream connection closed and every mutex free. -/
example :
    let pre : List Label := [.stall .s2c, .deliver .s2c (.frame .direct), .rTake .s2c, .mAcquire .s2c,
      .deliver .c2s (.frame (.data 1)), .rTake .c2s]
    let post : List Label := [.failWrites .s2c, .mDone .s2c, .mAcquire .c2s, .mDone .c2s,
      .handshake .s2c, .handshake .c2s, .watchDone, .ret, .callerClose]
    (∃ s1, exec init pre = some s1 ∧ s1.s.dmu = some .own ∧ step s1 (.mAcquire .c2s) = none ∧
      step s1 (.mDone .s2c) = none ∧
      (∃ s2, exec s1 post = some s2 ∧ s2.returned = true ∧ s2.scClosed = true ∧ s2.s.dmu = none ∧
        quiescent s2 = true ∧ alive s2 = [])) := by
  refine ⟨_, rfl, by decide +kernel, by decide +kernel, by decide +kernel, _, rfl, ?_⟩
  decide +kernel

end Martian.Props.C10
