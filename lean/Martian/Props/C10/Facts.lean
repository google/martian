import Martian.Skel
import Martian.Generated.H2Session
import Martian.Model.H2Proxy
/-!
# C10 — structural facts of `h2/h2.go` and `h2/relay.go` (regenerated from the source on every check)

What the session model transcribes and the differential run sees only end to end:
the place of `defer sc.Close()` in `Config.Proxy` (every return after a successful dial closes the
upstream connection — stages `prefaceRead`, `prefaceWrite`, `running` of `Model/H2Proxy.lean`), the
shape of `forwardPreface`, how the relay goroutines and the watcher are wired to `done`/`closing`,
the capacity of the channels of `relayFrames`, and the lock balance of every function of relay.go
that takes a mutex (`Props/C10/Locks.lean`: no `destMu`/`flowMu` is held at any return).
-/
namespace Martian.Props.C10
open Martian Skel
open Martian.Generated.H2Session

/-- The model's `cap` is the source's `outputChannelSize`. -/
theorem facts_output_capacity : outputChannelSize = H2Session.cap := by decide

/-- `Config.Proxy`: one dial; `sc.Close` is deferred exactly once, as a statement of the function
    body itself (not inside a branch), and never called directly; the ONLY return before it is the
    dial-error return (there is no connection to close then: `Stage.failing false`); the preface
    step, its error return, `wg.Wait()` and the final return all come after it (`failing true`,
    `running`). -/
theorem facts_proxy_close_deferred_right_after_dial :
    count "call tls.Dial" proxySkel = 1 ∧ count "defer sc.Close" proxySkel = 1 ∧
    count "call sc.Close" proxySkel = 0 ∧ closeDeferredAtTopLevel = true ∧
    (before "defer sc.Close" proxySkel).filter (fun t => t == "return err" || t == "return nil") = ["return err"] ∧
    hasSeq ["call tls.Dial", "return err", "defer sc.Close", "call forwardPreface", "return err",
            "call wg.Wait", "return nil"] proxySkel = true ∧
    count "call forwardPreface" proxySkel = 1 ∧ count "call wg.Wait" proxySkel = 1 := by
  decide +kernel

/-- `forwardPreface`: one `io.ReadFull` (the whole preface or an error), an error return for the
    read, one for the comparison, one for the write; success only after the write loop. -/
theorem facts_preface_steps :
    count "call io.ReadFull" prefaceSkel = 1 ∧ count "call server.Write" prefaceSkel = 1 ∧
    hasSeq ["call io.ReadFull", "return err", "return err", "call server.Write", "return err", "return nil"] prefaceSkel = true ∧
    count "return nil" prefaceSkel = 1 ∧ count "return err" prefaceSkel = 3 := by
  decide +kernel

/-- Both relay goroutines run `relayFrames` on the channel that `stop()` closes (not on the proxy's
    `closing`), and call `stop()` and `wg.Done()` on their way out; the watcher turns `closing` into
    `stop()` and ends with `done` (labels `watchClosing`, `watchDone`). -/
theorem facts_relays_joined_and_stopped :
    relayGoroutines = ["relayFrames(DONE) stop=true wg.Done=true", "relayFrames(DONE) stop=true wg.Done=true"] ∧
    watcherArms = ["<-CLOSING -> stop", "<-DONE"] :=
  ⟨rfl, rfl⟩

/-- `relayFrames`: `readerDone` is a rendez-vous (label `handshake`) sent from a deferred closure;
    `writerErr` and `frameReady` have one slot (the writer's single error report and the abandoned
    `ReadFrame` goroutine never block). -/
theorem facts_relay_channels :
    relayChannels = ["readerDone=0", "writerErr=1", "frameReady=1"] ∧ deferredSend = "readerDone" :=
  ⟨rfl, rfl⟩

/-- Every `ReadFrame` of `relayFrames` is issued by a goroutine of its own (one call site, inside a
    `go func`), never inline in the reader's loop, and the reader waits for it in a `select` whose other
    arms are `writerErr` and the channel it was given (`done`) — without a `default`: a reader is in
    `selReading` between ANY two frames, also between the frames of one split header block
    (`Props/C10/MidBlock.lean`). -/
theorem facts_readframe_only_in_goroutine :
    readFrameSites = ["go"] ∧ readerSelectArms = ["<-frameReady", "<-writerErr", "<-PARAM"] :=
  ⟨rfl, rfl⟩

/-- Lock balance of relay.go: in every function (and function literal) that takes a mutex, every
    path from a `Lock` reaches an `Unlock` (or a deferred one) before any `return` and before the end
    of the function, branches agree and loop bodies are balanced. -/
theorem facts_locks_balanced : lockFuncs.all (fun f => f.2.2.isEmpty) = true := by
  decide +kernel

/-- Who takes which mutex: `destMu` — the writer goroutine of `relayFrames`, `processFrame` (own
    reader: `Holder.own`) and `sendWindowUpdates` (called on the peer: `Holder.peer`); `flowMu` — the
    enqueue paths (`Work.own`, `Work.data`) and the window paths (`Work.peer`, `Work.settings`). -/
theorem facts_lock_users :
    (lockFuncs.filter (fun f => f.2.1.contains "r.destMu")).map (·.1) =
      ["relayFrames.go1", "processFrame", "sendWindowUpdates"] ∧
    (lockFuncs.filter (fun f => f.2.1.contains "r.flowMu")).map (·.1) =
      ["updateInitialWindowSize", "updateWindow", "data", "enqueueFrame", "sendQueuedFramesUnderWindowSize"] := by
  decide +kernel

end Martian.Props.C10
