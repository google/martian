import Martian.Lemmas.H2Proxy
/-!
# C10 — every stage of `Config.Proxy`: dial, preface read, preface write, relays

The relay machine of `Props/C10.lean` is the `running` stage of `Martian.H2Session.Proxy`
(`Model/H2Proxy.lean`).  These theorems extend "when it returns the upstream connection it opened
has been closed" and the termination argument to sessions that end BEFORE the relays exist: the
dial fails, the client closes / sends a short or wrong preface, the preface cannot be written.
-/
namespace Martian.Props.C10
open Martian.H2Session

/-- In the `running` stage the embedded relay machine is in a state reachable from its `init`, so
    every theorem of `Props/C10.lean` applies to it. -/
theorem running_stage_is_relay_machine {p : Proxy} (hr : PReach p) (h : p.stage = .running) :
    Reach p.sys ∧ p.sys.closing = p.closing := pgood_reach hr h

/-- At EVERY return of `Proxy`, whatever the stage it returns from: if `tls.Dial` had returned a
    connection, that connection has been closed; no goroutine of the caller is left inside `Proxy`;
    and from the relay stage both relays (reader and writer of each direction) are gone. -/
theorem upstream_closed_on_return_all_stages {p : Proxy} (hr : PReach p) (h : p.returned = true) :
    (p.dialed = true → p.scClosed = true) ∧ Proc.main ∉ palive p ∧
    (p.stage = .running → p.sys.c.r = .gone ∧ p.sys.s.r = .gone) := by
  have g := pgood_reach hr
  obtain ⟨st, clg, ccc, sys⟩ := p
  cases st <;> simp [Proxy.returned] at h
  · simp [Proxy.dialed, Proxy.scClosed, palive]
  · have ⟨hs, _⟩ := g rfl
    have l := (good_reach hs).life
    have gc : sys.c.r = .gone := l.gone_of_returned h .c2s
    have gs : sys.s.r = .gone := l.gone_of_returned h .s2c
    have sc : sys.scClosed = true := l.scClosed.trans h
    simp [Proxy.dialed, Proxy.scClosed, palive, alive, h, gc, gs, sc, Side.alive, Rd.isReading]

/-- The upstream connection is never closed by `Proxy` before it returns, and never without having
    been dialled. -/
theorem upstream_open_until_return {p : Proxy} (hr : PReach p) (h : p.scClosed = true) :
    p.returned = true ∧ p.dialed = true := by
  have g := pgood_reach hr
  obtain ⟨st, clg, ccc, sys⟩ := p
  cases st <;> simp [Proxy.scClosed] at h
  · subst h; simp [Proxy.returned, Proxy.dialed]
  · have ⟨hs, _⟩ := g rfl
    have hrt : sys.returned = true := (good_reach hs).life.scClosed.symm.trans h
    simp [Proxy.returned, Proxy.dialed, hrt]

/-- Ranking function over all stages: every process step (the error return of the early stages, every
    step of the relay machine) strictly decreases `pmu`. -/
theorem ranking_decreases_all_stages {p p' : Proxy} {l : PLabel} (hp : l.isProc = true)
    (h : pstep p l = some p') : pmu p' < pmu p := pstep_decreases hp h

/-- Deadlock characterisation over all stages: after a terminating event (a failed dial, a failed
    preface step, or a terminating event of the relay stage), with no write stalled, if no process can
    move then `Proxy` has returned — or the relay machine is in an F10c state. -/
theorem deadlock_only_f10c_all_stages {p : Proxy} (hr : PReach p) (ht : ptermed p = true)
    (hu : p.stage = .running → unstalled p.sys = true) (hq : pquiescent p = true) :
    p.returned = true ∨ (p.stage = .running ∧ f10cBlocked p.sys = true) := by
  have g := pgood_reach hr
  obtain ⟨st, clg, ccc, sys⟩ := p
  cases st <;> simp [ptermed] at ht <;> simp [pquiescent] at hq
  · simp [Proxy.returned]
  · have ⟨hs, _⟩ := g rfl
    rcases quiescent_returned_or_f10c (good_reach hs) ht (hu rfl) hq with a | b
    · exact Or.inl (by simpa [Proxy.returned] using a)
    · exact Or.inr ⟨rfl, b⟩

/-- Each way the session can end before the relays exist leads to the return in ONE process step,
    with the upstream connection closed exactly when it had been opened:
    the dial fails (nothing to close); the preface read ends in EOF / an error / other bytes; the
    preface cannot be written to the server. -/
theorem early_failure_returns :
    (∀ p p1, p.stage = .dialing → pstep p (.dial false) = some p1 →
      ∃ p2, pstep p1 .retErr = some p2 ∧ p2.returned = true ∧ p2.dialed = false ∧ p2.scClosed = false ∧ palive p2 = []) ∧
    (∀ p p1, p.stage = .prefaceRead → pstep p (.prefaceIn false) = some p1 →
      ∃ p2, pstep p1 .retErr = some p2 ∧ p2.returned = true ∧ p2.dialed = true ∧ p2.scClosed = true ∧ palive p2 = []) ∧
    (∀ p p1, p.stage = .prefaceWrite → pstep p (.prefaceOut false) = some p1 →
      ∃ p2, pstep p1 .retErr = some p2 ∧ p2.returned = true ∧ p2.dialed = true ∧ p2.scClosed = true ∧ palive p2 = []) := by
  refine ⟨?_, ?_, ?_⟩ <;> intro p p1 hs h <;> obtain ⟨st, clg, ccc, sys⟩ := p <;> simp at hs <;> subst hs <;>
    simp [pstep] at h <;> subst h <;> simp [pstep, Proxy.returned, Proxy.dialed, Proxy.scClosed, palive]

/-- The full statement for proxy shutdown (false of the code, see `closing_unobserved_in_preface`):
    once `closing` is closed, a state in which no process can move (and no write is stalled) is a
    returned one or an F10c one. -/
def ClosingTerminatesAtEveryStage : Prop :=
  ∀ p : Proxy, PReach p → p.closing = true → (p.stage = .running → unstalled p.sys = true) →
    pquiescent p = true → p.returned = true ∨ (p.stage = .running ∧ f10cBlocked p.sys = true)

/-- Finding F10d: `Proxy` does not look at `closing` while it dials and while it reads the client's
    preface.  The state "upstream dialled, waiting for the preface, proxy closing" is reachable, no
    process can move in it, and `Proxy` has not returned (it returns only when the client sends its
    preface, closes, or the read deadline set by the caller expires). -/
theorem closing_unobserved_in_preface :
    let p : Proxy := { stage := .prefaceRead, closing := true }
    PReach p ∧ pquiescent p = true ∧ p.returned = false ∧ p.scClosed = false ∧ palive p = [Proc.main] := by
  refine ⟨?_, by decide +kernel, by decide +kernel, by decide +kernel, by decide +kernel⟩
  exact PReach.step .closing (PReach.step (.dial true) PReach.init rfl) rfl

theorem closing_terminates_counterexample : ¬ ClosingTerminatesAtEveryStage := by
  intro h
  have w := closing_unobserved_in_preface
  have := h _ w.1 rfl (by intro h'; simp at h') w.2.1
  simp [Proxy.returned] at this

/-- PARTIAL (what is missing: the stages before the relays, F10d): once the relays run, a proxy
    shutdown is a terminating event of the relay machine whenever it happened — also when `closing`
    had been closed before or during the preface. -/
theorem closing_terminates_partial {p : Proxy} (hr : PReach p) (hc : p.closing = true)
    (hs : p.stage = .running) (hu : unstalled p.sys = true) (hq : pquiescent p = true) :
    p.returned = true ∨ f10cBlocked p.sys = true := by
  have ⟨_, hcl⟩ := pgood_reach hr hs
  have ht : ptermed p = true := by
    obtain ⟨st, clg, ccc, sys⟩ := p
    simp at hs; subst hs
    simp at hcl hc
    simp [ptermed, termed, hcl, hc]
  rcases deadlock_only_f10c_all_stages hr ht (fun _ => hu) hq with a | ⟨_, b⟩
  · exact Or.inl a
  · exact Or.inr b

/-! ### Non-vacuity -/

/-- A full run through all stages: dial, preface, relays, client EOF, return with the upstream closed;
    and the early ends. -/
example :
    (∃ p, pexec pinit [.dial true, .prefaceIn true, .prefaceOut true, .relay (.deliver .c2s .eof),
        .relay (.rTake .c2s), .relay (.handshake .c2s), .relay (.rDone .s2c), .relay (.handshake .s2c),
        .relay .watchDone, .relay .ret, .callerClose, .relay (.rfClosed .s2c)] = some p ∧
      p.returned = true ∧ p.dialed = true ∧ p.scClosed = true ∧ palive p = [] ∧ pquiescent p = true) ∧
    (∃ p, pexec pinit [.dial false, .retErr] = some p ∧ p.returned = true ∧ p.dialed = false ∧ p.scClosed = false) ∧
    (∃ p, pexec pinit [.dial true, .prefaceIn false, .retErr] = some p ∧ p.returned = true ∧ p.scClosed = true) ∧
    (∃ p, pexec pinit [.dial true, .closing, .prefaceIn true, .prefaceOut true, .relay .watchClosing] = some p ∧
      p.sys.done = true) := by
  refine ⟨⟨_, rfl, ?_⟩, ⟨_, rfl, ?_⟩, ⟨_, rfl, ?_⟩, ⟨_, rfl, ?_⟩⟩ <;> decide +kernel

end Martian.Props.C10
