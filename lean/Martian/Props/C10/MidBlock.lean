import Martian.Lemmas.H2Session
/-!
# C10 — a reader between the frames of one split header block is in its `select`

A HEADERS / PUSH_PROMISE frame without END_HEADERS (and every CONTINUATION that does not complete
the block) is only buffered by `processFrame` (`Work.frag`): no lock, no emission.  In the code —
and in the model — the next `ReadFrame` is again issued by a goroutine of its own and the reader
waits for it in the `select` against `writerErr` and `done`: "mid header block" is the ordinary
state `selReading`, not a state in which the reader reads synchronously.  Hence the ranking
function (`ranking_decreases`) and the deadlock characterisation (`deadlock_only_f10c`) cover it
with no further case; the theorems below say so explicitly, and `facts_readframe_only_in_goroutine`
(`Props/C10/Facts.lean`) pins the shape of the loop in the source.
-/
namespace Martian.Props.C10
open Martian.H2Session

/-- Taking a non-final fragment of a header block puts the reader straight back into the `select`
    with a `ReadFrame` goroutine: it holds no lock, has emitted nothing, and `mu` has decreased. -/
theorem mid_block_reader_is_in_select {s s' : Sys} {d : Dir}
    (hs : (s.side d).r = .selReady (.frame .frag)) (h : step s (.rTake d) = some s') :
    (s'.side d).r = .selReading ∧ (s'.side d).out = (s.side d).out ∧ (s'.side d).dmu = (s.side d).dmu ∧
    lockHeld s' = lockHeld s ∧ mu s' < mu s := by
  cases Step.of_step h with
  | rTake hr =>
    obtain rfl := Rd.selReady.inj (hs.symm.trans hr)
    refine ⟨?_, ?_, ?_, funext fun t => ?_, step_decreases rfl h⟩
    · rw [side_upd_self]; rfl
    · rw [side_upd_self]
    · rw [side_upd_self]
    · exact congrArg Option.isSome (upd_frame Side.fmu t rfl)

/-- Whatever ends the session while a direction sits in the middle of a header block with its
    endpoint silent — `done` closed by the other direction or by the watcher, a failed write of its
    own writer — that reader can take the corresponding `select` arm at once. -/
theorem mid_block_reader_can_leave {s : Sys} {d : Dir} (hs : (s.side d).r = .selReading) :
    (s.done = true → (step s (.rDone d)).isSome = true) ∧
    ((s.side d).werr = true → (step s (.rWerr d)).isSome = true) := by
  constructor <;> intro h <;> simp [step, hs, h, Rd.inSelect]

/-- Hence a state in which a reader is between the frames of a block is never a deadlock of its own:
    the general characterisation applies verbatim (reachable, terminating event seen, nothing stalled,
    nothing enabled ⇒ returned, or F10c — which needs a reader in `pushing`, not in `selReading`). -/
theorem mid_block_no_new_deadlock {s : Sys} {d : Dir} (hr : Reach s) (_hs : (s.side d).r = .selReading)
    (ht : termed s = true) (hu : unstalled s = true) (hq : quiescent s = true) :
    s.returned = true ∨ f10cBlocked s = true :=
  quiescent_returned_or_f10c (good_reach hr) ht hu hq

/-! ### Non-vacuity: each side mid-block and silent, the session ended from the other side -/

example :
    -- client mid-block (HEADERS without END_HEADERS taken), then the server closes
    (∃ s', exec init [.deliver .c2s (.frame .frag), .rTake .c2s, .deliver .s2c .eof, .rTake .s2c, .handshake .s2c,
        .rDone .c2s, .handshake .c2s, .watchDone, .ret, .callerClose, .rfClosed .c2s] = some s' ∧
      s'.returned = true ∧ s'.scClosed = true ∧ alive s' = [] ∧ quiescent s' = true) ∧
    -- server mid-block (PUSH_PROMISE without END_HEADERS + one more fragment), then proxy shutdown
    (∃ s', exec init [.deliver .s2c (.frame .frag), .rTake .s2c, .deliver .s2c (.frame .frag), .rTake .s2c, .closing,
        .watchClosing, .rDone .c2s, .rDone .s2c, .handshake .c2s, .handshake .s2c, .ret, .callerClose,
        .rfClosed .c2s, .rfClosed .s2c] = some s' ∧
      s'.returned = true ∧ s'.scClosed = true ∧ alive s' = [] ∧ quiescent s' = true) := by
  refine ⟨⟨_, rfl, ?_⟩, ⟨_, rfl, ?_⟩⟩ <;> decide +kernel

end Martian.Props.C10
