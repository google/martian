import Martian.Lemmas.H2Session
/-!
# C10 — sequences of terminating events

The statement quantifies over fault SEQUENCES: a second (third, …) terminating event may arrive
while the session is still winding down from the first — the source of a direction ends with a
clean EOF while frames it sent are still undelivered behind a stalled write, and then that write
fails; a write fails and then the source ends; shutdown, then an EOF; with the stall ending and
starting again in between.  In the model every environment label is enabled in every state
(`deliver` whenever a `ReadFrame` is pending, `failWrites`, `stall`, `unstall`, `closing` always), so
`Reach` already contains all such sequences and `ranking_decreases` / `deadlock_only_f10c` (which
assume only `Reach`, `termed`, `unstalled`) hold after every one of them.  The theorems below state
this explicitly.
-/
namespace Martian.Props.C10
open Martian.H2Session

/-- Whatever environment event follows a terminating event (another EOF, a read error, writes
    starting to fail, shutdown, a stall beginning or ending): the state is again reachable, a
    terminating event is still recorded, and the deadlock characterisation applies to it unchanged. -/
theorem further_events_covered {s s' : Sys} {l : Label} (hr : Reach s) (ht : termed s = true)
    (h : step s l = some s') :
    Reach s' ∧ termed s' = true ∧
    (unstalled s' = true → quiescent s' = true → s'.returned = true ∨ f10cBlocked s' = true) := by
  have hr' := Reach.step l hr h
  have ht' := termed_stable ht h
  exact ⟨hr', ht', fun hu hq => quiescent_returned_or_f10c (good_reach hr') ht' hu hq⟩

/-- The same for a whole sequence of further events interleaved with process steps in any order. -/
theorem event_sequences_covered {s s' : Sys} {ls : List Label} (hr : Reach s) (ht : termed s = true)
    (h : exec s ls = some s') :
    Reach s' ∧ termed s' = true ∧
    (unstalled s' = true → quiescent s' = true → s'.returned = true ∨ f10cBlocked s' = true) := by
  have hr' := reach_exec hr h
  have ht' := exec_termed ht h
  exact ⟨hr', ht', fun hu hq => quiescent_returned_or_f10c (good_reach hr') ht' hu hq⟩

/-- `failWrites` is enabled in every state, in particular after the source of that direction has ended
    with frames still pending in `output` and the writer inside a stalled write; and it is exactly what
    lets that writer go on (`wDone` is enabled once the write fails although the stall persists). -/
theorem write_failure_after_eof_unblocks_writer {s : Sys} {d : Dir} (hw : (s.side d).w = .hold) :
    ∃ s', step s (.failWrites d) = some s' ∧ (step s' (.wDone d)).isSome = true := by
  refine ⟨_, rfl, ?_⟩
  cases d <;> simp [Sys.side] at hw <;> simp [step, Sys.side, Sys.setSide, hw]

/-! ### Non-vacuity: EOF with undelivered frames behind a stalled write, then the write fails -/

/-- The client stops reading; the server sends three frames (the writer sits in the blocked write of
    the first, two wait in `output`) and closes cleanly: the s2c reader is at the rendez-vous but the
    writer cannot receive it (`handshake` disabled).  Then writes toward the client fail: the writer
    reports the error, drains the rest WITHOUT writing, meets the reader; everything ends, upstream
    closed.  (A reader that first waited for the writer to "deliver" the pending frames would wait for
    ever here.) -/
example :
    let pre : List Label := [.stall .s2c,
      .deliver .s2c (.frame (.own 1)), .rTake .s2c, .acquire .s2c, .push .s2c, .release .s2c, .wTake .s2c, .wLock .s2c,
      .deliver .s2c (.frame (.own 1)), .rTake .s2c, .acquire .s2c, .push .s2c, .release .s2c,
      .deliver .s2c (.frame (.own 1)), .rTake .s2c, .acquire .s2c, .push .s2c, .release .s2c,
      .deliver .s2c .eof, .rTake .s2c]
    let post : List Label := [.failWrites .s2c, .wDone .s2c, .wTake .s2c, .wTake .s2c, .handshake .s2c,
      .rDone .c2s, .handshake .c2s, .watchDone, .ret, .callerClose, .rfClosed .c2s]
    (∃ s1, exec init pre = some s1 ∧ s1.s.out = 2 ∧ s1.s.w = .hold ∧ s1.s.r = .exiting ∧
      step s1 (.handshake .s2c) = none ∧ step s1 (.wDone .s2c) = none ∧ termed s1 = true ∧
      (∃ s2, exec s1 post = some s2 ∧ s2.returned = true ∧ s2.scClosed = true ∧ s2.s.failed = true ∧
        quiescent s2 = true ∧ alive s2 = [])) := by
  refine ⟨_, rfl, by decide +kernel, by decide +kernel, by decide +kernel, by decide +kernel, by decide +kernel, by decide +kernel, _, rfl, ?_⟩
  decide +kernel

end Martian.Props.C10
