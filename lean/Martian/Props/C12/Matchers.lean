import Martian.Lemmas.Config
import Martian.Lemmas.ConfigCond
/-!
C12 — "a filter applies its modifier when its condition holds for the message": the six conditions,
concretely. `Config.holds` transcribes `header.Matcher`, `martianurl.Matcher` (+ `MatchHost`),
`querystring.Matcher`, `method.Matcher`, `cookie.Matcher`, `port.Filter` on a concrete exchange (`Config.Message`);
the theorems below say what those transcriptions mean, for every exchange and every parameter.
The tie to the real matchers is the differential `cond` / `matchhost` / `query` ops of the harness.
-/
namespace Martian.Props.C12
open Martian Martian.Config Martian.Go

/-- The depth-first reading of the tree on the request (or response) of a concrete exchange: filter
nodes branch on what the real matcher answers for that exchange. -/
def specEvalM (k : Kind) (m : Message) (n : Node) : SOutcome := specEval k (fun c => holds c k m) n

/-- `compile_eval_eq_spec` with the conditions evaluated by the six matchers on a concrete exchange
(any method, URL, query, header map, pseudo-headers, cookies). -/
theorem compile_eval_eq_spec_concrete (n : Node) (r : Result) (k : Kind) (m : Message) (h : compile n = .ok r) :
    flatO (run r k m.toMsg) = specEvalM k m n :=
  run_spec h k m.toMsg

/-- The filter clause, literally: in scope, the `modifier` branch runs iff the condition holds for the
message, the `else` branch (nothing, if absent) otherwise. -/
theorem filter_applies_iff_condition_holds (c : Cond) (scope : Scope) (t : Node) (e : Option Node) (k : Kind) (m : Message) :
    specEvalM k m (.filter c scope t e) =
      if acts scope Caps.both k then (if holds c k m then specEvalM k m t else (match e with | some x => specEvalM k m x | none => ([], [])))
      else ([], []) := by
  unfold specEvalM
  cases e <;> simp [specEval, specOpt]

/-- One exchange, two moments: the response side's effect is the depth-first reading on the exchange AS
IT IS AT RESPONSE TIME — whatever the exchange looked like when its request went through (no decision
is carried over from the request side), and the request side's on the exchange at request time. -/
theorem response_side_reads_the_exchange_at_response_time (n : Node) (r : Result) (m1 m1' m2 : Message) (h : compile n = .ok r) :
    (xrun r m1 m2).2 = (xrun r m1' m2).2 ∧ flatO (xrun r m1 m2).2 = specEvalM .res m2 n ∧ flatO (xrun r m1 m2).1 = specEvalM .req m1 n :=
  ⟨rfl, compile_eval_eq_spec_concrete n r .res m2 h, compile_eval_eq_spec_concrete n r .req m1 h⟩

/-- A filter whose condition changed truth between request time and response time takes different branches
on the two sides. -/
theorem filter_may_branch_differently_on_the_two_sides (c : Cond) (t e : Node) (m1 m2 : Message)
    (h1 : holds c .req m1 = true) (h2 : holds c .res m2 = false) :
    specEvalM .req m1 (.filter c none t (some e)) = specEvalM .req m1 t ∧ specEvalM .res m2 (.filter c none t (some e)) = specEvalM .res m2 e := by
  simp [filter_applies_iff_condition_holds, h1, h2, acts, Caps.both, Caps.has]

/-- ASCII case-insensitive equality with the request's method. -/
theorem method_cond_iff (x : Bytes) (k : Kind) (m : Message) :
    holds (.method x) k m = true ↔ toLower m.method = toLower x := by
  simp [holds, equalFold]

/-- Method, URL and query-string conditions are about the REQUEST of the exchange: a response is
filtered by the request it answers. -/
theorem request_conditions_read_the_request (k : Kind) (m : Message) (x s h p q n v : Bytes) :
    holds (.method x) k m = holds (.method x) .req m ∧ holds (.url s h p q) k m = holds (.url s h p q) .req m ∧
    holds (.query n v) k m = holds (.query n v) .req m := by
  simp [holds]

/-- Every non-empty segment of the filter must match; an empty segment does not constrain. -/
theorem url_cond_iff (s h p q : Bytes) (k : Kind) (m : Message) :
    holds (.url s h p q) k m = true ↔
      (s = [] ∨ s = m.scheme) ∧ (h = [] ∨ matchHost m.host h = true) ∧ (p = [] ∨ p = m.path) ∧ (q = [] ∨ q = m.rawQuery) :=
  urlMatches_iff m s h p q

theorem url_cond_unconstrained (k : Kind) (m : Message) : holds (.url [] [] [] []) k m = true := by
  simp [holds, urlMatches]

theorem matchHost_empty_host (pat : Bytes) : matchHost [] pat = false := by simp [matchHost]

theorem matchHost_self (host : Bytes) (h : host ≠ []) : matchHost host host = true := by
  cases host <;> simp_all [matchHost]

/-- A pattern without `*` matches exactly itself. -/
theorem matchHost_literal (host pat : Bytes) (hs : star ∉ pat) :
    matchHost host pat = true ↔ host ≠ [] ∧ host = pat := by
  cases host with
  | nil => simp [matchHost]
  | cons a as =>
    have hl := (hostLoop_nostar (a :: as).reverse pat.reverse (by simpa using hs) (by simp)).trans List.reverse_inj
    by_cases he : a :: as = pat <;> simp [matchHost, he, hl, -List.reverse_cons]

/-- `*.domain` matches `label.domain` for every non-empty dot-free label. -/
theorem matchHost_wildcard_label (l d : Bytes) (hl : l ≠ []) (hdot : dotB ∉ l) (hd : star ∉ d) :
    matchHost (l ++ dotB :: d) (star :: dotB :: d) = true := by
  have hne : (l ++ dotB :: d).isEmpty = false := by cases l <;> rfl
  have hx : star ∉ d.reverse ++ [dotB] := by simpa [show star ≠ dotB by decide] using hd
  have hlen := skipLabel_nodot l.reverse (by simpa using hl) (by simpa using hdot)
  -- reversed, host and pattern share the prefix `d.reverse ++ [dotB]`; what is left is one label against `*`
  have h1 : (l ++ dotB :: d).reverse = (d.reverse ++ [dotB]) ++ l.reverse := by simp
  have h2 : (star :: dotB :: d).reverse = (d.reverse ++ [dotB]) ++ [star] := by simp
  rw [matchHost, hne, h1, h2, hostLoop_common _ l.reverse [star] hx (by simpa using hl)]
  simp [hostLoop, hlen]

/-- Some parameter of the request's query has the name and (when a value is asked for) the value. -/
theorem query_cond_iff (n v : Bytes) (k : Kind) (m : Message) :
    holds (.query n v) k m = true ↔ ∃ kv ∈ parseQuery m.rawQuery, kv.1 = n ∧ (v = [] ∨ kv.2 = v) :=
  any_name_value _ n v

/-- `url.ParseQuery` on a query written from plain names and values gives back exactly those. -/
theorem parseQuery_of_plain_pairs (ps : List (Bytes × Bytes)) (h : ∀ p ∈ ps, plainQ p.1 ∧ plainQ p.2 ∧ p.1 ≠ []) :
    parseQuery (renderQuery ps) = ps := parseQuery_render ps fun p hp => ⟨(h p hp).1, (h p hp).2.1⟩

/-- Pieces are independent: `a&b` has the parameters of `a` followed by those of `b` (so a broken
piece — bad escape, `;` — drops only itself). -/
theorem parseQuery_pieces_independent (a b : Bytes) : parseQuery (a ++ 38 :: b) = parseQuery a ++ parseQuery b :=
  parseQuery_append a b

def headerOf (m : Message) : Kind → Header
  | .req => m.reqHeader
  | .res => m.resHeader

theorem any_find_iff_index (h : Header) (key v : Bytes) :
    (match (h.find? (·.1 == key)).map (·.2) with | none => false | some vs => vs.any (· == v)) = true ↔ v ∈ Header.index h key := by
  unfold Header.index
  cases hf : h.find? (fun x => x.1 == key) <;> simp

/-- A header that is not one of the three pseudo-headers: the condition holds iff one of the values
stored under the canonical name equals the filter's value. -/
theorem header_cond_iff (n v : Bytes) (k : Kind) (m : Message)
    (hp : canonKey n ≠ hostKey ∧ canonKey n ≠ clKey ∧ canonKey n ≠ teKey) :
    holds (.header n v) k m = true ↔ v ∈ Header.index (headerOf m k) (canonKey n) := by
  rw [← canonKey_idem n] at hp
  cases k <;> simp only [holds, Message.headerAll, headerAll_plain hp, canonKey_idem, headerOf]
  · exact any_find_iff_index m.reqHeader (canonKey n) v
  · exact any_find_iff_index m.resHeader (canonKey n) v

/-- Header names are case-insensitive (for names that are HTTP tokens). -/
theorem header_cond_name_case_insensitive (n v : Bytes) (k : Kind) (m : Message) (hn : n.all validHeaderFieldByte = true) :
    holds (.header (toLower n) v) k m = holds (.header n v) k m ∧ holds (.header (toUpper n) v) k m = holds (.header n v) k m := by
  simp [holds, canonKey_toLower n hn, canonKey_toUpper n hn]

/-- `Host` is the request's `Host` field, and no response has one. -/
theorem header_cond_host (v : Bytes) (m : Message) :
    (holds (.header hostKey v) .req m = true ↔ m.reqHost ≠ [] ∧ m.reqHost = v) ∧ holds (.header hostKey v) .res m = false := by
  have hk : canonKey (canonKey hostKey) = hostKey := by decide +kernel
  constructor
  · simp only [holds, Message.headerAll, headerAll, hk, beq_self_eq_true, if_true]
    cases h : m.reqHost <;> simp
  · simp [holds, Message.headerAll, headerAll, hk]

theorem cookie_cond_iff (n v : Bytes) (k : Kind) (m : Message) :
    holds (.cookie n v) k m = true ↔ ∃ c ∈ m.cookies k, c.1 = n ∧ (v = [] ∨ c.2 = v) :=
  any_name_value _ n v

/-- The port of the request URL — the explicit one, else 80 for `http`, 443 for `https` — is the
filter's; for responses too (after `repo-patches/C12-fix-port-filter-response.patch`; the unpatched
`ModifyResponse` returns an error when there is no explicit port and the default is not the filter's:
known finding `c12:port-filter-response-error`). -/
theorem port_cond_iff (p : Int) (k : Kind) (m : Message) :
    holds (.port p) k m = true ↔
      (match explicitPort m.host with
       | none => p = defaultPort m.scheme
       | some ps => atoi ps = some p) := by
  simp only [holds, portMatches]
  cases explicitPort m.host <;> simp

theorem port_cond_reads_the_request (p : Int) (k : Kind) (m : Message) : holds (.port p) k m = holds (.port p) .req m := rfl

/-! ## Non-vacuity (concrete witnesses; `decide +kernel` = evaluation by the kernel, a test, not a proof of the property) -/

def exMsg : Message :=
  { method := strBytes "POST", scheme := strBytes "https", host := strBytes "www.a.example", path := strBytes "/p1",
    rawQuery := strBytes "k1=v%31&k2", reqHost := strBytes "a.example", reqCL := 5, reqTE := none,
    reqHeader := [(strBytes "X-A", [strBytes "1", strBytes "2"])], reqCookies := [(strBytes "c1", strBytes "v1")],
    resCL := 0, resTE := some [strBytes "chunked"], resHeader := [(strBytes "X-B", [strBytes "1"])], resCookies := [] }

example : holds (.method (strBytes "post")) .res exMsg = true := by decide +kernel
example : holds (.url (strBytes "https") (strBytes "*.a.example") [] []) .req exMsg = true := by decide +kernel
example : holds (.url [] (strBytes "*.example") [] []) .req exMsg = false := by decide +kernel
example : holds (.query (strBytes "k1") (strBytes "v1")) .res exMsg = true := by decide +kernel
example : holds (.query (strBytes "k2") []) .req exMsg = true := by decide +kernel
example : holds (.header (strBytes "x-a") (strBytes "2")) .req exMsg = true := by decide +kernel
example : holds (.header (strBytes "x-a") (strBytes "2")) .res exMsg = false := by decide +kernel
example : holds (.header (strBytes "content-length") (strBytes "5")) .req exMsg = true := by decide +kernel
example : holds (.header (strBytes "transfer-encoding") (strBytes "chunked")) .res exMsg = true := by decide +kernel
example : holds (.cookie (strBytes "c1") []) .req exMsg = true ∧ holds (.cookie (strBytes "c1") []) .res exMsg = false := by decide +kernel
example : holds (.port 443) .res exMsg = true ∧ holds (.port 8080) .res exMsg = false ∧
    holds (.port 8080) .req { exMsg with host := strBytes "a.example:8080" } = true := by decide +kernel
/-- hypotheses of `filter_may_branch_differently_on_the_two_sides` are satisfiable: the path was rewritten between the two sides -/
example : holds (.url [] [] (strBytes "/p1") []) .req exMsg = true ∧ holds (.url [] [] (strBytes "/p1") []) .res { exMsg with path := strBytes "/new" } = false := by decide +kernel
/-- hypotheses of `matchHost_wildcard_label` are satisfiable; and a wildcard does not span two labels -/
example : matchHost (strBytes "www.a.example") (strBytes "*.a.example") = true ∧ matchHost (strBytes "x.y.a.example") (strBytes "*.a.example") = false := by decide +kernel
/-- a filter on the exchange above, both branches -/
example : specEvalM .req exMsg (.filter (.method (strBytes "post")) none (.leaf 1 Caps.both false false none) (some (.leaf 2 Caps.both false false none))) = ([1], []) := by decide +kernel
example : specEvalM .req exMsg (.filter (.method (strBytes "GET")) none (.leaf 1 Caps.both false false none) (some (.leaf 2 Caps.both false false none))) = ([2], []) := by decide +kernel

end Martian.Props.C12
