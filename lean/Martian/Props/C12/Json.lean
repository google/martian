import Martian.Lemmas.Config
import Martian.Lemmas.ConfigJson
/-!
C12 — from the JSON value to the tree: what `encoding/json` and the `*FromJSON` functions make of a
body (`Config.fromJSON`, `Model/ConfigJson.lean`), and the corner cases that decide acceptance and
meaning: repeated keys, case-folded keys, unknown members, `null`s, numbers as priorities, wrong types.
The tie to the real code is the `postj` op of the harness (mutated JSON values → real `parse.FromJSON`
and `martianhttp` handler, then traffic).
-/
namespace Martian.Props.C12
open Martian Martian.Config Martian.Go

/-- `fromJSON` is onto the trees (with numbers that fit `int64`): the plain JSON spelling `render n` of
a tree decodes to exactly that tree — every scope form, every nesting, every priority, every condition.
So every theorem about trees (`Props/C12.lean`) is a theorem about JSON bodies. -/
theorem fromJSON_render (n : Node) (h : fits n = true) : fromJSON (render n) = n := node_annot_render n h

/-- The whole pipeline on a plain JSON body: if the tree is acceptable, POSTing its JSON spelling makes
traffic behave as the depth-first reading of the tree; if not, the body is rejected and nothing changes. -/
theorem post_plain_json (s : Active) (n : Node) (h : fits n = true) (k : Kind) (msg : Msg) :
    (valid n = true → flatO (run (servePOSTJ s (render n)).1 k msg) = specEval k (msg k) n ∧ (servePOSTJ s (render n)).2 = .ok ()) ∧
    (valid n = false → (servePOSTJ s (render n)).1 = s ∧ ∃ e, (servePOSTJ s (render n)).2 = .error e) := by
  unfold servePOSTJ servePOST
  rw [fromJSON_render n h]
  constructor
  · intro hv
    obtain ⟨r, hr⟩ := okB_eq_true.mp ((compile_okB n).trans hv)
    rw [hr]
    exact ⟨run_spec hr k msg, rfl⟩
  · intro hv
    obtain ⟨e, he⟩ := okB_eq_false.mp ((compile_okB n).trans hv)
    rw [he]
    exact ⟨rfl, e, rfl⟩

/-- Reconfiguration by a JSON body is atomic whatever the body is. -/
theorem reconfig_atomic_json (s : Active) (j : JVal) :
    (servePOSTJ s j).1 = (match compile (fromJSON j) with | .ok r => r | .error _ => s) := by
  unfold servePOSTJ servePOST; cases compile (fromJSON j) <;> rfl

/-- Anything that is not a JSON object is rejected: `null` (a `null` child, a `null` "else", …),
numbers, strings, booleans, arrays. -/
theorem non_object_rejected (j : JVal) (h : ∀ kvs, j ≠ .obj kvs) : fromJSON j = .malformed := by
  cases j <;> simp_all [fromJSON, annot, DV.node]

/-- The same name twice: the last body counts. -/
theorem registry_same_name_last_wins (name : Bytes) (b1 b2 : DV) :
    nodeFromKvs [(name, b1), (name, b2)] = bodyNode name b2 := by
  simp [nodeFromKvs, lastValue, List.eraseDups_cons]

/-- Two different names: rejected, whatever they are (also when one of them is unknown). -/
theorem registry_two_names_rejected (a b : Bytes) (x y : DV) (h : a ≠ b) : nodeFromKvs [(a, x), (b, y)] = .malformed := by
  have : (b == a) = false := by simpa using fun e => h e.symm
  simp [nodeFromKvs, List.eraseDups_cons, this]

/-- Registry names are exact: nothing but the registered spelling is known (no case folding here). -/
theorem registry_name_exact (name : Bytes) (body : DV)
    (h : name ∉ ["fifo.Group", "priority.Group", "url.Filter", "header.Filter", "querystring.Filter", "method.Filter",
      "cookie.Filter", "verif.Probe", "port.Filter"].map strBytes) : bodyNode name body = .unknown := by
  simp only [List.map_cons, List.map_nil, List.mem_cons, List.not_mem_nil, or_false, not_or] at h
  obtain ⟨h1, h2, h3, h4, h5, h6, h7, h8, h9⟩ := h
  simp [bodyNode, h1, h2, h3, h4, h5, h6, h7, h8, h9]

/-- A member that selects no field is skipped, wherever it stands and whatever its value is. -/
theorem unknown_member_ignored {σ : Type} (fields : List Bytes) (set : σ → Nat → DV → Option σ) (zero : σ)
    (pre post : List (Bytes × DV)) (k : Bytes) (v : DV) (n1 n2 : Node) (h : fieldIdx fields k = none) :
    decStruct fields set zero (.obj (pre ++ (k, v) :: post) n1) = decStruct fields set zero (.obj (pre ++ post) n2) := by
  simp only [decStruct, decMembers_append]
  congr 1
  funext s
  simp [decMembers, h]

/-- `unknown_member_ignored` for one of the modelled modifiers, a fifo group. -/
theorem fifo_unknown_member_ignored (pre post : List (Bytes × DV)) (k : Bytes) (v : DV) (n1 n2 : Node)
    (h : fieldIdx fifoFields k = none) : fifoNode (.obj (pre ++ (k, v) :: post) n1) = fifoNode (.obj (pre ++ post) n2) := by
  unfold fifoNode
  rw [unknown_member_ignored fifoFields fifoSet {} pre post k v n1 n2 h]

/-- Two spellings that are not member names themselves select the same member iff they fold alike. -/
theorem folded_spellings_equivalent (fields : List Bytes) (k k' : Bytes) (h1 : k ∉ fields) (h2 : k' ∉ fields)
    (hf : foldName k = foldName k') : fieldIdx fields k = fieldIdx fields k' := by
  have e : ∀ x : Bytes, x ∉ fields → fields.findIdx? (· == x) = none := fun x hx =>
    List.findIdx?_eq_none_iff.mpr fun y hy => beq_false_of_ne fun e => hx (e ▸ hy)
  simp [fieldIdx, e k h1, e k' h2, hf]

/-- A member of the wrong JSON type makes the whole struct an error (whatever comes before or after). -/
theorem member_type_error_rejects {σ : Type} (fields : List Bytes) (set : σ → Nat → DV → Option σ) (zero : σ)
    (pre post : List (Bytes × DV)) (k : Bytes) (v : DV) (f : Nat) (n : Node) (hk : fieldIdx fields k = some f)
    (hv : ∀ s, set s f v = none) : decStruct fields set zero (.obj (pre ++ (k, v) :: post) n) = none := by
  simp only [decStruct, decMembers_append]
  cases decMembers fields set pre zero with
  | none => rfl
  | some s => simp [decMembers, hk, hv s]

/-- A body that is neither an object nor `null` is a type error; `null` leaves the zero struct. -/
theorem body_kinds {σ : Type} (fields : List Bytes) (set : σ → Nat → DV → Option σ) (zero : σ) (b : Bool) (n : NumLit) (s : Bytes) (xs : List DV) :
    decStruct fields set zero .null = some zero ∧ decStruct fields set zero (.bool b) = none ∧ decStruct fields set zero (.num n) = none ∧
    decStruct fields set zero (.str s) = none ∧ decStruct fields set zero (.arr xs) = none := by
  simp [decStruct]

/-- `{"fifo.Group": null}` is an (accepted) empty group; a filter with a `null` body has no modifier and is rejected. -/
theorem null_bodies (ps : List Bytes) (mk : FilterSt → Cond) :
    fifoNode .null = .fifo none false [] ∧ prioNode .null = .prio none [] ∧
    probeNode .null = .leaf 0 Caps.both false false none ∧ valid (filterNode ps mk .null) = false := by
  refine ⟨by simp [fifoNode, decStruct, scopeOfSl, Sl.nil], by simp [prioNode, decStruct, scopeOfSl, Sl.nil], ?_, ?_⟩
  · simp [probeNode, decStruct, scopeOfSl, Sl.nil, capsOfStr, Caps.both]; decide
  · simp [filterNode, decStruct, rawNode, valid]

/-- `port.Filter` has no else branch: an `"else"` member is just an unknown member. -/
theorem port_filter_else_ignored (pre post : List (Bytes × DV)) (v : DV) (n1 n2 : Node) :
    portNode (.obj (pre ++ (fElse, v) :: post) n1) = portNode (.obj (pre ++ post) n2) := by
  unfold portNode
  rw [unknown_member_ignored portFields portSet {} pre post fElse v n1 n2 (by decide +kernel)]

/-- A `port.Filter` body decodes to a filter on the port condition without else. -/
theorem port_filter_decodes (p : NumLit) (q : Int) (d : DV) (nd : Node) (hq : int64Of p = some q) :
    portNode (.obj [(fPort, .num p), (fModifier, d)] nd) = .filter (.port q) none d.node none := by
  have h : fieldIdx portFields fPort = some 2 ∧ fieldIdx portFields fModifier = some 0 := by decide +kernel
  simp [portNode, decStruct, decMembers, h, portSet, decInt, hq, scopeOfSl, Sl.nil, rawNode]

/-- Scalars: a later value replaces, `null` keeps. -/
theorem scalar_members (oldS s : Bytes) (oldB b : Bool) (oldI : Int) :
    decString oldS (.str s) = some s ∧ decString oldS .null = some oldS ∧
    decBool oldB (.bool b) = some b ∧ decBool oldB .null = some oldB ∧ decInt oldI .null = some oldI := by
  simp [decString, decBool, decInt]

/-- Slices: `null` makes the slice nil (a nil scope = every kind), `[]` makes it empty (= no kind). -/
theorem slice_null_and_empty {α : Type} (elem : α → DV → Option α) (z : α) (old : Sl α) :
    decSlice elem z old .null = some Sl.nil ∧ decSlice elem z old (.arr []) = some ⟨false, [], []⟩ := by
  simp [decSlice]

/-- A repeated `"scope"` decodes INTO the earlier one: `[null]` keeps the first element and hides the rest. -/
theorem scope_null_element_keeps_earlier (a : Bytes) (rest st : List Bytes) :
    decScope ⟨false, a :: rest, st⟩ (.arr [.null]) = some ⟨false, [a], rest ++ st⟩ := by
  simp [decScope, decSlice, decElems, decString]

/-- A longer array in a repeated `"scope"` brings the hidden elements back. -/
theorem scope_regrow_reveals_hidden (a b : Bytes) (st : List Bytes) :
    decScope ⟨false, [a], b :: st⟩ (.arr [.null, .null]) = some ⟨false, [a, b], st⟩ := by
  simp [decScope, decSlice, decElems, decString]

/-- Fresh string elements replace whatever was there. -/
theorem scope_strings_replace (old : Sl Bytes) (ss : List Bytes) (h : ss ≠ []) :
    ∃ st, decScope old (.arr (ss.map DV.str)) = some ⟨false, ss, st⟩ :=
  decScope_strings old ss

/-- A priority element decodes into the struct at its index: a missing member keeps what is there. -/
theorem prio_elem_inherits (p : Int) (d d' : Option DV) (x : DV) (n : NumLit) (q : Int) (nd : Node) (hq : int64Of n = some q) :
    decPrioElem ⟨p, d⟩ (.obj [(fModifier, x)] nd) = some ⟨p, some x⟩ ∧
    decPrioElem ⟨p, d'⟩ (.obj [(fPriority, .num n)] nd) = some ⟨q, d'⟩ ∧
    decPrioElem ⟨p, d⟩ (.obj [] nd) = some ⟨p, d⟩ ∧ decPrioElem ⟨p, d⟩ .null = some ⟨p, d⟩ := by
  simp [decPrioElem, decStruct, decMembers, idx_prioElem, prioElemSet, decInt, hq]

/-- A literal with a fraction or an exponent is not an `int64` (also `1.0`, `1e2`). -/
theorem priority_fraction_or_exponent_rejected (neg : Bool) (i : Nat) : int64Of ⟨neg, i, true⟩ = none := by
  simp [int64Of]

/-- An integer literal is accepted iff it fits 64 bits; its value is the obvious one (`-0` = 0). -/
theorem priority_integer_iff (neg : Bool) (i : Nat) (v : Int) :
    int64Of ⟨neg, i, false⟩ = some v ↔ v = (if neg then -(i : Int) else (i : Int)) ∧ minInt64 ≤ v ∧ v ≤ maxInt64 := by
  simp only [int64Of, Bool.false_eq_true, if_false, Option.ite_none_right_eq_some, Option.some.injEq]
  constructor
  · rintro ⟨h, rfl⟩; exact ⟨rfl, h⟩
  · rintro ⟨rfl, h⟩; exact ⟨h, rfl⟩

theorem decElems_elem_error {α : Type} (elem : α → DV → Option α) (z : α) (x : DV) (h : ∀ old, elem old x = none)
    (pre post : List DV) (mem : List α) : decElems elem z (pre ++ x :: post) mem = none := by
  induction pre generalizing mem <;> simp_all [decElems]

/-- One priority that is not an `int64` rejects the whole group, wherever the element stands. -/
theorem bad_priority_rejects_group (n : NumLit) (hn : int64Of n = none) (d : DV) (nd nn : Node) (pre post : List DV) :
    prioNode (.obj [(fModifiers, .arr (pre ++ .obj [(fPriority, .num n), (fModifier, d)] nd :: post))] nn) = .malformed := by
  have he : ∀ old, decPrioElem old (.obj [(fPriority, .num n), (fModifier, d)] nd) = none := by
    intro old; simp [decPrioElem, decStruct, decMembers, idx_prioElem, prioElemSet, decInt, hn]
  have hs : decSlice decPrioElem {} Sl.nil (.arr (pre ++ .obj [(fPriority, .num n), (fModifier, d)] nd :: post)) = none := by
    cases pre <;> simp [decSlice, decElems_elem_error decPrioElem {} _ he, decElems, he]
  simp [prioNode, decStruct, decMembers, idx_prio, prioSet, hs]

/-- A `null` (or any non-object) child rejects the group as a whole. -/
theorem null_child_rejects_group (pre post : List DV) (x : DV) (hx : x.node = .malformed) (nn : Node) :
    valid (fifoNode (.obj [(fModifiers, .arr (pre ++ x :: post))] nn)) = false := by
  obtain ⟨st, hst⟩ := decSlice_raw_arr .null Sl.nil (pre ++ x :: post)
  simp [fifoNode, decStruct, decMembers, idx_fifo, fifoSet, hst, valid, validList_eq_all, hx]

/-! ## Non-vacuity (concrete bodies; `decide +kernel` = evaluation by the kernel, a test) -/

def jleaf (l : Nat) : JVal := render (.leaf l Caps.both false false none)
def jstrs (l : List String) : JVal := .arr (l.map fun s => .str (strBytes s))

/-- what a body does to a request / a response when POSTed to a fresh handler (`none` = rejected) -/
def readRun (j : JVal) (k : Kind) : Option SOutcome :=
  match compile (fromJSON j) with
  | .ok r => some (flatO (run r k (fun _ _ => false)))
  | .error _ => none
def readErr (j : JVal) : Option PErr :=
  match compile (fromJSON j) with
  | .ok _ => none
  | .error e => some e

/-- `{"fifo.Group":{"scope":["request","response"],"scope":[null],"MODIFIERS":[L1,L2],"comment":5,"aggregateErrorſ":true}}`:
request only (the second scope keeps `"request"`), both leaves, folded and unknown members -/
def exBody : JVal :=
  .obj [(strBytes "fifo.Group", .obj [(strBytes "scope", jstrs ["request", "response"]), (strBytes "scope", .arr [.null]),
    (strBytes "MODIFIERS", .arr [jleaf 1, jleaf 2]), (strBytes "comment", .num ⟨false, 5, false⟩),
    ([97, 103, 103, 114, 101, 103, 97, 116, 101, 69, 114, 114, 111, 114, 0xC5, 0xBF], .bool true)])]

example : readRun exBody .req = some ([1, 2], []) ∧ readRun exBody .res = some ([], []) := by decide +kernel
example : fits (.prio (some [.request, .other]) [(-5, .leaf 1 Caps.both true false none), (maxInt64, .unknown)]) = true := by decide +kernel
/-- two names / a capitalised name / `null` / a `null` body -/
example : readErr (.obj [(strBytes "fifo.Group", .obj []), (strBytes "verif.Probe", .obj [])]) = some .malformed := by decide +kernel
example : readErr (.obj [(strBytes "Fifo.Group", .obj [])]) = some .unknownModifier := by decide +kernel
example : readErr .null = some .malformed ∧ readRun (.obj [(strBytes "fifo.Group", .null)]) .req = some ([], []) := by decide +kernel
/-- priority group: the second "modifiers" decodes into the first: (5,L1),(1,L2) then [{"modifier":L3},{"priority":9}] = (5,L3),(9,L2) -/
example : readRun (.obj [(strBytes "priority.Group", .obj [
      (strBytes "modifiers", .arr [.obj [(strBytes "priority", .num ⟨false, 5, false⟩), (strBytes "modifier", jleaf 1)],
                                   .obj [(strBytes "priority", .num ⟨false, 1, false⟩), (strBytes "modifier", jleaf 2)]]),
      (strBytes "modifiers", .arr [.obj [(strBytes "modifier", jleaf 3)], .obj [(strBytes "priority", .num ⟨false, 9, false⟩)]])])]) .req
    = some ([2, 3], []) := by decide +kernel
/-- priorities: `-0`, `2^63 - 1`, `2^63`, `1e2` -/
example : int64Of ⟨true, 0, false⟩ = some 0 ∧ int64Of ⟨false, 9223372036854775807, false⟩ = some maxInt64 ∧
    int64Of ⟨false, 9223372036854775808, false⟩ = none ∧ int64Of ⟨false, 1, true⟩ = none := by decide +kernel
/-- hypotheses of `folded_spellings_equivalent` are satisfiable: `SCOPE` and `ſcope` -/
example : strBytes "SCOPE" ∉ fifoFields ∧ ([0xC5, 0xBF] ++ strBytes "cope") ∉ fifoFields ∧
    foldName (strBytes "SCOPE") = foldName ([0xC5, 0xBF] ++ strBytes "cope") ∧ fieldIdx fifoFields (strBytes "SCOPE") = some 0 := by decide +kernel

end Martian.Props.C12
