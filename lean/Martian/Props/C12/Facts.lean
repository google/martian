import Martian.Model.ConfigJson
import Martian.Generated.Config
/-!
C12 — regenerated facts (from `/repo`'s source on every run, `go/ast`; evaluation of finite tables) that
the JSON layer and the matchers of the model rest on. (`facts_servePOST_*`, `facts_priority_insert_test`
are in `Props/C12.lean`.)
-/
namespace Martian.Props.C12
open Martian Martian.Config

/-- The JSON members (tag, Go type) of the structs the `*FromJSON` functions decode into. -/
def expectedJsonStructs : List (String × List (String × String)) :=
  [("fifo.groupJSON", [("aggregateErrors", "bool"), ("modifiers", "[]json.RawMessage"), ("scope", "[]parse.ModifierType")]),
   ("priority.groupJSON", [("modifiers", "[]modifierJSON"), ("scope", "[]parse.ModifierType")]),
   ("priority.modifierJSON", [("modifier", "json.RawMessage"), ("priority", "int64")]),
   ("martianurl.filterJSON", [("else", "json.RawMessage"), ("host", "string"), ("modifier", "json.RawMessage"), ("path", "string"),
      ("query", "string"), ("scheme", "string"), ("scope", "[]parse.ModifierType")]),
   ("header.filterJSON", [("else", "json.RawMessage"), ("modifier", "json.RawMessage"), ("name", "string"), ("scope", "[]parse.ModifierType"), ("value", "string")]),
   ("querystring.filterJSON", [("else", "json.RawMessage"), ("modifier", "json.RawMessage"), ("name", "string"), ("scope", "[]parse.ModifierType"), ("value", "string")]),
   ("method.filterJSON", [("else", "json.RawMessage"), ("method", "string"), ("modifier", "json.RawMessage"), ("scope", "[]parse.ModifierType")]),
   ("cookie.filterJSON", [("else", "json.RawMessage"), ("modifier", "json.RawMessage"), ("name", "string"), ("scope", "[]parse.ModifierType"), ("value", "string")])]

/-- Member names and kinds are those the model decodes: `[]json.RawMessage` (fifo children, verbatim),
`[]modifierJSON` (priority children, element-wise into structs), `int64` priority, string parameters,
`json.RawMessage` modifier/else, `[]parse.ModifierType` scope, `bool` aggregateErrors. -/
theorem facts_json_members : Generated.Config.jsonStructs = expectedJsonStructs := rfl

/-- the tags of a struct of the table, as bytes -/
def tagsOf (name : String) : List Bytes :=
  match Generated.Config.jsonStructs.find? (·.1 == name) with
  | some e => e.2.map fun m => strBytes m.1
  | none => []

def sameMembers (a b : List Bytes) : Bool := a.length == b.length && a.all b.contains && b.all a.contains

/-- The model's member lists are exactly the structs' JSON tags. -/
theorem facts_json_members_match_model :
    sameMembers fifoFields (tagsOf "fifo.groupJSON") = true ∧ sameMembers prioFields (tagsOf "priority.groupJSON") = true ∧
    sameMembers prioElemFields (tagsOf "priority.modifierJSON") = true ∧
    sameMembers ([fModifier, fElse, fScope] ++ [fScheme, fHost, fPath, fQuery]) (tagsOf "martianurl.filterJSON") = true ∧
    sameMembers ([fModifier, fElse, fScope] ++ [fName, fValue]) (tagsOf "header.filterJSON") = true ∧
    sameMembers ([fModifier, fElse, fScope] ++ [fName, fValue]) (tagsOf "querystring.filterJSON") = true ∧
    sameMembers ([fModifier, fElse, fScope] ++ [fMethod]) (tagsOf "method.filterJSON") = true ∧
    sameMembers ([fModifier, fElse, fScope] ++ [fName, fValue]) (tagsOf "cookie.filterJSON") = true := by
  decide +kernel

/-- What each matcher's `MatchResponse` decides on: cookies and headers of the response itself; method,
URL and query of the request it answers (`Config.holds` reads exactly these). -/
theorem facts_matchers_read : Generated.Config.matchResponseReads =
    [("cookie", ["res.Cookies"]), ("header", ["proxyutil.ResponseHeader"]), ("method", ["res.Request.Method"]),
     ("querystring", ["res.Request"]), ("url", ["res.Request.URL"])] := rfl

/-- The library calls the conditions' meaning rests on: `strings.EqualFold` (method), `URL.Query()` (query
string). (Header names are canonicalised twice, at filter construction and in `proxyutil.Header.All`;
either suffices, so neither is asserted here — the `cond` ops cover it.) -/
theorem facts_matcher_library_calls : Generated.Config.methodMatchCalls = ["strings.EqualFold"] ∧
    Generated.Config.queryMatchCalls = ["req.URL.Query"] := ⟨rfl, rfl⟩

end Martian.Props.C12
