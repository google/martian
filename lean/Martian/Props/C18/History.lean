import Martian.Lemmas.Shape
/-!
C18 — what an accepted configuration installs does not depend on what was posted before, and which
throttle is active at an offset does not depend on the order the throttles were posted in.
-/
namespace Martian.Props.C18
open Martian Martian.Go Martian.Shape

/-- Whether a configuration is accepted, and what it installs (shapes with their posted counts,
default bandwidths, latency), depends on the posted configuration only — not on the listener it is
posted to. -/
theorem configure_independent_of_listener (la lb : Listener) (cfg : RawConfig) :
    (∀ a, configure la cfg = .ok a → ∃ b, configure lb cfg = .ok b ∧ b.shapes = a.shapes ∧ b.up = a.up ∧
      b.down = a.down ∧ b.latency = a.latency) ∧
    (∀ e, configure la cfg = .error e → configure lb cfg = .error e) := by
  rw [configure_eq la, configure_eq lb]
  cases configure {} cfg with
  | error e => exact ⟨nofun, fun _ h => h⟩
  | ok l0 => exact ⟨fun a h => by cases h; exact ⟨_, rfl, rfl, rfl, rfl, rfl⟩, nofun⟩

/-- **An accepted post installs exactly its own compilation after ANY history.**  Take any history
(configurations — also this very one —, accepts, Writes that consumed counted actions, in any
interleaving) and post `cfg`.  If it is accepted, the active shapes are the ones `cfg` compiles to
on an empty listener: every counted halt / close action has its posted count again, and a
connection accepted next sees exactly these shapes. -/
theorem accepted_post_resets_counts_after_any_history (pre : List Step) (cfg : RawConfig) (l1 : Listener)
    (h1 : configure (World.run {} pre).l cfg = .ok l1) :
    ∃ l0, configure {} cfg = .ok l0 ∧ l1.shapes = l0.shapes ∧
      ((World.run {} pre).step (.configure cfg)).l = l1 ∧
      ∀ r, validShape (accept l1).1 (accept l1).2 r = mapGet r l0.shapes := by
  obtain ⟨l0, h0, hs, _⟩ := (configure_independent_of_listener (World.run {} pre).l {} cfg).1 l1 h1
  refine ⟨l0, h0, hs.symm, configureSt_ok h1, fun r => ?_⟩
  obtain ⟨hlm, hck⟩ := configure_stamp h1
  unfold validShape accept
  simp only [show l1.lastMod < l1.clock by omega, if_true, hs]

/-- Whether a posted configuration is accepted does not depend on the history it is posted after; in
particular posting the configuration that is already active is not a special case. -/
theorem acceptance_independent_of_history (pre : List Step) (cfg : RawConfig) :
    (∃ l1, configure (World.run {} pre).l cfg = .ok l1) ↔ (∃ l0, configure {} cfg = .ok l0) := by
  constructor
  · rintro ⟨l1, h⟩
    obtain ⟨b, hb, _⟩ := (configure_independent_of_listener _ {} cfg).1 l1 h
    exact ⟨b, hb⟩
  · rintro ⟨l0, h⟩
    obtain ⟨b, hb, _⟩ := (configure_independent_of_listener {} (World.run {} pre).l cfg).1 l0 h
    exact ⟨b, hb⟩

/-! ### Which throttle is active does not depend on the posted order -/

/-- On a list of throttles sorted by start and without overlap (every accepted shape:
`accepted_shape_sorted_nonoverlapping`) the binary search of `GetCurrentThrottle` returns the
bandwidth of THE interval that contains the offset, and nothing if there is none. -/
theorem current_throttle_is_containing_interval (ts : List Throttle) (hs : SortedBy Throttle.start ts)
    (hn : NoOverlap ts) (x bw : Int) :
    currentThrottle ts x = some bw ↔
      ∃ t ∈ ts, t.start ≤ x ∧ (x < t.stop ∨ t.stop = -1) ∧ t.bw = bw := by
  unfold currentThrottle
  have sp := searchGo_bound _ _ (mono_start ts hs x)
  generalize searchGo (fun i => decide (startAt ts i > x)) 0 ts.length = ind at sp
  obtain ⟨hle, hlo, hhi⟩ := sp
  have lo : ∀ m (hm : m < ind), (ts[m]'(by omega)).start ≤ x := by
    intro m hm
    have := hlo m hm
    rw [decide_eq_false_iff_not, startAt_eq (by omega)] at this
    omega
  have hi : ∀ m, ind ≤ m → (hm : m < ts.length) → ts[m].start > x := by
    intro m h1 hm
    have := hhi m h1 hm
    rwa [decide_eq_true_eq, startAt_eq hm] at this
  rw [throttleAt_eq_some]
  constructor
  · rintro ⟨t, h0, ht, hbw, hc⟩
    obtain ⟨h1, rfl⟩ := List.getElem_of_getElem? ht
    exact ⟨_, List.getElem_mem _, lo (ind - 1) (by omega), by omega, hbw⟩
  · rintro ⟨t, ht, h1, h2, h3⟩
    obtain ⟨j, hj, rfl⟩ := List.mem_iff_getElem.1 ht
    -- `j` is before the boundary, and by non-overlap nothing between `j` and the boundary starts at or before `x`
    have hjind : j < ind := Nat.lt_of_not_le fun h => by have := hi j h hj; omega
    have hjeq : j = ind - 1 := by
      rcases Nat.lt_or_ge j (ind - 1) with hlt | hge
      · have no := noOverlap_get ts hn j (by omega)
        have := lo (j + 1) (by omega)
        omega
      · omega
    refine ⟨ts[j], by omega, by rw [← hjeq]; exact List.getElem?_eq_getElem hj, h3, ?_⟩
    by_cases hl : ind = ts.length
    · omega
    · have no := noOverlap_get ts hn j (by omega)
      omega

/-- **The active throttle is independent of the order the throttles were posted in.**  For every
accepted shape: `GetCurrentThrottle` at offset `x` (on the sorted list the shape keeps) answers
`bw` exactly if one of the POSTED throttles — membership in the posted list, wherever it stands
in it — covers `x` with bandwidth `bw`. -/
theorem current_throttle_independent_of_posted_order (si : Nat) (rs : RawShape) (r : Nat) (sh : Shape)
    (h : parseShape si (some rs) = .ok (r, sh)) (x bw : Int) :
    ∃ posted, parseThrottles si 0 rs.throttles = .ok posted ∧
      (currentThrottle sh.throttles x = some bw ↔
        ∃ t ∈ posted, t.start ≤ x ∧ (x < t.stop ∨ t.stop = -1) ∧ t.bw = bw) := by
  obtain ⟨_, ts, _, _, _, hrs, src⟩ := parseShape_ok h
  cases hrs
  refine ⟨ts, src.posted, ?_⟩
  rw [src.throttles,
    current_throttle_is_containing_interval _ (stableSort_sorted _ _) (actionsFromThrottles_noOverlap _ _ _ src.bwActs)]
  exact ⟨fun ⟨t, ht', rest⟩ => ⟨t, (mem_stableSort _ t ts).1 ht', rest⟩,
    fun ⟨t, ht', rest⟩ => ⟨t, (mem_stableSort _ t ts).2 ht', rest⟩⟩

end Martian.Props.C18
