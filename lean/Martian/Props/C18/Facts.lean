import Martian.Generated.Shape
import Martian.Generated.Proxy
import Martian.Model.Shape
/-!
C18 — structural facts of `trafficshape/*.go` and of `Proxy.handle`, regenerated from the source on
every check (`go/cmd/vextract/facts_c18.go` → `Generated/Shape.lean`; the statement list of
`Proxy.handle` in the last fact: `facts_proxy.go` → `Generated/Proxy.lean`), that
`Model/Shape.lean` transcribes.  Receiver and variable qualifiers are stripped; logging and temporaries are dropped.
-/
namespace Martian.Props.C18
open Martian
open Martian.Generated.Shape

def kinds (l : List (String × String)) : List String := l.map (·.1)

def firstIdx (x : String) (l : List String) : Nat := l.findIdx (· == x)

/-- The events strictly between the first `lock` and the first `unlock` after it. -/
def critical (l : List (String × String)) : List (String × String) :=
  let rest := l.drop (firstIdx "lock" (kinds l) + 1)
  rest.take (firstIdx "unlock" (kinds rest))

/-- The events before the first `lock`. -/
def beforeLock (l : List (String × String)) : List (String × String) := l.take (firstIdx "lock" (kinds l))

/-- `DefaultBitrate / 8` is the model's default bandwidth. -/
theorem facts_default_bandwidth : defaultBitrate / 8 = Shape.defaultBw := by decide +kernel

/-- `ServeHTTP` validates completely before it touches the listener: up to `Shapes.Lock()` there are
only the body read, the JSON decoding, `parseShapes` and rejections (in this order), every
rejection is a 400 and none comes after the lock.  (`configure` returns `.error` with the state
untouched.) -/
theorem facts_serveHTTP_validates_before_lock :
    (kinds (beforeLock serveHTTP)).all
      (fun e => e == "read-body" || e == "decode" || e == "parse" || e == "return" || e == "reject") = true ∧
    firstIdx "read-body" (kinds (beforeLock serveHTTP)) < firstIdx "decode" (kinds (beforeLock serveHTTP)) ∧
    firstIdx "decode" (kinds (beforeLock serveHTTP)) < firstIdx "parse" (kinds (beforeLock serveHTTP)) ∧
    firstIdx "parse" (kinds (beforeLock serveHTTP)) < (beforeLock serveHTTP).length ∧
    (serveHTTP.filter (·.1 == "reject")).all (·.2 == "400") = true ∧
    (kinds (serveHTTP.drop (firstIdx "lock" (kinds serveHTTP)))).contains "reject" = false := by decide +kernel

/-- Everything the request changes is changed inside one critical section of the shape map — the
defaults, the swap of the map, its entries — and after `Unlock` only the 200 follows.
(`configure` is one atomic step.) -/
theorem facts_serveHTTP_swap_under_lock :
    firstIdx "lock" (kinds serveHTTP) < firstIdx "unlock" (kinds serveHTTP) ∧
    (kinds (critical serveHTTP)).contains "swap" = true ∧
    (kinds (critical serveHTTP)).contains "fill" = true ∧
    serveHTTP.drop (firstIdx "unlock" (kinds serveHTTP) + 1) = [("respond", "http.StatusOK")] ∧
    ((serveHTTP.filter (fun e => e.1 == "write" || e.1 == "swap" || e.1 == "fill" || e.1 == "stamp")).length =
      ((critical serveHTTP).filter (fun e => e.1 == "write" || e.1 == "swap" || e.1 == "fill" || e.1 == "stamp")).length) := by
  decide +kernel

/-- **The time stamp is the moment of the swap**: every assignment of `LastModifiedTime` happens
inside the critical section (previous fact) and is a fresh `time.Now()`, and one of them follows
the swap and the filling of the map.  (`configure` sets `lastMod := clock` in the step that swaps
the shapes; a connection accepted while the request body was still being uploaded is older.) -/
theorem facts_serveHTTP_stamp_in_swap :
    (serveHTTP.filter (·.1 == "stamp")).all (·.2 == "time.Now()") = true ∧
    firstIdx "swap" (kinds (critical serveHTTP)) < firstIdx "fill" (kinds (critical serveHTTP)) ∧
    (kinds ((critical serveHTTP).drop (firstIdx "fill" (kinds (critical serveHTTP))))).contains "stamp" = true := by
  decide +kernel

/-- `parseShapes` in the order `Shape.parseShape` transcribes: per shape — null, empty pattern,
pattern that does not compile, negative bandwidth; per throttle — null, bandwidth `<= 0`, split on
"-" into exactly two, both halves `ParseInt(_, 10, 64)`, `end < start`, `start == end`; per halt —
null, negative duration or offset, zero count; per close action — null, negative offset, zero
count; stable sort of the throttles, `getActionsFromThrottles` (overlap), stable sort of the
actions; the global buckets are started only after every shape has been validated. -/
theorem facts_parseShapes_order :
    parseShapes =
      ["for Shapes {",
       "fail nilshape if shape == nil",
       "fail noregex if URLRegex == \"\"",
       "fail badregex if _, err = Compile(URLRegex); err != nil",
       "fail negmax if MaxBandwidth < 0",
       "for Throttles {",
       "fail nilthrottle if throttle == nil",
       "fail badbw if Bandwidth <= 0",
       "split \"-\"",
       "fail badbytes if len(sl) != 2",
       "parse-int 10 64",
       "fail badbytes if err != nil",
       "parse-int 10 64",
       "fail badbytes if err != nil",
       "fail badbytes if ByteEnd < ByteStart",
       "fail badbytes if ByteStart == ByteEnd",
       "}",
       "for Halts {",
       "fail nilhalt if value == nil",
       "fail badhalt if Duration < 0 || Byte < 0",
       "fail zerohalt if Count == 0",
       "}",
       "for CloseConnections {",
       "fail nilclose if value == nil",
       "fail badclose if Byte < 0",
       "fail zeroclose if Count == 0",
       "}",
       "stable-sort Throttles",
       "actions-from-throttles",
       "fail overlap if err != nil",
       "stable-sort Actions",
       "}",
       "for Shapes {",
       "new-bucket",
       "}"] := rfl

/-- The overlap rule of `getActionsFromThrottles` (`Shape.actionsFromThrottles`): the last throttle
may be open-ended; any other must end at or before the start of its successor and may not be
open-ended; adjacent throttles share one bandwidth change. -/
theorem facts_actionsFromThrottles_rule :
    actionsFromThrottles =
      ["if index == lenThr-1", "if end == -1", "break",
       "if end > throttles[index+1].ByteStart || end == -1", "fail",
       "if end == throttles[index+1].ByteStart"] := rfl

/-- One round of the loop of `Conn.Write` (`Shape.stepLoop`): amount up to the next action, write
through both buckets, account the bytes, **advance the buffer**, and only then look at the
pending action. -/
theorem facts_write_round_order :
    writeRound =
      ["amount = int64(len(b))", "amount-till-next-action", "write-through-buckets", "return-on-error",
       "offset += n", "total += n", "b = b[max:]", "action-check ActionNext && ByteOffset >= ByteOffset"] := rfl

/-- Inside the closures of the two buckets (the connection's own and the one shared by the shape)
exactly one slice of the buffer is handed to the wrapped connection, and the loop advances the
buffer by that same bound: what is skipped is what was written.  (`Shape.stepLoop` delivers
`b.take m` and continues with `b.drop m` for one `m = min (cap + 1) amount`, where the adversary's
`cap + 1` stands for the smaller of the two buckets' remaining capacities — any value ≥ 1, so both
capacities are quantified independently.) -/
theorem facts_write_chunk_is_what_is_skipped :
    writeChunk = ["write b[:max]", "advance b[max:]"] := rfl

/-- The action block: validity is re-checked first; if the shapes were replaced, shaping is switched
off and the (already advanced) rest goes through the default buckets; otherwise count check,
decrement, the action itself, and the next action is the next *index* with a non-zero count. -/
theorem facts_write_action_block :
    writeAction =
      ["CheckExistenceAndValidity", "Shaping = false", "WriteDefaultBuckets b", "getCount", "decrementCount",
       "Sleep", "force-close", "SetCapacity", "GetNextActionFromIndex ind + 1"] := rfl

/-- A shaped response that reaches `Conn.ReadFrom` (the body of a response larger than the proxy's
write buffer does) is routed through `Write`. -/
theorem facts_readFrom_shaped_goes_through_write :
    readFrom = ["if Context != nil && Shaping", "call io.Copy", "return"] := rfl

/-- `Proxy.handle` resets the shaping context for every response before it matches the URL
(`Shape.setContext` returns the empty context unless a pattern matches and the range start is
usable), and a matching response starts at its range start with the length of the dumped head. -/
theorem facts_handle_context_per_response :
    handleContext =
      ["Context = &Context{}", "for LocalBuckets {", "if match, _ := MatchString(urlregex, String()); match",
       "if rangeStart := GetRangeStart(res); rangeStart > -1", "if ThrottleNow", "break", "}"] ∧
    (["Shaping: true", "ByteOffset: rangeStart", "RangeStart: rangeStart", "HeaderLen: int64(len(dump))",
      "HeaderBytesWritten: 0", "NextActionInfo = GetNextActionFromByte(rangeStart)",
      "ThrottleContext = GetCurrentThrottle(rangeStart)", "SetCapacity Bandwidth"].all handleContextSet.contains) = true :=
  ⟨rfl, by decide +kernel⟩

/-- In `Proxy.handle` the decision to close the connection (`res.Close = true`, which makes
`res.Write` add `Connection: close` to the head) is taken BEFORE the shaping context is built, so
the `HeaderLen` measured there by `DumpResponse` is the length of the head that is really written,
and both come before the response is written.  (`Shape.setContext` takes the head length of the
response as it goes out; the end-to-end tier compares it with the head the client received.) -/
theorem facts_handle_close_decision_before_context :
    firstIdx "if req.Close || res.Close || p.Closing() {" Martian.Generated.Proxy.handle <
      firstIdx "shaping-context-block" Martian.Generated.Proxy.handle ∧
    firstIdx "shaping-context-block" Martian.Generated.Proxy.handle < firstIdx "call res.Write" Martian.Generated.Proxy.handle ∧
    firstIdx "call res.Write" Martian.Generated.Proxy.handle < Martian.Generated.Proxy.handle.length ∧
    (Martian.Generated.Proxy.handle.filter (· == "shaping-context-block")).length = 1 ∧
    (Martian.Generated.Proxy.handle.filter (· == "if req.Close || res.Close || p.Closing() {")).length = 1 := by
  decide +kernel

end Martian.Props.C18
