import Martian.Lemmas.ShapeSim
/-!
C18 — interleaved histories.  A history is any list of steps of the world `World` (one listener,
its connections): configuration swaps, accepts, per-response context set-up, entries of
`Conn.Write` and single rounds of any connection's write loop, in any order.  Between two rounds
of one connection everything else may happen: that is where the code holds no lock of the shape
map.  (A configuration request whose body is still being uploaded has no step of its own: parse,
validate, swap and time stamp happen at its `configure` step — facts `facts_serveHTTP_*`.)
-/
namespace Martian.Props.C18
open Martian Martian.Go Martian.Shape

/-- **Bytes are never altered, in any interleaving.**  Whatever configuration requests, accepts
and rounds of other connections happen between the rounds of a connection's `Write` calls, and
whatever the buckets do: what the client has received is a prefix of what was written, and as long
as no call of the connection was cut, received ++ still pending = written. -/
theorem interleaved_delivered_prefix (steps : List Step) :
    ∀ ic ∈ (World.run {} steps).conns,
      ic.delivered <+: ic.written ∧ (ic.dead = false → ic.delivered ++ ic.rest = ic.written) := by
  intro ic hic
  have h := (run_worldOK steps {} worldOK_init).conns ic hic
  exact ⟨h.pre, h.all⟩

/-- **An accepted configuration applies only to connections accepted afterwards — for interleaved
histories.**  Take any history `pre`, a configuration that is accepted in the state it leads to,
and any continuation `post` (further rounds of Writes that were in progress, new Writes, accepts,
more configurations).  Every connection that existed when the configuration was swapped in — also
one accepted while that request was still being uploaded, also one in the middle of a `Write` —
performs no action at all from then on (its event list never grows), and no shape is valid for it
any more, so its rounds leave the listener (the action counts of the new shapes) untouched
(`RoundOK.stale`). -/
theorem interleaved_accepted_applies_only_to_later_conns (pre post : List Step) (cfg : RawConfig) (l' : Listener)
    (h : configure (World.run {} pre).l cfg = .ok l') (i : Nat) (ic : IConn)
    (hi : (World.run {} pre).conns[i]? = some ic) :
    ∃ ic', (World.run ((World.run {} pre).step (.configure cfg)) post).conns[i]? = some ic' ∧
      ic'.events = ic.events ∧ ic'.c.established = ic.c.established ∧
      ∀ r, validShape (World.run ((World.run {} pre).step (.configure cfg)) post).l ic'.c r = none := by
  obtain ⟨ic', h1, h2, h3, _, h5⟩ := oldAt_after_configure pre post cfg l' h i ic hi
  exact ⟨ic', h1, h3, h2, validShape_old _ _ (h2 ▸ h5)⟩

/-- A connection that existed when a configuration was swapped in is not cut from then on: it is dead
after any continuation exactly if it was when the configuration was accepted.  Together with
`interleaved_delivered_prefix`: every byte written to a connection that is older than the active
configuration, and was not cut before it, reaches the client, unchanged. -/
theorem interleaved_old_conn_never_cut (pre post : List Step) (cfg : RawConfig) (l' : Listener)
    (h : configure (World.run {} pre).l cfg = .ok l') (i : Nat) (ic : IConn)
    (hi : (World.run {} pre).conns[i]? = some ic) :
    ∃ ic', (World.run ((World.run {} pre).step (.configure cfg)) post).conns[i]? = some ic' ∧
      ic'.dead = ic.dead := by
  obtain ⟨ic', h1, _, _, h4, _⟩ := oldAt_after_configure pre post cfg l' h i ic hi
  exact ⟨ic', h1, h4⟩

/-- **No interleaving makes the write loop panic.**  In every history — configurations swapped in
between two rounds of a `Write`, other connections consuming the counts of the shared actions,
patterns disappearing — no round ever takes a slice with a negative bound or indexes the action
list out of range (`actions[ind]` is only read after `CheckExistenceAndValidity`, and for a
connection the shapes are still valid for, the recorded index and offset still fit the list). -/
theorem interleaved_rounds_never_panic (steps : List Step) :
    ∀ ic ∈ (World.run {} steps).conns, ic.panicked = false := by
  intro ic hic
  exact ((run_worldOK steps {} worldOK_init).conns ic hic).nopanic

/-- A round of a connection that is older than the current configuration performs no action and
does not touch the listener (in particular not the counts of the new shapes). -/
theorem old_conn_round_inert (cap : Nat) (l : Listener) (c : Conn) (pd : Pending)
    (h : c.established ≤ l.lastMod) :
    (roundStep cap l c pd).1 = l ∧ (roundStep cap l c pd).2.2.1.evs = pd.evs :=
  let stale := (roundStep_ok rfl).stale (validShape_old l c h)
  ⟨stale.1, stale.2.1⟩

/-- **The rounds machine is `Conn.Write`.**  A `Write` of a shaped response as the sequential
theorems describe it (`shapedWrite`: `close_at_k`, `no_close_delivers_all`, …) and the same call
executed by the machine of the interleaved histories with nothing in between (`beginWrite`, then
`runRounds` against the listener) deliver the same bytes, perform the same actions, return the same
status and leave the same offset, pending action and shaping flag in the connection's context —
for every listener, connection, adversary and byte string. -/
theorem uninterrupted_rounds_are_shapedWrite (caps : Nat → Nat) (l : Listener) (c : Conn) (b : Bytes) (r : Nat)
    (hsh : c.ctx.shaping = true) (hreg : c.ctx.regex = some r) (acts : List Action)
    (hacts : acts = (match validShape l c r with | some sh => sh.actions | none => [])) :
    let w := shapedWrite (validShape l c r).isSome caps c.ctx acts b
    let m := runRounds caps (fuelFor (b.drop (headPart c.ctx b)) acts) l (beginWrite c b).1 (beginWrite c b).2
    m.2.2.1.delivered = w.delivered ∧ m.2.2.1.evs = w.evs ∧ m.2.2.2 = w.status ∧
    m.2.1.ctx.off = w.ctx.off ∧ m.2.1.ctx.next = w.ctx.next ∧ m.2.1.ctx.shaping = w.ctx.shaping := by
  simp only [shapedWrite_eq]
  rw [beginWrite_shaped c b hsh]
  apply rounds_simulate
  exact ⟨hsh, hreg, rfl, rfl, hacts⟩

/-- Why the time stamp must be taken when the map is swapped (fact `facts_serveHTTP_stamp_in_swap`):
a variant that stamps the configuration with the time the request was *received* makes a
connection accepted during the upload count as newer than the configuration — the new shape is
valid for it.  Concrete witness (`decide`): request received at tick 1, connection accepted at
tick 2, swap afterwards. -/
theorem stamp_at_request_start_counterexample :
    let received := ({} : Listener).clock
    let l1 : Listener := { ({} : Listener) with clock := received + 1 }   -- reading the time
    let c := (accept l1).2                                                  -- accepted during the upload
    let cfg : RawConfig := ⟨none, [some ⟨.valid 0, 0, [], [], [some ⟨3, -1⟩]⟩]⟩
    -- the code: stamped at the swap, the new shape is not valid for `c`
    (configure (accept l1).1 cfg).toOption.map (fun l2 => (validShape l2 c 0).isSome) = some false ∧
    -- the variant: stamped with the time of receipt, it is
    (configure (accept l1).1 cfg).toOption.map
      (fun l2 => (validShape { l2 with lastMod := received } c 0).isSome) = some true := by
  decide +kernel

/-! ### Non-vacuity: a concrete interleaved history (test, by `decide`) -/

/-- Head 2 bytes, halt at 3, close at 5; the connection was accepted under this configuration and
`Proxy.handle` has set its context (next action: index 0 at offset 3). -/
def exCfg1 : RawConfig := ⟨none, [some ⟨.valid 0, 0, [], [some ⟨3, 1, -1⟩], [some ⟨5, -1⟩]⟩]⟩
def exCfg2 : RawConfig := ⟨none, [some ⟨.valid 0, 0, [], [], [some ⟨4, -1⟩]⟩]⟩
def exWorld : World :=
  { l := (accept (configureSt {} exCfg1).1).1,
    conns := [{ c := { (accept (configureSt {} exCfg1).1).2 with
                        ctx := { shaping := true, regex := some 0, off := 0, headerLen := 2, next := some (0, 3) } } }] }
def exHistory (mid : List Step) : List Step :=
  [.begin 0 [1, 2, 10, 11, 12, 13, 14, 15, 16, 17], .round 0 1000] ++ mid ++
  [.round 0 1000, .round 0 1000, .round 0 1000]

/-- Nothing in between: the halt at 3, then the close at 5 cuts the response. -/
example : ((World.run exWorld (exHistory [])).conns.map fun ic => (ic.delivered, ic.events, ic.dead)) =
    [([1, 2, 10, 11, 12, 13, 14], [.sleep 1 3, .forceClose 5], true)] := by decide +kernel

/-- The configuration is replaced after the halt was performed and before the close offset is
reached (and a connection is accepted): the old connection is not cut, all 8 body bytes arrive, once. -/
example : ((World.run exWorld (exHistory [.configure exCfg2, .accept])).conns.map
      fun ic => (ic.delivered, ic.events, ic.dead)) =
    [([1, 2, 10, 11, 12, 13, 14, 15, 16, 17], [.sleep 1 3], false), ([], [], false)] := by decide +kernel

end Martian.Props.C18
