import Martian.Skel
import Martian.Generated.Proxy
/-!
C03 — structural facts of `proxy.go` (regenerated from the source on every check) behind the
failure theorems: a round-trip error is replaced by a synthetic 502 carrying a Warning *before*
the response modifier runs (so it passes through it like any response); an error while writing or
flushing the response makes `handle` return `errClose` (the connection is closed rather than
re-used out of frame, F03 repair); a failed CONNECT dial is answered 502 + Warning and returns the
flush error only.
-/
namespace Martian.Props.C03
open Martian Skel
open Martian.Generated.Proxy (handle connectBlind connect)

theorem facts_roundtrip_error_becomes_502_through_resmod :
    hasBlock ["call p.roundTrip", "if err != nil {", "call proxyutil.NewResponse(502)", "call proxyutil.Warning", "}",
              "defer res.Body.Close", "set res.Request = req", "call p.resmod.ModifyResponse"] handle = true := by
  decide +kernel

theorem facts_write_error_closes_connection :
    hasBlock ["call res.Write", "if err != nil {", "set closing = errClose", "}",
              "call brw.Flush", "if err != nil {", "set closing = errClose", "}", "return closing"] handle = true := by
  decide +kernel

theorem facts_failed_connect_is_502_and_connection_kept :
    hasBlock ["call p.connect", "set cerr = p.connect(req)", "if cerr != nil {", "call proxyutil.NewResponse(502)", "call proxyutil.Warning",
              "call p.resmod.ModifyResponse"] connectBlind = true ∧
    hasBlock ["call res.Write", "call brw.Flush", "return err", "}", "defer res.Body.Close"] connectBlind = true := by
  decide +kernel

/-- `connect`: a dial error, or an unreadable answer of a downstream proxy, is returned as the
error (→ 502); nothing else is. -/
theorem facts_connect_errors :
    count "return nil, nil, err" connect = 3 ∧
    hasSeq ["if p.proxyURL != nil {", "call p.dial", "return nil, nil, err", "call http.ReadResponse", "return nil, nil, err",
            "return res, conn, nil", "}", "call p.dial", "return nil, nil, err", "call proxyutil.NewResponse(200)"] connect = true := by
  decide +kernel

end Martian.Props.C03
