import Martian.Lemmas.Http1Wire
import Martian.Lemmas.Http1Ext
/-!
C03, clause "a response that is detectably incomplete …; bytes of a later response are never
delivered as part of an earlier one" — at the level of the bytes, with the HTTP/1 reader inside
the model (`Model/Http1.lean`, run against `net/http` on every check).

"Not read as a complete response" covers `incomplete` (Go's unexpected-EOF family) and `malformed`
(where Go reports a non-EOF error such as a cut inside the version token). The theorems compare the
reading of `w` with that of `w ++ [0]`: the extra byte (any byte would do) shows that the message is
delimited by its length, not by the end of the input.
What is not true, and why the proxy must close (as `post_head_failure_is_incomplete_then_close` and
`nothing_served_after_closing_exchange` in `Props/C03.lean` say it does): if reading went on after
a truncation, bytes of the next response WOULD complete the truncated one
(`reading_on_after_truncation_would_desync`, a concrete witness).
-/
namespace Martian.Props.C03
open Martian Martian.Go Martian.MessageView Martian.Http1

/-- No strict prefix of a length-delimited response is read as a complete response. -/
theorem truncated_response_is_never_complete (meth : Bytes) (m : Msg) (h : WFRes meth m)
    (hl : lengthDelimited m = true) :
    ∀ k, k < (wire m).length → (readResponse meth ((wire m).take k)).isComplete = false := by
  have h0 := readResponse_wire_delimited meth m h hl []
  rw [List.append_nil] at h0
  exact response_prefix_never_complete meth (wire m) (resParsed m) h0 (readResponse_wire_delimited meth m h hl [0])

/-- No strict prefix of a chunked response is read as a complete response, in every chunking of the
body, not only the serialiser's single chunk. -/
theorem truncated_chunked_response_is_never_complete (meth : Bytes) (m : Msg) (h : WFRes meth m)
    (hch : isChunked m.te = true) (cs : List Bytes) (hcs : cs.flatten = m.body.getD [])
    (hne : ∀ c ∈ cs, c ≠ []) :
    ∀ k, k < (wireChunkedAs m cs).length →
      (readResponse meth ((wireChunkedAs m cs).take k)).isComplete = false := by
  have hr : ∀ rest : Bytes, lengthDelimited m = false → rest = [] := by simp [lengthDelimited, hch]
  have h0 := readResponse_wire_framed meth m h cs hcs hne [] (hr [])
  have h1 := readResponse_wire_framed meth m h cs hcs hne [0] (hr [0])
  simp only [hch, if_true, List.append_nil] at h0 h1
  exact response_prefix_never_complete meth _ (resParsed m) h0 h1

/-- A complete length-delimited response followed by ANY further bytes (the next response of a
kept-alive upstream connection) is read as that response; the further bytes are left untouched. -/
theorem complete_response_leaves_the_next_untouched (meth : Bytes) (m : Msg) (h : WFRes meth m)
    (hl : lengthDelimited m = true) (next : Bytes) :
    readResponse meth (wire m ++ next) = .complete (resParsed m) next :=
  readResponse_wire_delimited meth m h hl next

/-- Requests: no strict prefix of a well-formed request is read as a complete request (a client that
hangs up inside a request never makes the proxy act on a partial one). -/
theorem truncated_request_is_never_complete (m : Msg) (h : WFReq m) :
    ∀ k, k < (wire m).length → (readRequest ((wire m).take k)).isComplete = false := by
  have h0 := readRequest_wire m h []
  have h1 := readRequest_wire m h [0]
  simp only [List.append_nil] at h0
  exact request_prefix_never_complete (wire m) (reqParsed m) h0 h1

/-- The general form behind these: for ANY byte string read as one complete length-delimited
response with nothing left over, no strict prefix is read as a complete response. -/
theorem prefix_of_a_complete_response_is_never_complete (meth w : Bytes) (p : Parsed)
    (h0 : readResponse meth w = .complete p []) (h1 : readResponse meth (w ++ [0]) = .complete p [0]) :
    ∀ k, k < w.length → (readResponse meth (w.take k)).isComplete = false :=
  response_prefix_never_complete meth w p h0 h1

/-! The statement "bytes appended after a truncated response are never delivered as a complete
first message" is FALSE of any HTTP/1 reader, and is not what the property asks: it is the close
after the truncated response that prevents it. Witness (test): a response announcing 4 body bytes
cut after 2, followed by the next response, reads as a complete response whose body is made of
bytes of both. -/

def truncated2 : Bytes := strBytes "HTTP/1.1 200 OK\r\nContent-Length: 4\r\n\r\nab"
def nextRes : Bytes := strBytes "HTTP/1.1 404 Not Found\r\nContent-Length: 0\r\n\r\n"

theorem reading_on_after_truncation_would_desync :
    (readResponse (strBytes "GET") truncated2).isComplete = false ∧
    (match readResponse (strBytes "GET") (truncated2 ++ nextRes) with
      | .complete p _ => p.msg.body == some (strBytes "abHT")
      | _ => false) = true := by
  decide +kernel

/-! Non-vacuity (tests). -/

def exRes : Msg :=
  { isReq := false, method := [], url := [], major := 1, minor := 1, code := 200, status := strBytes "200 OK",
    host := [], te := [chunkedTok], cl := -1, hdr := [(strBytes "X-A", strBytes "1")],
    body := some (strBytes "hello world"), trailer := none }

example : WFRes (strBytes "GET") exRes ∧ lengthDelimited exRes = true ∧ isChunked exRes.te = true := by decide +kernel
example : [strBytes "hello", strBytes " ", strBytes "world"].flatten = exRes.body.getD [] ∧
    ∀ c ∈ [strBytes "hello", strBytes " ", strBytes "world"], c ≠ ([] : Bytes) := by decide +kernel

end Martian.Props.C03
