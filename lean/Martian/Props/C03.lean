import Martian.Props.C03.Wire
import Martian.Props.C03.Facts
import Martian.Lemmas.Proxy
import Martian.Lemmas.ProxyTrace
import Martian.Lemmas.ProxyState
/-!
C03 — Upstream failures become 502s or clean closes, never a desync.
Proved for every connection script; the origin fault alphabet of the model is `fail` (refused,
closed before a complete head, not HTTP: `RoundTrip` returns an error) and `trunc` (complete head,
body cut: `res.Write` fails). "The proxy process never terminates" is outside the model (no Go
panic inside `net/http` can be exhibited by it); it is supported by the junk-input stream of the
harness only, and labelled so.
-/
namespace Martian.Props.C03
open Martian.Proxy

variable (sd : Bool) (base : Nat) (items : List Item)

/-- A failure before a complete response head yields one complete 502 carrying a Warning, and it
passes through the response modifier like any other response. -/
theorem pre_head_failure_gives_502_with_warning_through_resmod (k : Nat) (s' : St) (rc : Bool) (rq : ReqB) (rs : ResB)
    (h : at? sd base {} 0 items k = some (s', .x rc rq rs .fail))
    (hq : rq = .pass ∨ ∃ v, rq = .err v) (hs : rs ≠ .hijack) :
    Ev.warnRt k ∈ runConn sd base items ∧ Ev.resmod k (base + k) 502 ∈ runConn sd base items ∧
      Ev.write k 502 (rc || sd) true ∈ runConn sd base items := by
  have hm := mem_run_of_at? [] h
  obtain ⟨hsk, hh⟩ := roundtrip_is_made hq
  refine ⟨hm _ ?_, hm _ ?_, hm _ ?_⟩ <;> rw [handleItem_fst] <;>
    simp [Item.rq, Item.rs, Item.up, Item.status, Item.fin, post, hsk, hh, hs]

/-- After such a 502 the same client connection goes on serving (unless somebody asked to close). -/
theorem after_502_connection_serves_next (s : St) (i c : Nat) (rq : ReqB) (rs : ResB)
    (hq : rq = .pass ∨ ∃ v, rq = .err v) (hs : rs ≠ .hijack) :
    (handleItem false s i c (.x false rq rs .fail)).2.isAgain = true := by
  obtain ⟨hsk, hh⟩ := roundtrip_is_made hq
  simp [again_iff_not_ends, endsConn, hh, hs]

/-- A failure after the head: what reaches the client is marked incomplete, and the connection is
closed right after - the exchange ends the connection whatever else holds. -/
theorem post_head_failure_is_incomplete_then_close (k : Nat) (s' : St) (rc : Bool) (rq : ReqB) (rs : ResB) (st : Nat)
    (h : at? sd base {} 0 items k = some (s', .x rc rq rs (.trunc st)))
    (hq : rq = .pass ∨ ∃ v, rq = .err v) (hs : rs ≠ .hijack) :
    Ev.write k st (rc || sd) false ∈ runConn sd base items ∧ endsConn sd (.x rc rq rs (.trunc st)) = true := by
  obtain ⟨hsk, hh⟩ := roundtrip_is_made hq
  refine ⟨mem_run_of_at? [] h _ ?_, by simp [endsConn, hsk]⟩
  rw [handleItem_fst]
  simp [Item.rq, Item.rs, Item.status, Item.fin, hsk, hh, hs]

/-- No request is read after an exchange that ends the connection; in particular bytes of a later
response can never follow an incomplete one. (`k` ends the connection ⇒ nothing with a larger index
is ever read.) -/
theorem nothing_served_after_closing_exchange (k j : Nat) (s' : St) (it : Item)
    (h : at? sd base {} 0 items k = some (s', it)) (he : endsConn sd it = true) (hj : k < j) :
    countP (isRead j) (runConn sd base items) = 0 := by
  unfold runConn
  rw [count_run local_read, at?_none_after_end h he hj]

/-! Non-vacuity (tests). -/
example : at? false 0 {} 0 [.x false .pass .pass .fail, .x false .pass .pass (.trunc 200),
    .x false .pass .pass (.ok 200 false)] 1 = some ({ stored := 1 }, .x false .pass .pass (.trunc 200)) := by decide +kernel
example : countP (isRead 2) (runConn false 0 [.x false .pass .pass .fail, .x false .pass .pass (.trunc 200),
    .x false .pass .pass (.ok 200 false)]) = 0 := by decide +kernel

end Martian.Props.C03
