import Martian.Lemmas.Verify
import Martian.Props.C13.Conc
import Martian.Props.C13.Locks
import Martian.Props.C13.Reconf
/-!
C13 — verification reports exactly the unmet expectations since the last reset.

All theorems are about the executable model `Martian.Verify` (Model/Verify.lean), which is tied to
/repo by the correspondence run of `./check C13` and is parameterised by the facts regenerated
from the source on every run (`Generated/Verify.lean`: the branch fields each of `filter.Filter`'s
four walks visits, `MultiError.Add`'s unwrapping, the API-request guard of every verifier).
They hold for every tree (any nesting of groups and filters, both branches, all verifier kinds,
non-verifier modifiers that may fail), every exchange and every history — by structural induction
on the tree and induction on the history. The concurrent clause (queries and resets racing
traffic) is in `Props/C13/Conc.lean` (interleavings of atomic steps) and `Props/C13/Locks.lean`
(data-race freedom from the regenerated lock facts); re-POSTed configurations in `Props/C13/Reconf.lean`.
-/
namespace Martian.Props.C13
open Martian Martian.Verify

/-- Each of `filter.Filter`'s Verify*/Reset* walks visits BOTH branch fields (F13a). -/
theorem facts_filter_walks_visit_both_branches (side : Side) :
    (true ∈ verifyVisits side ∧ false ∈ verifyVisits side ∧ (verifyVisits side).length = 2) ∧
    (true ∈ resetVisits side ∧ false ∈ resetVisits side) := by
  cases side <;> decide +kernel

/-- Every verifier's Modify* leaves before recording when the request is an API request (F13b). -/
theorem facts_verifiers_skip_api :
    Generated.Verify.skipsApi.map (·.1) =
      ["status.res", "header.req", "header.res", "method.req", "url.req", "qs.req", "failure.req", "pingback.req"] ∧
    Generated.Verify.skipsApi.all (·.2) = true := ⟨rfl, rfl⟩

/-- Every method of `MultiError` (whichever methods it has; `Add`, `Errors`, `Empty` among them)
takes the mutex first (F13c-Empty), and `Add` unwraps a nested `*MultiError`. The lock discipline
of the whole machinery is in `Props/C13/Locks.lean`. -/
theorem facts_multierror_locked :
    Generated.Verify.multiErrorLocked.all (·.2) = true ∧
    (["Add", "Errors", "Empty"].all fun m => (Generated.Verify.multiErrorLocked.map (·.1)).contains m) = true ∧
    Generated.Verify.multiErrorAddFlattens = true := by decide +kernel

theorem run_append (s : State) (h1 h2 : List Op) : s.run (h1 ++ h2) = (s.run h1).run h2 :=
  List.foldl_append

/-- The invariant carried along a history: the tree keeps its shape and every verifier holds
exactly what the exchanges since the last reset that reached it call for. -/
theorem run_invariant (c : State) : ∀ (h : List Op) (s : State) (ms : List Msg),
    s.clear = c → s.req.tracks .req ms → s.res.tracks .res ms →
    (s.run h).clear = c ∧ (s.run h).req.tracks .req (h.foldl sinceStep ms) ∧
      (s.run h).res.tracks .res (h.foldl sinceStep ms)
  | h, s, ms, hc, hq, hs => by
    rw [run_sides]
    exact ⟨by rw [← hc]; simp [State.clear, T.runOps_clear], T.runOps_tracks .req h _ _ hq, T.runOps_tracks .res h _ _ hs⟩

theorem fresh_tracks (s0 : State) (hf : s0.clear = s0) : s0.req.tracks .req [] ∧ s0.res.tracks .res [] :=
  ⟨congrArg State.req hf ▸ T.tracks_clear .req s0.req, congrArg State.res hf ▸ T.tracks_clear .res s0.res⟩

/-- **Main theorem.** From the initial state, after ANY history of exchanges, queries and resets,
a verification query returns exactly the report demanded by `State.spec` for the exchanges since
the last reset: per verifier, in tree order, one entry for each non-API exchange that reached
it and did not meet its expectation — as a list equality, hence none lost, none duplicated,
nested groups and filters flattened to one entry per failure. -/
theorem query_is_failures_since_reset (s0 : State) (hf : s0.clear = s0) (h : List Op) :
    (s0.run h).query = s0.spec (sinceReset h) := by
  obtain ⟨hq, hs⟩ := fresh_tracks s0 hf
  simp only [run_sides, State.query, State.spec, sinceReset]
  rw [T.report_runOps .req _ _ [] rfl hq h, T.report_runOps .res _ _ [] rfl hs h]

/-- A configuration accepted by `martianhttp.Modifier` starts in the initial state. -/
theorem install_fresh (c : Cfg) (s0 : State) (hi : c.install = some s0) : s0.clear = s0 := by
  obtain ⟨q, r, hq, hr, rfl⟩ := install_sides c s0 hi
  simp [State.clear, Cfg.compile_fresh .req c q hq, Cfg.compile_fresh .res c r hr]

/-- The main theorem for every configuration tree that `martianhttp.Modifier` accepts. -/
theorem query_is_failures_since_reset_of_config (c : Cfg) (s0 : State) (hi : c.install = some s0) (h : List Op) :
    (s0.run h).query = s0.spec (sinceReset h) :=
  query_is_failures_since_reset s0 (install_fresh c s0 hi) h

/-- A reset returns EVERY verifier of the tree (both branches of every filter, every level of
nesting) to its initial state: whatever happened before, the state is the initial one again. -/
theorem reset_restores_initial (s0 : State) (hf : s0.clear = s0) (h : List Op) :
    s0.run (h ++ [.reset]) = s0 := by
  obtain ⟨hq, hs⟩ := fresh_tracks s0 hf
  obtain ⟨hc, _, _⟩ := run_invariant s0 h s0 [] hf hq hs
  rw [run_append]
  simp only [State.run, List.foldl_cons, List.foldl_nil, State.step, State.reset, T.reset_eq_clear]
  exact hc

/-- After a reset the report is the initial report (only pingbacks that never occurred). -/
theorem query_after_reset (s0 : State) (hf : s0.clear = s0) (h : List Op) :
    (s0.run (h ++ [.reset])).query = s0.spec [] := by
  rw [reset_restores_initial s0 hf h]
  exact query_is_failures_since_reset s0 hf []

/-- Requests addressed to the proxy's own API are never counted: removing an API exchange from
any history, at any position, from any state, changes nothing. -/
theorem api_requests_not_counted (s : State) (h1 h2 : List Op) (m : Msg) (ha : m.api = true) :
    s.run (h1 ++ .traffic m :: h2) = s.run (h1 ++ h2) := by
  rw [run_append, run_append]
  simp only [State.run, List.foldl_cons, State.step, State.traffic, T.modify_api _ m ha]

/-- A query does not change the state: querying twice gives the same report, and a query can
be dropped from any history. -/
theorem query_idempotent (s : State) (h1 h2 : List Op) :
    s.run (h1 ++ .query :: h2) = s.run (h1 ++ h2) ∧ (s.run (h1 ++ [.query])).query = (s.run h1).query := by
  constructor
  · rw [run_append, run_append]; simp [State.run, State.step]
  · rw [run_append]; simp [State.run, State.step]

/-- Depth one: what a verify walk hands to its caller is, element by element, a plain error —
never a nested `*MultiError` (so the handler emits one message per failure). -/
theorem report_depth_one (s0 : State) (hf : s0.clear = s0) (h : List Op) (side : Side) :
    ∀ e ∈ errsOf ((match side with | .req => (s0.run h).req | .res => (s0.run h).res).verify side), ∃ m, e = .one m := by
  obtain ⟨hq, hs⟩ := fresh_tracks s0 hf
  obtain ⟨_, tq, ts⟩ := run_invariant s0 h s0 [] hf hq hs
  cases side
  · exact T.verify_depth_one .req _ _ tq
  · exact T.verify_depth_one .res _ _ ts

/-- Instance for a single verifier: its report is, in order, the error of every non-API exchange
since the last reset that does not meet the expectation. -/
theorem single_verifier_report (k : Kind) (h : List Op) :
    (State.run ⟨.ver k [], .nop⟩ h).query = ((sinceReset h).filter (fun m => !m.api)).filterMap (check .req k) := by
  rw [query_is_failures_since_reset _ (by simp [State.clear, T.clear])]
  simp [State.spec, T.spec, leafSpec]

/-- `header.Filter(X-A: 1)` with a `status.Verifier(200)` when true and, in the else branch, a group
holding `status.Verifier(404)` and a `header.Verifier(X-B)`; default scopes. -/
def exCfg : Cfg :=
  .filter (.header (strBytes "X-A") (strBytes "1")) ⟨false, false, false⟩
    (.leaf (.ver (.status 200)) ⟨false, false, false⟩)
    (.group false ⟨false, false, false⟩
      (.cons (.leaf (.ver (.status 404)) ⟨false, false, false⟩)
        (.cons (.leaf (.ver (.header (strBytes "X-B") [])) ⟨false, false, false⟩) .nil)))

def exMsg (api : Bool) (status : Nat) : Msg :=
  { api := api, method := strBytes "GET", scheme := strBytes "http", host := strBytes "h", path := strBytes "/p",
    query := [], frag := strBytes "m1", reqH := [], status := status, resH := [] }

def exState : State :=
  ⟨.filter (.header (strBytes "X-A") (strBytes "1")) .nop (.group false (.cons (.ver (.header (strBytes "X-B") []) []) .nil)),
   .filter (.header (strBytes "X-A") (strBytes "1")) (.ver (.status 200) [])
     (.group false (.cons (.ver (.status 404) []) (.cons (.ver (.header (strBytes "X-B") []) []) .nil)))⟩

/-- The configuration is accepted and compiles to `exState` (hypothesis of `…_of_config` is satisfiable). -/
example : exCfg.install = some exState := by rfl
example : exState.clear = exState := by rfl

/-- An exchange without `X-A` goes to the ELSE branch: three failures (request header, status, response header). -/
example : ((exState.run [.traffic (exMsg false 200)]).query).length = 3 := by decide +kernel
example : (exState.run [.traffic (exMsg false 200)]).query.head? =
    some (strBytes "request(http://h/p#m1) header verify failure: got no header, want X-B header") := by decide +kernel
/-- A reset clears the else branch too. -/
example : (exState.run [.traffic (exMsg false 200), .reset]).query = [] := by decide +kernel
/-- An API exchange is not counted. -/
example : (exState.run [.traffic (exMsg true 200)]).query = [] := by decide +kernel
/-- A pingback that never occurred is reported once, also right after a reset. -/
example : (State.run ⟨.ping [] (strBytes "h2") [] [] true, .nop⟩ [.traffic (exMsg false 200), .reset]).query =
    [strBytes "request(//h2): pingback never occurred"] := by decide +kernel

end Martian.Props.C13
