import Martian.Props.C15.Wire
import Martian.Lemmas.MessageView
import Martian.Props.C15.Isolation
import Martian.Props.C15.Flags
import Martian.Props.C15.Facts
import Martian.Props.C15.Faults
import Martian.Props.C15.Errors
/-!
C15 — Logging and snapshotting never change the message that is forwarded.
Quantifiers: every message (any start line, header list, body bytes of any length, framing,
trailers), every body-capture option, every logger and option combination.
-/
namespace Martian.Props.C15
open Martian Martian.Go Martian.MessageView

/-- The full clause "the snapshot is the wire form of the message" — FALSE of the code as it is
(F15a), see `snapshot_is_wire_counterexample`. -/
def SnapshotIsWire : Prop :=
  ∀ (o : Opts) (m : Msg), captures o m = true → (snapshot o m).message = wire m

/-- Messages without a trailer map: the snapshot is byte for byte the grammar serialisation
(start line, Host, framing header, sorted fields, blank line, body — one chunk + last-chunk +
blank line when chunked). What is missing for the full clause: messages with `Trailer ≠ nil`. -/
theorem snapshot_is_wire_partial (o : Opts) (m : Msg) (hc : captures o m = true)
    (ht : m.trailer = none) : (snapshot o m).message = wire m :=
  Http1.snapshot_message_eq_wire o m hc ht

/-- Exact form of the defect: with a non-nil trailer map on a chunked message the snapshot is the
wire form minus its terminating CRLF. -/
theorem snapshot_lacks_final_crlf (o : Opts) (m : Msg) (t : List KV) (hc : captures o m = true)
    (ht : m.trailer = some t) (hch : isChunked m.te = true) :
    wire m = (snapshot o m).message ++ crlf :=
  Http1.wire_eq_snapshot_crlf o m t hc ht hch

/-- Witness: `POST / HTTP/1.1`, `Transfer-Encoding: chunked`, body `abc`, trailer `X-T: v`. -/
def witness : Msg :=
  { isReq := true, method := strBytes "POST", url := strBytes "/", major := 1, minor := 1,
    code := 0, status := [], host := strBytes "h", te := [chunkedTok], cl := -1, hdr := [],
    body := some (strBytes "abc"), trailer := some [(strBytes "X-T", strBytes "v")] }

theorem snapshot_is_wire_counterexample : ¬ SnapshotIsWire := by
  intro h
  have h1 := h noOpts witness (by decide +kernel)
  have h2 := snapshot_lacks_final_crlf noOpts witness _ (by decide +kernel) rfl (by decide +kernel)
  rw [h1] at h2
  have := congrArg List.length h2
  simp [crlf] at this

/-- The three section readers partition the snapshot: header section = everything up to and
including the blank line, body section = the framed body, trailer section = the rest; and
`Reader()` is their concatenation = the whole snapshot. -/
theorem reader_sections_partition (o : Opts) (m : Msg) :
    reader (snapshot o m) = (snapshot o m).message ∧
    headerReader (snapshot o m) = headSection m ∧
    (captures o m = true →
      bodyReader (snapshot o m) = framedBody m (m.body.getD []) ∧
      trailerReader (snapshot o m) = trailerSection m) ∧
    (captures o m = false →
      bodyReader (snapshot o m) = [] ∧ trailerReader (snapshot o m) = []) := by
  cases hc : captures o m <;>
    simp [snapshot, hc, reader, headerReader, bodyReader, trailerReader, sectionOf]
  apply List.take_of_length_le
  omega

/-- The `Decode` body reader of a snapshot gives back the message body for every framing
(de-chunked when chunked), decompressed by the trusted gzip/flate when so announced. -/
theorem decode_reader_returns_body (infl : Bytes → Bytes → Option Bytes) (o : Opts) (m : Msg) (b : Bytes)
    (hc : captures o m = true) (hb : m.body = some b) :
    decodeBody infl (snapshot o m) =
      if compressOf m == gzipTok || compressOf m == deflateTok then infl (compressOf m) b else some b :=
  decodeBody_snapshot infl o m b hc hb

/-- Every logger, every option combination, skip flag set or not: the message handed on is the
message received (same start line, headers, framing fields, body bytes, trailers). -/
theorem logger_identity (l : Logger) (skip : Bool) (m : Msg) : (logMsg l skip m).1 = m :=
  logMsg_fst l skip m

/-- In particular the header lines: for every field name the ordered list of its values (repeated
Cookie / Authorization / Set-Cookie / Via lines, names under keys of different case) is the one the
message arrived with, after every logger, option and skip flag. -/
theorem logging_preserves_header_value_lists (l : Logger) (skip : Bool) (m : Msg) (k : Bytes) :
    ((logMsg l skip m).1.hdr.filter fun kv => kv.1 == k) = m.hdr.filter fun kv => kv.1 == k := by
  rw [logger_identity]

/-- An exchange marked skip-logging is recorded by none of the loggers. -/
theorem skip_logging_records_nothing (l : Logger) (m : Msg) (hl : ∀ o, l ≠ .snapshot o) :
    (logMsg l true m).2 = none := by
  rw [logMsg_skip l m hl]

/-- …and one that is not marked is recorded by every one of them (the previous theorem is not
vacuous). -/
theorem unskipped_is_recorded (l : Logger) (m : Msg) : (logMsg l false m).2.isSome = true := by
  cases l with
  | har post body =>
    simp only [logMsg]
    cases m.isReq
    · cases body.decide (headerGet m.hdr ctKey) <;> rfl
    · cases harHasPostData m && post.decide (headerGet m.hdr ctKey) <;> rfl
  | _ => rfl

/-- Every logger, every option combination, every verdict of the trusted parsers and
decompressors — in particular when the logger gives up with an error because the body does not
parse as its declared Content-Type or does not decode as its Content-Encoding: the message handed
on is the message received. -/
theorem logger_identity_with_errors (t : Trusted) (l : Logger) (skip : Bool) (m : Msg) :
    (logMsgT t l skip m).msg = m :=
  congrArg Outcome.msg (logMsgT_eq t l skip m)

/-- A logger that returned an error recorded nothing (HAR: no entry / no response in the entry;
text logger: no log call). -/
theorem logger_error_records_nothing (t : Trusted) (l : Logger) (skip : Bool) (m : Msg)
    (he : (logMsgT t l skip m).err = true) : (logMsgT t l skip m).record = none := by
  rw [logMsgT_eq] at he ⊢
  exact if_pos he

/-- Skip-logging with the error paths: nothing recorded and no error either (the loggers return
before they look at the body). -/
theorem skip_logging_records_nothing_with_errors (t : Trusted) (l : Logger) (m : Msg)
    (hl : ∀ o, l ≠ .snapshot o) :
    (logMsgT t l true m).record = none ∧ (logMsgT t l true m).err = false := by
  rw [logMsgT_eq, logMsg_skip l m hl]
  exact ⟨rfl, rfl⟩

/-- An unmarked exchange on which the logger did not fail is recorded. -/
theorem unskipped_without_error_is_recorded (t : Trusted) (l : Logger) (m : Msg)
    (he : (logMsgT t l false m).err = false) : (logMsgT t l false m).record.isSome = true := by
  simp only [logMsgT_eq] at he ⊢
  rw [he]
  exact unskipped_is_recorded l m

/-- When the trusted parsers accept the body (and it is there to be decoded) the refined model is
`logMsg`: no error, same message, same record. The headers-only text logger is excluded: with
`decode` its gzip reader is opened on the empty body section and fails. -/
theorem logMsgT_ok (l : Logger) (skip : Bool) (m : Msg) (hb : m.body.isSome = true)
    (hh : ∀ d, l ≠ .text true d) :
    logMsgT ⟨true, true, true⟩ l skip m = ⟨(logMsg l skip m).1, (logMsg l skip m).2, false⟩ := by
  have hc : ∀ cts, captures ⟨false, cts⟩ m = true := by simp [captures, hb]
  have he : logErr ⟨true, true, true⟩ l skip m = false := by
    cases l with
    | har post body => simp [logErr, decodesOn, noOpts, hc]
    | text ho dec =>
      cases ho
      · simp [logErr, decodeOpensOn, hc]
      · exact absurd rfl (hh dec)
    | _ => simp [logErr]
  rw [logMsgT_eq, he, logMsg_fst]
  rfl

/-- Witness of an error path: an urlencoded upload with an invalid percent-escape under the HAR
logger — error returned, nothing recorded, message unchanged. -/
def badForm : Msg :=
  { witness with te := [], cl := 5, trailer := none, body := some (strBytes "a=%zz"),
                 hdr := [(ctKey, strBytes "application/x-www-form-urlencoded")] }

example : (logMsgT ⟨false, true, true⟩ (.har .all .all) false badForm).err = true ∧
    (logMsgT ⟨false, true, true⟩ (.har .all .all) false badForm).record = none ∧
    (logMsgT ⟨false, true, true⟩ (.har .all .all) false badForm).msg = badForm :=
  have he : (logMsgT ⟨false, true, true⟩ (.har .all .all) false badForm).err = true := rfl
  ⟨he, logger_error_records_nothing _ _ _ _ he, logger_identity_with_errors _ _ _ _⟩

/-- …and of the decode error paths: a response announced as gzip whose body is not. -/
def badGzip : Msg :=
  { witness with isReq := false, code := 200, te := [], cl := 3, trailer := none,
                 hdr := [(ceKey, gzipTok)] }

example : (logMsgT ⟨true, false, false⟩ (.har .all .all) false badGzip).err = true ∧
    (logMsgT ⟨true, false, false⟩ (.text false true) false badGzip).err = true ∧
    (logMsgT ⟨true, false, false⟩ (.text false false) false badGzip).err = false ∧
    (logMsgT ⟨true, false, false⟩ (.text false true) false badGzip).msg = badGzip := by decide +kernel

example : captures noOpts witness = true ∧ witness.trailer ≠ none ∧ isChunked witness.te = true := by decide +kernel
example : ∃ o m, captures o m = true ∧ m.trailer = none ∧ isChunked m.te = true :=
  ⟨noOpts, { witness with trailer := none }, by decide +kernel⟩

end Martian.Props.C15
