import Martian.Lemmas.Har
import Martian.Props.C16.Headers
import Martian.Props.C16.Json
import Martian.Props.C16.Query
import Martian.Props.C16.Facts
/-!
C16 — HAR entries faithfully describe the exchange and survive a JSON round trip.
Quantifiers: every message, every capture option, every body byte string; the trusted parsers
(media type, form/multipart parameters, gzip/flate) are parameters; the JSON string coder is the
concrete model of `encoding/json` (`Props/C16/Json.lean`).
-/
namespace Martian.Props.C16
open Martian Martian.Go Martian.MessageView Martian.Har

/-- Request entry: method, URL, HTTP version and body size are the message's, and the header list
is exactly (a permutation of) the header map with Host / Content-Length / Transfer-Encoding put in. -/
theorem request_fields_equal (pp : Bytes → Bytes → Option (List Param)) (mt : Bytes) (wb : Bool)
    (m : Msg) (r : Request) (h : newRequest pp mt wb m = some r) :
    r.method = m.method ∧ r.url = m.url ∧ r.httpVersion = protoBytes m.major m.minor ∧
    r.bodySize = m.cl ∧ ∀ kv, kv ∈ r.headers ↔ kv ∈ headerMap m := by
  simp only [newRequest, Option.map_eq_some_iff] at h
  obtain ⟨pd, _, rfl⟩ := h
  exact ⟨rfl, rfl, rfl, rfl, fun kv => mem_sortKV kv _⟩

/-- Response entry: status, HTTP version, body size, redirect URL (Location of a 3xx) and headers. -/
theorem response_fields_equal (infl : Bytes → Bytes → Option Bytes) (wb : Bool) (m : Msg) (r : Response)
    (h : newResponse infl wb m = some r) :
    r.status = m.code ∧ r.httpVersion = protoBytes m.major m.minor ∧ r.bodySize = m.cl ∧
    r.redirectURL = (if 300 ≤ m.code && m.code < 400 then headerGet m.hdr locationKey else []) ∧
    r.content.mime = headerGet m.hdr ctKey ∧
    ∀ kv, kv ∈ r.headers ↔ kv ∈ headerMap m := by
  obtain ⟨t, _, rfl⟩ := newResponse_some infl wb m r h
  exact ⟨rfl, rfl, rfl, rfl, rfl, fun kv => mem_sortKV kv _⟩

/-- The header list includes Host (requests), Content-Length (when positive) and every
Transfer-Encoding value, next to every ordinary header field. -/
theorem header_list_includes_host_cl_te (m : Msg) :
    (m.isReq = true → m.host ≠ [] → (hostKey, m.host) ∈ headerMap m) ∧
    (0 < m.cl → (clKey, itoa m.cl) ∈ headerMap m) ∧
    (∀ t ∈ m.te, (teKey, t) ∈ headerMap m) ∧
    (∀ kv ∈ m.hdr, kv.1 ≠ hostKey → kv.1 ≠ clKey → kv.1 ≠ teKey → kv ∈ headerMap m) := by
  obtain ⟨hHC, hHT, hCT⟩ := fieldKeys_distinct
  simp only [headerMap, mem_setKey]
  generalize hostKey = kH, clKey = kC, teKey = kT at *
  refine ⟨fun hr hh => ?_, fun hc => ?_, fun t ht => ?_, fun ⟨k, v⟩ hkv h1 h2 h3 => ?_⟩
  · simp [hHC, hHT, hr, hh]
  · simp [hCT, hc]
  · simpa [List.ne_nil_of_mem ht] using ht
  · simpa [mem_setKey, h1, h2, h3] using hkv

/-- Post data is the de-framed request body (never the chunk framing): plain bodies go to `text`
unchanged, form and multipart bodies are parsed from those same bytes. -/
theorem postdata_is_deframed_body (pp : Bytes → Bytes → Option (List Param)) (mt : Bytes) (m : Msg)
    (pd : PostData) (h : postData pp mt true m = some (some pd)) :
    pd.mime = mt ∧
    (mt ≠ multipartTok → mt ≠ formTok → pd.text = m.body.getD [] ∧ pd.params = []) ∧
    ((mt = multipartTok ∨ mt = formTok) → pp mt (m.body.getD []) = some pd.params ∧ pd.text = []) := by
  simp only [postData, Bool.not_true, Bool.false_eq_true, if_false, snapshotMsg_id, Bool.or_eq_true,
    beq_iff_eq] at h
  split at h
  · cases h
  · by_cases hmt : mt = multipartTok ∨ mt = formTok
    · rw [if_pos hmt, Option.map_eq_some_iff] at h
      obtain ⟨ps, hps, hpd⟩ := h
      cases hpd
      exact ⟨rfl, fun h1 h2 => (hmt.elim h1 h2).elim, fun _ => ⟨hps, rfl⟩⟩
    · rw [if_neg hmt] at h
      cases h
      exact ⟨rfl, fun _ _ => ⟨rfl, rfl⟩, fun h1 => (hmt h1).elim⟩

/-- Regression witness for F16: the raw body section of the snapshot of a chunked message is the
chunk framing, which is never the body itself. -/
theorem chunk_framing_is_not_body (m : Msg) (b : Bytes) (hb : m.body = some b)
    (hch : isChunked m.te = true) :
    bodyReader (snapshot noOpts m) = chunkedWrite b ∧ chunkedWrite b ≠ b := by
  have hc : captures noOpts m = true := by simp [captures, noOpts, hb]
  refine ⟨by simp [bodyReader_snapshot noOpts m hc, framedBody, hch, hb], fun h => ?_⟩
  have := congrArg List.length h
  cases b with
  | nil => exact absurd this (by decide)
  | cons x xs =>
    simp [chunkedWrite, crlf] at this
    omega

/-- Response content is the fully decoded body with its true size: for every framing the text is
the message body (de-chunked), passed through the trusted gzip/flate when the message announces
one of them (and is not a 204/206), and `size` is the length of exactly that text. -/
theorem content_is_decoded_body_with_true_size (infl : Bytes → Bytes → Option Bytes) (m : Msg)
    (b : Bytes) (r : Response) (hb : m.body = some b) (h : newResponse infl true m = some r) :
    r.content.size = r.content.text.length ∧
    (if compressOf m == gzipTok || compressOf m == deflateTok then infl (compressOf m) b = some r.content.text
     else r.content.text = b) := by
  have hc : captures noOpts m = true := by simp [captures, noOpts, hb]
  obtain ⟨t, ht, rfl⟩ := newResponse_some infl true m r h
  rw [if_pos rfl, decodeBody_snapshot infl noOpts m b hc hb] at ht
  refine ⟨rfl, ?_⟩
  by_cases hz : (compressOf m == gzipTok || compressOf m == deflateTok) = true
  · rw [if_pos hz] at ht ⊢
    exact ht
  · rw [if_neg hz] at ht ⊢
    exact (Option.some.inj ht).symm

/-- Body capture follows the configured content-type options: prefix match on the lower-cased
Content-Type, opt-in lists capture exactly the matching types, opt-out lists exactly the others. -/
theorem capture_follows_options (ct : Bytes) (cts : List Bytes) :
    Capture.all.decide ct = true ∧ Capture.nothing.decide ct = false ∧
    ((Capture.optIn cts).decide ct = true ↔ ∃ p ∈ cts, (toLower p).isPrefixOf (toLower ct) = true) ∧
    ((Capture.optOut cts).decide ct = true ↔ ¬ ∃ p ∈ cts, (toLower p).isPrefixOf (toLower ct) = true) := by
  simp [Capture.decide, hasPrefix]

/-- Without capture nothing of the body is in the entry. -/
theorem uncaptured_has_no_body (pp : Bytes → Bytes → Option (List Param)) (infl : Bytes → Bytes → Option Bytes)
    (mt : Bytes) (c : Capture) (m : Msg) (hc : c.decide (headerGet m.hdr ctKey) = false) :
    (∀ r pd, logRequest pp mt c m = some r → r.postData = some pd → pd.text = [] ∧ pd.params = []) ∧
    (∀ r, logResponse infl c m = some r → r.content.text = [] ∧ r.content.size = 0) := by
  constructor
  · intro r pd h hpd
    simp only [logRequest, hc, newRequest, Option.map_eq_some_iff, postData, Bool.not_false, if_true] at h
    obtain ⟨pd', h, rfl⟩ := h
    cases hpd
    split at h
    · cases h
    · cases h
      exact ⟨rfl, rfl⟩
  · intro r h
    obtain ⟨t, rfl, rfl⟩ := newResponse_some infl false m r (hc ▸ h)
    exact ⟨rfl, rfl⟩

/-- …and every response the model logs has base64 content (so `content_json_roundtrip` applies). -/
theorem logged_content_is_base64 (infl : Bytes → Bytes → Option Bytes) (wb : Bool) (m : Msg) (r : Response)
    (h : newResponse infl wb m = some r) : r.content.base64 = true := by
  obtain ⟨t, _, rfl⟩ := newResponse_some infl wb m r h
  rfl

-- non-vacuity: both branches of the text-or-base64 choice occur
example : utf8Valid (strBytes "abc") = true ∧ utf8Valid [0xff, 0xfe] = false := by decide +kernel
example : b64Encode (strBytes "Man") = strBytes "TWFu" ∧ b64Encode (strBytes "Ma") = strBytes "TWE=" := by decide +kernel

/-- The text-vs-base64 decision looks at the WHOLE body: an ASCII preamble of any length followed
by one byte that cannot start a UTF-8 sequence is not text (so `marshalPD` takes the base64 form,
whatever the length of the preamble — a classifier that sniffs a prefix gets this wrong). -/
theorem late_invalid_byte_is_not_text (pre post : Bytes) (b : UInt8) (hp : ∀ x ∈ pre, x < 0x80)
    (hb : 0xF5 ≤ b) : utf8Valid (pre ++ b :: post) = false := by
  have no (x : UInt8) (hx : x < 0xF5) : ¬ b ≤ x := fun h => UInt8.not_le.2 hx (UInt8.le_trans hb h)
  have h1 : ¬ b < 0x80 := fun h => no 0x80 (by decide) (UInt8.le_of_lt h)
  rw [utf8Valid_ascii_append pre _ hp]
  unfold utf8Valid
  simp [h1, no 0xDF, no 0xEF, no 0xF4]

theorem late_invalid_byte_is_base64 (enc : Bytes → Bytes) (p : PostData) (pre post : Bytes) (b : UInt8)
    (ht : p.text = pre ++ b :: post) (hp : ∀ x ∈ pre, x < 0x80) (hb : 0xF5 ≤ b) :
    (marshalPD enc p).encoding = some (enc base64Tok) ∧ (marshalPD enc p).text = enc (b64Encode p.text) := by
  simp [marshalPD, ht, late_invalid_byte_is_not_text pre post b hp hb]

example : utf8Valid (List.replicate 600 97 ++ [0xFF]) = false :=
  late_invalid_byte_is_not_text (List.replicate 600 97) [] 0xFF
    (by intro x hx; rw [List.eq_of_mem_replicate hx]; decide) (by decide)

end Martian.Props.C16
