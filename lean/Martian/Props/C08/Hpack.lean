import Martian.Lemmas.H2Hpack
import Martian.Generated.H2Relay
/-!
C08 — "header blocks that decode under its own HPACK state to the same field list": the part of
that clause which depends on SETTINGS_HEADER_TABLE_SIZE histories.

A relay keeps a decoder for the header blocks of its SOURCE endpoint and an encoder towards its
DESTINATION endpoint. The destination's SETTINGS_HEADER_TABLE_SIZE reaches the relay first
(`updateTableSize`), is forwarded, and is applied by the source endpoint only when that endpoint
acknowledges it — blocks it encoded before are still on their way (RFC 7540 6.5.3, RFC 7541 4.2).
-/
namespace Martian.Props.C08
open Martian Martian.H2Relay Martian.H2Hpack

/-- One block: if the relay's decoder table equals the sender's encoder table and the decoder
allows at least the limit the sender works under, every block the sender may legally emit decodes
to the field list it means, and the two tables are equal again afterwards. -/
theorem legal_block_decodes (d : Dec) (s : Snd) (b : List Rep) (t' : DynTab) (fs : List Ent)
    (hsync : d.tab = s.tab) (hall : s.limit ≤ d.allowed) (hleg : sndBlock s b = some (t', fs)) :
    d.decodeFull b = some ({ d with tab := t' }, fs) := by
  unfold Dec.decodeFull
  revert hleg
  fun_cases sndBlock s b
  case case1 n m rs hc =>  -- two size updates in front, accepted
    intro hleg
    rw [decBlock_sizeUpdate d true n _ (Or.inl rfl) (by omega),
      decBlock_sizeUpdate _ false m _ (Or.inr (hsync ▸ hc.2.2)) (by have := hc.2.1; exact Nat.le_trans this hall)]
    exact decBlock_of_sndFields _ _ false rs t' fs (hsync ▸ hleg)
  case case3 n rs _ hn =>  -- one size update in front, accepted
    intro hleg
    rw [decBlock_sizeUpdate d true n _ (Or.inl rfl) (by omega)]
    exact decBlock_of_sndFields _ _ false rs t' fs (hsync ▸ hleg)
  -- no size update, and the table fits the limit
  case case5 => exact fun hleg => decBlock_of_sndFields _ _ true b t' fs (hsync ▸ hleg)
  -- the remaining cases are those where `sndBlock` refuses the block
  case case2 | case4 | case6 => exact fun h => nomatch h

inductive HEv
  | advertise (v : Nat)     -- the destination's SETTINGS_HEADER_TABLE_SIZE passes the relay and is forwarded
  | ack                     -- the source endpoint acknowledges (= applies) the oldest forwarded SETTINGS
  | block (b : List Rep)    -- the source endpoint emits a header block; the relay decodes it
deriving Repr

structure HSt where
  hp : Hp := {}                 -- the relay
  snd : Snd := {}               -- the source endpoint's encoder
  pending : List Nat := []      -- forwarded, not yet acknowledged

/-- One event, with `upd` as the relay's `updateTableSize`. `none`: a block the sender legally
emitted did not decode at the relay, or decoded to another field list. A block that is not legal
for the sender is outside the claim and skipped. -/
def hstepWith (upd : Hp → Nat → Hp) (st : HSt) : HEv → Option HSt
  | .advertise v => some { st with hp := upd st.hp v, pending := st.pending ++ [v] }
  | .ack =>
    match st.pending with
    | [] => some st
    | v :: rest => some { st with snd := { st.snd with limit := v }, pending := rest }
  | .block b =>
    match sndBlock st.snd b with
    | none => some st
    | some (t', fs) =>
      match st.hp.dec.decodeFull b with
      | none => none
      | some (d', fs') =>
        if fs' = fs then some { st with hp := { st.hp with dec := d' }, snd := { st.snd with tab := t' } } else none

def hrunWith (upd : Hp → Nat → Hp) : HSt → List HEv → Option HSt
  | st, [] => some st
  | st, e :: es =>
    match hstepWith upd st e with
    | none => none
    | some st' => hrunWith upd st' es

/-- The relay as it is (`Hp.updateTableSize`). -/
def hrun := hrunWith Hp.updateTableSize

/-- SETTINGS values are 32-bit. -/
def advertisedOk : List HEv → Prop
  | [] => True
  | .advertise v :: es => v ≤ 4294967295 ∧ advertisedOk es
  | _ :: es => advertisedOk es

/-- Kept by every event: the relay's decoder table is the sender's encoder table; the decoder allows every 32-bit
size (`newRelay`), and the limit the sender works under and the values still to be acknowledged are 32-bit. -/
def HInv (st : HSt) : Prop :=
  st.hp.dec.tab = st.snd.tab ∧ st.hp.dec.allowed = 4294967295 ∧ st.snd.limit ≤ 4294967295 ∧
  ∀ v ∈ st.pending, v ≤ 4294967295

private theorem HInv.decodes {st : HSt} {evs : List HEv} (hi : HInv st) (hv : advertisedOk evs) :
    ∃ st', hrunWith Hp.updateTableSize st evs = some st' ∧ st'.hp.dec.tab = st'.snd.tab := by
  induction evs generalizing st with
  | nil => exact ⟨st, rfl, hi.1⟩
  | cons e es ih =>
    obtain ⟨h1, h2, h3, h4⟩ := hi
    cases e with
    | advertise v =>
      exact ih ⟨h1, h2, h3, fun w hw => (List.mem_append.mp hw).elim (h4 w)
        fun hw => List.mem_singleton.mp hw ▸ hv.1⟩ hv.2
    | ack =>
      simp only [hrunWith, hstepWith]
      cases hp : st.pending with
      | nil => exact ih ⟨h1, h2, h3, h4⟩ hv
      | cons v rest => exact ih ⟨h1, h2, h4 v (by simp [hp]), fun w hw => h4 w (by simp [hp, hw])⟩ hv
    | block b =>
      simp only [hrunWith, hstepWith]
      cases hs : sndBlock st.snd b with
      | none => exact ih ⟨h1, h2, h3, h4⟩ hv
      | some p =>
        simp only [legal_block_decodes st.hp.dec st.snd b p.1 p.2 h1 (by omega) hs, if_true]
        exact ih ⟨rfl, h2, h3, h4⟩ hv

/-- **Every block the sender may legally emit decodes**, in every history: whatever sizes the
destination advertises (growing, shrinking, several before one is acknowledged), however far the
source endpoint's acknowledgements lag behind, whatever legal blocks it emits in between — with
or without size updates, referring to any entry of its table — no block fails at the relay or
decodes to a different field list, and the relay's decoder table equals the sender's encoder table
at the end. -/
theorem every_legal_block_decodes (evs : List HEv) (hv : advertisedOk evs) :
    ∃ st, hrun {} evs = some st ∧ st.hp.dec.tab = st.snd.tab :=
  HInv.decodes ⟨rfl, rfl, by decide, by intro v hv; cases hv⟩ hv

/-- Non-vacuity: a history with a lagging acknowledgement, a grow, a shrink and table references —
all blocks legal, all decoded (`hrun` skips illegal blocks, so legality is checked separately). -/
def hSample : List HEv :=
  [.block [.litInc [1] [2], .litInc [3] [4]], .advertise 65536, .block [.indexed 1, .litIncRef 0 [5]],
   .ack, .block [.sizeUpdate 65536, .indexed 2], .advertise 0, .block [.indexed 0, .indexed 2],
   .ack, .block [.sizeUpdate 0, .lit [7] [8]]]

example : (hrun {} hSample).map (fun st => (st.snd.tab.ents.length, st.snd.limit)) = some (0, 0) := by decide +kernel
example : sndBlock { tab := { ents := [⟨[1], [2]⟩] } } [.indexed 0] = some ({ ents := [⟨[1], [2]⟩] }, [⟨[1], [2]⟩]) := by decide +kernel

/-- F08e, the code before the repair (`Hp.updateTableSizeOld`: the decoder's table was resized as
soon as the SETTINGS passed by): the client shrinks its table to 0 while a response block that
refers to the newest entry is on its way — the block is legal for the server, whose encoder has not
seen the SETTINGS, and it does not decode at the relay. -/
theorem decoder_resized_on_settings_counterexample :
    hrunWith Hp.updateTableSizeOld {} [.block [.litInc [120] [121]], .advertise 0, .block [.indexed 0]] = none ∧
    (hrun {} [.block [.litInc [120] [121]], .advertise 0, .block [.indexed 0]]).isSome = true := by
  decide +kernel

/-- An `updateTableSize` that also caps what the decoder allows at the latest SETTINGS seen. -/
def updCapped (h : Hp) (v : Nat) : Hp := { dec := { h.dec with allowed := v }, enc := h.enc.setMax v }

/-- Test of tightness (seeded class): a decoder whose allowed size follows the latest SETTINGS seen rejects the
size update of a sender that still works, legally, under the previous one. -/
theorem allowed_capped_at_latest_setting_counterexample :
    hrunWith updCapped {} [.advertise 65536, .ack, .advertise 4096, .block [.sizeUpdate 65536, .lit [1] [2]]] = none ∧
    (hrun {} [.advertise 65536, .ack, .advertise 4096, .block [.sizeUpdate 65536, .lit [1] [2]]]).isSome = true := by
  decide +kernel

/-- **The relay's size updates are the destination's own values.** Between two blocks the relay
encodes towards an endpoint, let that endpoint advertise `vs` (any number of values, in any
order, all 32-bit). The size updates the relay writes in front of the next block are all members
of `vs`, the last one is the last value advertised, and afterwards nothing is pending: the
endpoint's decoder, which has to accept any size up to what it advertised, accepts them. With no
new advertisement nothing is written. -/
theorem relay_size_updates_are_advertised (e : EncSig) (hp : e.pending = false) (hm : e.minSize = none)
    (vs : List Nat) (hv : ∀ v ∈ vs, v ≤ e.limit) :
    let r := (vs.foldl EncSig.setMax e).flush
    (∀ u ∈ r.2, u ∈ vs) ∧ r.2.getLast? = vs.getLast? ∧ r.1.pending = false ∧ r.1.minSize = none ∧
    r.1.limit = e.limit := by
  obtain ⟨h1, h2, h3, h4⟩ := foldl_setMax vs e hv
  by_cases hne : vs = []
  · subst hne; simp [EncSig.flush, hp, hm]
  · have hl := List.getLast?_eq_some_getLast hne
    rw [hl, Option.getD_some] at h2
    have h3' : (vs.foldl EncSig.setMax e).pending = true := by
      rw [h3, hp]; cases vs with | nil => exact absurd rfl hne | cons => rfl
    generalize vs.foldl EncSig.setMax e = E at *
    simp only [EncSig.flush, h3', if_true, List.getLast?_concat, hl, h1, and_true]
    refine ⟨fun u hu => ?_, congrArg some h2⟩
    rcases List.mem_append.mp hu with hu | hu
    · cases hmin : E.minSize with
      | none => simp [hmin] at hu
      | some m =>
        rw [hmin] at hu
        dsimp only at hu
        by_cases hlt : m < E.maxSize
        · rw [if_pos hlt] at hu
          exact List.mem_singleton.mp hu ▸ (h4 m hmin).resolve_right (by simp [hm])
        · simp [hlt] at hu
    · exact List.mem_singleton.mp hu ▸ h2 ▸ List.getLast_mem hne

/-- Non-vacuity / shape: 100 then 65536 between two blocks is announced as "100, 65536"; 65536
then 100 as "100". -/
example : (([100, 65536].foldl EncSig.setMax { limit := 4294967295 }).flush).2 = [100, 65536] := by decide +kernel
example : (([65536, 100].foldl EncSig.setMax { limit := 4294967295 }).flush).2 = [100] := by decide +kernel

/-- (size update, table size the destination advertised last) for every size update that stands
in front of a block still QUEUED on relay `d` and exceeds that size. -/
def staleQueued (s : Sys) (d : Dir) : List (Nat × Nat) :=
  (s.relay d).keys.flatMap fun t => ((s.relay d).ob t).q.flatMap fun f =>
    match f.stamp? with
    | some st => ((((s.flushLog d)[st]?).getD []).filter (fun u => decide (u > (s.hp d).enc.maxSize))).map
        fun u => (u, (s.hp d).enc.maxSize)
    | none => []

/-- The full statement: in every reachable state, no queued block carries a size update above the
table size its receiver has advertised last (and will enforce once the acknowledgement, which is
forwarded at once, has arrived). FALSE for the code as it is: the update is written when the
block is enqueued, not when it leaves. -/
def QueuedSizeUpdatesCurrent : Prop :=
  ∀ (evs : List Ev) (s' : Sys) (d : Dir), runSys {} evs = some s' → staleQueued s' d = []

/-- Witness: the server grants no stream window and advertises a table of 4096; the client's
trailers are encoded (size update 4096 in front) and wait behind DATA; the server advertises 31. -/
def staleHistory : List Ev :=
  [⟨.s2c, .settings [(4, 0)], [], []⟩, ⟨.c2s, .headers 1 false true none [0, 1, 97, 1, 98], [0, 0], []⟩,
   ⟨.c2s, .data 1 false [1, 2, 3] none, [], []⟩, ⟨.s2c, .settings [(1, 4096)], [], []⟩,
   ⟨.c2s, .headers 1 true true none [0, 1, 99, 1, 100], [0, 0, 0, 0, 0], []⟩, ⟨.s2c, .settings [(1, 31)], [], []⟩]

theorem queued_size_updates_current_counterexample : ¬ QueuedSizeUpdatesCurrent := by
  intro h
  have h1 : (runSys {} staleHistory).map (fun s => staleQueued s .c2s) = some [(4096, 31)] := by decide +kernel
  obtain ⟨s', hr, hq⟩ := Option.map_eq_some_iff.mp h1
  rw [h staleHistory s' .c2s hr] at hq
  cases hq

/-- What does hold (partial): at the moment a block is ENCODED the updates written in front of it
are current — the last one is the table size in force at the encoder, i.e. the destination's last
advertisement (`relay_size_updates_are_advertised`). A block that leaves in the step that encoded
it is therefore never stale; only a block that waits can become so. -/
theorem size_updates_current_at_encode_partial (s : Sys) (d : Dir) :
    (s.encodeBlock d).flushLog d = s.flushLog d ++ [(s.hp d).enc.flush.2] ∧
    ((s.encodeBlock d).hp d).enc.maxSize = (s.hp d).enc.maxSize ∧
    ∀ u, (s.hp d).enc.flush.2.getLast? = some u → u = (s.hp d).enc.maxSize := by
  refine ⟨by cases d <;> rfl, by cases d <;> simp [Sys.encodeBlock, Sys.hp, Sys.setHp], ?_⟩
  intro u hu
  unfold EncSig.flush at hu
  split at hu
  · simp only [List.getLast?_concat, Option.some.injEq] at hu
    exact hu.symm
  · simp at hu

/-- **Literal blocks.** A block of literal-without-indexing representations (what the
model-compared harness endpoints send, and what the model carries as an opaque block) decodes in
every decoder state, to its own fields, and leaves the decoder as it was. -/
theorem literal_blocks_leave_table_alone (d : Dec) (first : Bool) (fs : List Ent) :
    decBlock d first (fs.map fun e => Rep.lit e.name e.value) = some (d, fs) := by
  induction fs generalizing first with
  | nil => rfl
  | cons e rest ih => simp [decBlock, decRep, ih false]

/-- **An empty field list is still a header block.** A block that consists of dynamic table size
updates only decodes to no field at all (`decodeFull` succeeds with `[]`), the re-encoded block is
empty, and `relay.header` still enqueues exactly one frame for it whose one fragment is empty: a
HEADERS frame with an empty payload that carries the block's END_STREAM (and priority) — for every
relay state, every legal MAX_FRAME_SIZE, with or without priority. Nothing is written in front of it
and the encoder's pending size updates stay pending (`encodeEmpty`). -/
theorem empty_field_list_block_is_forwarded (r : Relay) (sid : Nat) (es : Bool) (prio : Prio) :
    acceptedOf r (.header sid [] es prio []) = [.headers sid es prio r.nextStamp [] [[]]] ∧
    (∀ (d : Dec) (n : Nat), n ≤ d.allowed →
        d.decodeFull [.sizeUpdate n] = some ({ d with tab := d.tab.setMax n }, [])) ∧
    (∀ (s : Sys) (dir : Dir), (s.encodeFull dir true).hp dir = s.hp dir ∧
        (s.encodeFull dir true).flushLog dir = s.flushLog dir ++ [[]]) := by
  refine ⟨?_, ?_, ?_⟩
  · simp [acceptedOf, splitIntoChunks, chunkRest]
  · exact fun d n hn => decBlock_sizeUpdate d true n [] (Or.inl rfl) hn
  · intro s dir
    cases dir <;> exact ⟨rfl, rfl⟩

/-- Through the whole relay: the empty HEADERS frame is emitted at once when the stream window is not negative
(a header frame has flow-control size 0). -/
example : (rstep {} (.header 1 [] true Prio.zero [])).emitted = [.headers 1 true Prio.zero 0 [] [[]]] := by
  decide +kernel

/-! ### Facts regenerated from `/repo` on every run (`go/cmd/vextract/facts_c08.go`) -/

/-- `newRelay` / `updateTableSize` are what `Hp` and `Hp.updateTableSize` transcribe: tables start
at `initialMaxHeaderTableSize`; the decoder accepts any in-band size update and the encoder may
follow any advertised size (`math.MaxUint32`, set in `newRelay` and nowhere else);
`updateTableSize` sets the encoder's size and does not touch the decoder (F08e repair). -/
theorem facts_hpack_table_sizes :
    Generated.H2Relay.initialMaxHeaderTableSize = ({} : Hp).dec.tab.maxSize ∧
    Generated.H2Relay.initialMaxHeaderTableSize = ({} : Hp).enc.maxSize ∧
    Generated.H2Relay.initialMaxHeaderTableSize = ({} : Snd).limit ∧
    Generated.H2Relay.decoderAllowsAnySizeUpdate = true ∧ ({} : Hp).dec.allowed = 4294967295 ∧
    Generated.H2Relay.encoderLimitIsMaxUint32 = true ∧ ({} : Hp).enc.limit = 4294967295 ∧
    Generated.H2Relay.updateTableSizeSetsEncoder = true ∧
    Generated.H2Relay.updateTableSizeTouchesDecoder = false := by
  decide +kernel

/-- `splitIntoChunks` produces its first chunk unconditionally (outside any loop: also for an empty
block), and `queuedHeaderFrame.send` / `queuedPushPromiseFrame.send` write the HEADERS /
PUSH_PROMISE frame unconditionally — as `splitIntoChunks` (`data.take firstMax :: …`) and
`QFrame.wireMax` have it. -/
theorem facts_first_chunk_unconditional :
    Generated.H2Relay.firstChunkUnconditional = true ∧ Generated.H2Relay.headersFrameWrittenUnconditionally = true := by
  decide +kernel

/-- No framer of the proxy is given a read limit below the legal maximum (`http2.NewFramer`'s
default, 2^24-1): each endpoint's SETTINGS_MAX_FRAME_SIZE is forwarded unchanged, so frames up to
that size are legal input (`Frame` puts no bound on fragments; end to end: `e2e-bigframe`). -/
theorem facts_framers_accept_advertised_frame_sizes :
    Generated.H2Relay.framersAcceptAdvertisedFrameSizes = true := by decide +kernel

end Martian.Props.C08
