import Martian.Lemmas.VerifyConc
/-!
C13 — the concurrent clause: queries and resets racing traffic.

Model: `Model/VerifyConc.lean` (cells, atomic steps, step programs of the Modify*/Reset* walks,
non-atomic queries, phased histories). The atomicity of a step is what the lock facts give
(`Props/C13/Locks.lean`); everything here quantifies over ALL interleavings of steps.

What is proved, per side of the tree (the two sides share no state):
* the step programs refine the sequential model (`modify_refines_steps`, `reset_refines_steps`,
  `atomic_query_reads_cells`, `sequential_phases_are_the_model`);
* with NO assumption on locks above the verifiers: a verifier's list only grows between resets, so a
  failure recorded before a query's read is in that read, once (`conc_cell_only_grows`,
  `no_failure_lost`), and a query that is not atomic reports, for every verifier, what it held when
  the query began plus exactly what was recorded before it was read (`conc_query_exact`);
* where verify and reset walks hold an exclusive lock and exchanges a shared one (fifo.Group at the
  root of the side; facts F3, F3′ of `facts_lock_discipline`), every concurrent history is linearisable: its reports
  are those of the sequential history with each batch of overlapping exchanges run in ANY order, up
  to the order of the entries of one verifier (`phased_history_linearisable`), hence equal, entry for
  entry up to that order, to the specification (`query_is_failures_since_reset_concurrent`);
* both restrictions are necessary: without the exclusive verify lock the report of a query need not
  be the report of any sequential order (`nonatomic_query_not_linearisable_counterexample`), and even
  with it the order inside the report need not be that of any sequential order
  (`report_order_not_sequential_counterexample`).
-/
namespace Martian.Props.C13
open Martian Martian.Verify

/-- The verification handler's output for one side is the cells' report. -/
theorem atomic_query_reads_cells (side : Side) (t : T) :
    handlerErrors (t.verify side) = Cells.report (t.cells side) ∧
      Cells.qrun (t.cells side) 0 (List.replicate (t.cells side).length []) = Cells.report (t.cells side) :=
  ⟨T.query_cells side t, Cells.qrun_atomic _⟩

/-- Running the steps of `Modify*` for an exchange, uninterrupted, is `T.modify` — wherever the
subtree's cells sit among the others. -/
theorem modify_refines_steps (side : Side) (m : Msg) (t : T) (pre post : Cells) :
    Cells.run (pre ++ t.cells side ++ post) (t.mprog side m pre.length) =
      pre ++ (t.modify side m).1.cells side ++ post :=
  T.run_mprog side m t pre post

theorem reset_refines_steps (side : Side) (t : T) (pre post : Cells) :
    Cells.run (pre ++ t.cells side ++ post) (t.rprog side pre.length) =
      pre ++ (t.reset side).cells side ++ post :=
  T.reset_eq_clear side t ▸ T.run_rprog side t pre post

/-- Which steps an exchange or a reset performs does not depend on what the verifiers hold. -/
theorem programs_state_independent (side : Side) (t : T) (h : List Op) (m : Msg) (off : Nat) :
    (T.runOps side t h).mprog side m off = t.mprog side m off ∧
      (T.runOps side t h).rprog side off = t.rprog side off :=
  ⟨(T.mprog_of_clear side m (T.runOps side t h) t (T.runOps_clear side h t) off).symm,
   (T.rprog_of_clear side (T.runOps side t h) t (T.runOps_clear side h t) off).symm⟩

/-- A concurrent history in which nothing overlaps IS the sequential model. -/
theorem sequential_phases_are_the_model (side : Side) (t : T) (H : List COp) :
    runPhases Phase.seq (t.cells side) (H.map (COp.phase side t)) =
      ((T.runOps side t (H.flatMap COp.linear)).cells side, T.reports side t (H.flatMap COp.linear)) :=
  seq_phases_refine side t H t rfl

/-- Between resets a verifier's list only grows, by appending: whatever steps `σ` other goroutines
perform, as long as none of them resets this verifier, a read yields what was there before followed
by exactly the errors added to it — nothing lost, nothing duplicated, nothing reordered. -/
theorem conc_cell_only_grows (c : Cells) (i : Nat) (l : List Bytes) (σ : List Step)
    (hc : c[i]? = some (.errs l)) (h : noClr i σ = true) : (c.run σ).read i = l ++ adds i σ := by
  rw [read_grown c i σ h, hc]
  rfl

/-- After a reset of the verifier only what was recorded after it is left. -/
theorem conc_cell_after_reset (c : Cells) (i : Nat) (l : List Bytes) (σ1 σ2 : List Step)
    (hc : c[i]? = some (.errs l)) (h : noClr i σ2 = true) : (c.run (σ1 ++ .clr i :: σ2)).read i = adds i σ2 := by
  obtain ⟨l', hl'⟩ := run_keeps_errs i σ1 c l hc
  rw [Cells.run_append, Cells.run_cons, read_grown _ i σ2 h, getElem?_step, hl']
  simp [Step.cell, Step.fn, Cell.clear, Cell.grown]

/-- **No failure recorded before a query's read is lost**, under ANY schedule: if the steps `P` of a
completed exchange happened, interleaved with anything, within the stretch `B` of the history, and
neither `B` nor what follows up to the read (`pre`) resets verifier `i`, then every error `P` added
to verifier `i` is in the value the query reads, in order. -/
theorem no_failure_lost (c : Cells) (i : Nat) (l : List Bytes) (A B pre P : List Step)
    (hc : c[i]? = some (.errs l)) (h : noClr i (B ++ pre) = true) (hP : P.Sublist B) :
    (adds i P).Sublist ((c.run (A ++ (B ++ pre))).read i) := by
  obtain ⟨l', hl'⟩ := run_keeps_errs i A c l hc
  rw [Cells.run_append, conc_cell_only_grows (c.run A) i l' (B ++ pre) hl' h, adds_append]
  exact List.Sublist.trans (List.Sublist.filterMap _ hP)
    ((List.sublist_append_left _ _).trans (List.sublist_append_right _ _))

/-- **A query that is not atomic** (verifiers below a filter or at the root: nothing but each
verifier's own lock is held): with `gs[k]` = the foreign steps between its reads and no reset
overlapping it, it reports for every verifier what the verifier held when the query began, followed
by exactly what was recorded before the verifier was read (`Cells.qspec`, `Cell.grown`). -/
theorem conc_query_exact (c : Cells) (gs : List (List Step)) (h : qNoReset 0 [] gs = true) :
    Cells.qrun c 0 gs = Cells.qspec c 0 [] gs :=
  qrun_eq_qspec c gs 0 [] h

/-- What a verifier held when a non-atomic query began is a prefix of its part of the report. -/
theorem grown_prefix (i : Nat) (σ : List Step) (l : List Bytes) : l <+: (Cell.errs l).grown i σ :=
  List.prefix_append _ _

/-- Exchanges that overlap each other (but no query or reset) leave the verifiers as ANY sequential
order of them does, up to the order inside each verifier's list. -/
theorem batch_linearisable (side : Side) (t : T) (ms : List Msg) (σ : List Step)
    (h : Interleaving (ms.map fun m => t.mprog side m 0) σ) :
    ((t.cells side).run σ).equiv ((T.runOps side t (ms.map .traffic)).cells side) := by
  rw [← T.run_mprogs side t ms t rfl]
  exact batch_equiv h (COp.phase_ok side t (.batch ms σ) h).2 (Cells.equiv_refl _)

/-- **Linearisability.** For every tree and every concurrent history in phases — batches of
exchanges interleaved in any way, separated by atomic queries and resets — the reports of the
queries are, report by report and up to the order of entries, the reports of the SEQUENTIAL model on
the history in which every batch is replaced by its exchanges in the order listed (any order; in
particular one that respects each goroutine's own order); the final states agree likewise. -/
theorem phased_history_linearisable (side : Side) (t : T) (H : List COp) (hok : ∀ op ∈ H, op.ok side t) :
    let conc := runPhases Phase.conc (t.cells side) (H.map (COp.phase side t))
    conc.1.equiv ((T.runOps side t (H.flatMap COp.linear)).cells side) ∧
      permLists conc.2 (T.reports side t (H.flatMap COp.linear)) := by
  have := runPhases_linearisable _ (t.cells side) (t.cells side)
    (List.forall_mem_map.mpr fun op hop => COp.phase_ok side t op (hok op hop)) (Cells.equiv_refl _)
  rwa [seq_phases_refine side t H t rfl] at this

/-- **`query_is_failures_since_reset` for concurrent histories**: from the initial state, every
query of a phased concurrent history reports, up to the order of entries, exactly what the
specification `T.spec` demands for the exchanges since the last reset. -/
theorem query_is_failures_since_reset_concurrent (side : Side) (t : T) (hf : t.clear = t) (H : List COp)
    (hok : ∀ op ∈ H, op.ok side t) :
    permLists (runPhases Phase.conc (t.cells side) (H.map (COp.phase side t))).2
      (specReports side t [] (H.flatMap COp.linear)) := by
  have h := (phased_history_linearisable side t H hok).2
  rwa [T.reports_spec side t _ t [] rfl (hf ▸ T.tracks_clear side t)] at h

def cxMsg (method : String) (id : String) : Msg :=
  { api := false, method := strBytes method, scheme := strBytes "http", host := strBytes "h", path := strBytes "/p",
    query := [], frag := strBytes id, reqH := [], status := 200, resH := [] }

/-- `method.Filter(GET)` holding a `failure.Verifier` in each branch, nothing above it. -/
def cxFilter : T := .filter (.method (strBytes "GET")) (.ver (.failure (strBytes "A")) []) (.ver (.failure (strBytes "B")) [])

/-- Exchange `x` goes to the branch the verify walk reads FIRST, `y` to the one it reads second
(whichever order the code visits them in). -/
def cxX : Msg := cxMsg (if elseFirst .req then "POST" else "GET") "m1"
def cxY : Msg := cxMsg (if elseFirst .req then "GET" else "POST") "m2"

/-- The query reads the first branch, then `x` and `y` run one after the other (same goroutine), then the
query reads the second branch: it reports `y`'s failure but not `x`'s. -/
def cxReport : List Bytes :=
  Cells.qrun (cxFilter.cells .req) 0 [[], cxFilter.mprog .req cxX 0 ++ cxFilter.mprog .req cxY 0]

/-- **Without an exclusive lock held by the verify walk a query is not linearisable as one
operation**: `x` completed before `y` began, yet the query reports `y`'s failure and not `x`'s — no
sequential order of {x, y, query} with x before y reports that. (Each verifier's part is still exact:
`conc_query_exact`; the property only demands that nothing recorded before the query began is lost.) -/
theorem nonatomic_query_not_linearisable_counterexample :
    cxReport.length = 1 ∧
    ∀ h ∈ [[Op.query, .traffic cxX, .traffic cxY], [.traffic cxX, .query, .traffic cxY], [.traffic cxX, .traffic cxY, .query]],
      T.reports .req cxFilter h ≠ [cxReport] := by
  decide +kernel

/-- A `fifo.Group` holding two `failure.Verifier`s. -/
def cxGroup : T := .group false (.cons (.ver (.failure (strBytes "A")) []) (.cons (.ver (.failure (strBytes "B")) []) .nil))

/-- Two overlapping exchanges: x at A, y at A, y at B, x at B. -/
def cxSigma : List Step :=
  match cxGroup.mprog .req cxX 0, cxGroup.mprog .req cxY 0 with
  | [x0, x1], [y0, y1] => [x0, y0, y1, x1]
  | _, _ => []

/-- **Even under the exclusive verify lock the ORDER inside the report is not that of a sequential
history**: verifier A saw x before y, verifier B saw y before x. So `permLists` in
`phased_history_linearisable` cannot be strengthened to equality (the property counts entries; it
prescribes no order). -/
theorem report_order_not_sequential_counterexample :
    Interleaving [cxGroup.mprog .req cxX 0, cxGroup.mprog .req cxY 0] cxSigma ∧
    (let r := Cells.report ((cxGroup.cells .req).run cxSigma)
     r.length = 4 ∧
     r ≠ Cells.report ((T.runOps .req cxGroup [.traffic cxX, .traffic cxY]).cells .req) ∧
     r ≠ Cells.report ((T.runOps .req cxGroup [.traffic cxY, .traffic cxX]).cells .req)) := by
  refine ⟨?_, by decide +kernel⟩
  simp only [cxSigma, cxGroup, T.mprog_failure_pair _ _ cxX rfl, T.mprog_failure_pair _ _ cxY rfl]
  refine .pick _ 0 _ _ _ rfl (.pick _ 1 _ _ _ rfl (.pick _ 1 _ _ _ rfl (.pick _ 0 _ _ _ rfl (.done _ ?_))))
  simp

/-- The hypotheses of `phased_history_linearisable` are satisfiable by a history with a real overlap;
its query reports the four failures. -/
example : (COp.batch [cxX, cxY] cxSigma).ok .req cxGroup := report_order_not_sequential_counterexample.1

example : ((runPhases Phase.conc (cxGroup.cells .req)
    ([COp.batch [cxX, cxY] cxSigma, .query, .reset, .query].map (COp.phase .req cxGroup))).2.map List.length) = [4, 0] := by
  decide +kernel

/-- `no_failure_lost` applies: x's failure at verifier A (cell 0), recorded while y runs concurrently. -/
example : noClr 0 (cxSigma ++ []) = true ∧ (cxGroup.mprog .req cxX 0).Sublist cxSigma := by
  refine ⟨by decide +kernel, ?_⟩
  simp only [cxSigma, cxGroup, T.mprog_failure_pair _ _ cxX rfl, T.mprog_failure_pair _ _ cxY rfl]
  exact .cons_cons _ (.cons _ (.cons _ (.cons_cons _ .slnil)))

end Martian.Props.C13
