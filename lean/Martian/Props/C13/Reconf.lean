import Martian.Lemmas.VerifyConc
/-!
C13 — reconfiguration: the handlers read the pair of trees in force, nothing else.

`martianhttp.Modifier` keeps one request modifier and one response modifier; `VerifyRequests`,
`VerifyResponses` and the two reset walks look the verifier up in that pair at the time of the call
(type assertion on the current field). The model has no other state (`State` IS the pair):
`State.post` = a re-POST of a configuration (both sides replaced, or nothing when rejected),
`State.setSide` = `SetRequestModifier` / `SetResponseModifier`. So whatever happened before a
reconfiguration — failures recorded in the tree it replaces included — is invisible afterwards.
Tied to the code by the ops `tree r` and `set q|s` on the real `martianhttp.Modifier`.
-/
namespace Martian.Props.C13
open Martian Martian.Verify

theorem runE_append (s : State) (h1 h2 : List EOp) : s.runE (h1 ++ h2) = (s.runE h1).runE h2 :=
  List.foldl_append

theorem runE_ops (s : State) (h : List Op) : s.runE (h.map .op) = s.run h :=
  List.foldl_map

theorem run_sides (s : State) (h : List Op) :
    s.run h = ⟨T.runOps .req s.req h, T.runOps .res s.res h⟩ := by
  induction h generalizing s with
  | nil => rfl
  | cons op h ih =>
    simp only [State.run, List.foldl_cons, T.runOps] at ih ⊢
    rw [ih]
    cases op <;> rfl

/-- One side, any fresh tree, any history: the report is the specification of the exchanges since
the last reset (the per-side form of `query_is_failures_since_reset`). -/
theorem side_query_is_failures_since_reset (side : Side) (t0 : T) (hf : t0.clear = t0) (h : List Op) :
    handlerErrors ((T.runOps side t0 h).verify side) = t0.spec side (sinceReset h) :=
  T.report_runOps side t0 t0 [] rfl (hf ▸ T.tracks_clear side t0) h

theorem install_sides (c : Cfg) (s : State) (hi : c.install = some s) :
    ∃ q r, c.compile .req = some q ∧ c.compile .res = some r ∧ s = ⟨q.getD .nop, r.getD .nop⟩ := by
  simp only [Cfg.install] at hi
  split at hi
  · rename_i q r hq hr
    simp only [Option.some.injEq] at hi
    exact ⟨q, r, hq, hr, hi.symm⟩
  · cases hi

/-- **After a re-POST the handlers read the NEW tree only**: whatever the state and the history
before it (failures recorded in the replaced tree included), after an accepted configuration `c`
and any further exchanges, queries and resets, a query reports exactly what `c`'s own tree calls
for. -/
theorem query_after_post_reads_tree_in_force (s0 s1 : State) (c : Cfg) (hi : c.install = some s1)
    (h1 : List EOp) (h2 : List Op) :
    (s0.runE (h1 ++ .post c :: h2.map .op)).query = s1.spec (sinceReset h2) := by
  rw [(runE_append s0 h1 (.post c :: h2.map .op)).trans (runE_ops ((s0.runE h1).post c) h2)]
  simp only [State.post, hi, Option.getD_some]
  obtain ⟨q, r, hq, hr, rfl⟩ := install_sides c s1 hi
  rw [run_sides]
  simp only [State.query, State.spec]
  rw [side_query_is_failures_since_reset .req _ (Cfg.compile_fresh .req c q hq) h2,
    side_query_is_failures_since_reset .res _ (Cfg.compile_fresh .res c r hr) h2]

/-- **After `SetRequestModifier` / `SetResponseModifier` that side of every query reads the new
modifier only** (nil and non-verifiers: nothing), whatever was recorded before. -/
theorem query_after_set_reads_modifier_in_force (side : Side) (s0 : State) (c : Cfg) (o : Option T)
    (hc : c.compile side = some o) (h1 : List EOp) (h2 : List Op) :
    let s := s0.runE (h1 ++ .set side c :: h2.map .op)
    handlerErrors ((match side with | .req => s.req | .res => s.res).verify side) =
      (o.getD .nop).spec side (sinceReset h2) := by
  have hfresh := Cfg.compile_fresh side c o hc
  intro s
  have hs : s = ((s0.runE h1).setSide side c).run h2 := (runE_append s0 h1 _).trans (runE_ops _ h2)
  rw [hs, run_sides]
  cases side
  · simp only [State.setSide, hc]
    exact side_query_is_failures_since_reset .req _ hfresh h2
  · simp only [State.setSide, hc]
    exact side_query_is_failures_since_reset .res _ hfresh h2

/-- `Set*Modifier` does not touch the other side. -/
theorem set_leaves_other_side (s : State) (c : Cfg) :
    (s.setSide .req c).res = s.res ∧ (s.setSide .res c).req = s.req := by
  constructor <;> (simp only [State.setSide]; split <;> rfl)

/-- A rejected configuration changes nothing. -/
theorem rejected_reconfiguration_changes_nothing (s : State) (c : Cfg) :
    (c.install = none → s.post c = s) ∧ ∀ side, c.compile side = none → s.setSide side c = s := by
  refine ⟨fun h => by simp [State.post, h], fun side h => by simp [State.setSide, h]⟩

def rcMsg : Msg :=
  { api := false, method := strBytes "GET", scheme := strBytes "http", host := strBytes "h", path := strBytes "/p",
    query := [], frag := strBytes "m1", reqH := [], status := 404, resH := [] }
def rcCfg0 : Cfg := .leaf (.ver (.failure (strBytes "L1"))) ⟨false, false, false⟩
def rcCfg1 : Cfg := .leaf (.ver (.status 404)) ⟨false, false, false⟩

/-- A tree with a failing request verifier, then a re-POST of a response-only configuration (or a
`SetRequestModifier` with its nil request side): the request failure is gone with the tree. -/
example :
    ((State.runE ⟨.nop, .nop⟩ [.post rcCfg0, .op (.traffic rcMsg)]).query.length = 1) ∧
    ((State.runE ⟨.nop, .nop⟩ [.post rcCfg0, .op (.traffic rcMsg), .post rcCfg1]).query = []) ∧
    ((State.runE ⟨.nop, .nop⟩ [.post rcCfg0, .op (.traffic rcMsg), .set .req rcCfg1]).query = []) := by
  decide +kernel

end Martian.Props.C13
