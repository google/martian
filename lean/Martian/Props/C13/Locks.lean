import Martian.Lemmas.VerifyLocks
/-!
C13 — data-race freedom from the regenerated lock facts.

`Model/VerifyLocks.lean` computes, from `Generated.Verify.lockFacts` / `multiErrorLockFacts`, every
access to mutable verifier state that an exchange, a query and a reset can make in a given tree, with
the mutexes held (ancestors' mutexes as held across the call into the child, the verifier's own, the
MultiError's own). `raceFreeB` = lockset discipline over all pairs of accesses of all pairs of
operations (two goroutines may run the same operation).

The lock facts the theorems depend on (all re-extracted from /repo on every run and evaluated
together by `lock_tables` in `Lemmas/VerifyLocks.lean`; the theorems below stop compiling when one
of them changes):
* F1 `factMultiErrorLocked`: every method of `MultiError` touches `errs` with `mu` held, writes with
  `mu.Lock` (F13c-Empty).
* F2 `factRootExclusiveReset`: `martianhttp.Modifier.Reset*Verifications` holds `mu.Lock` across the call
  into the tree; `Modify*` and `Verify*` hold `mu` (shared) across theirs (seed C13-D breaks this).
* F3 `factGroupExclusiveReset`, F3′ `factGroupExclusiveVerify`: the same for `fifo.Group`'s
  `reqmu`/`resmu`, and its verify walk holds them exclusively too.
* F4′ `factFieldsDisciplined`: every field of a verifier that a walk method writes is either always
  accessed under the verifier's own mutex (pingback's `err`) or written by the reset walk only (the
  `*MultiError` field that `Reset*Verifications` replaces — F13c-swap).
* F4 `factNoUnguardedField`: no verifier touches such a field outside its own mutex. It holds of a
  source whose resets clear the `MultiError` in place and fails of one whose resets replace the
  pointer, so the theorems that need it take it as a hypothesis and `reset_swap_status` covers both.
-/
namespace Martian.Props.C13
open Martian Martian.Verify

/-- The lock facts (F1, F2, F3, F3′, F4′), as extracted from the source. -/
theorem facts_lock_discipline :
    factMultiErrorLocked = true ∧ factRootExclusiveReset = true ∧ factGroupExclusiveReset = true ∧
      factGroupExclusiveVerify = true ∧ factFieldsDisciplined = true := by
  obtain ⟨lockFacts, _, _⟩ := lock_tables
  exact lockFacts

/-- **Race freedom in cmd/proxy's wiring**: for EVERY tree behind `martianhttp.Modifier`, any two
accesses to the same mutable field of the same verifier object, one of them a write, made by any
two of {exchange, query, reset} running concurrently, hold a common mutex, one of them for writing.
Depends on F1, F2, F4′. -/
theorem race_free_behind_martianhttp (side : Side) (t : T) : raceFreeB .martianhttp side t = true := by
  obtain ⟨hF, hR, _, _, hD⟩ := facts_lock_discipline
  obtain ⟨L⟩ := rootLock hR side
  refine raceFreeB_of_pairs _ side t ?_
  intro k1 k2 a ha b hb hl hw
  exact pair_excl hD side _ L (T.acc_inv hF side k1 t _ [] a ha) (T.acc_inv hF side k2 t _ [] b hb) hl hw

/-- **Race freedom without `martianhttp.Modifier`** (the parse result handed to the handlers
directly) when every verifier sits below a `fifo.Group`. Depends on F1, F3, F4′. -/
theorem race_free_under_groups (side : Side) (t : T) (hc : t.covered = true) : raceFreeB .direct side t = true := by
  obtain ⟨⟨hF, _, hG, _, hD⟩, pingbackOwnGuarded, _⟩ := lock_tables
  refine raceFreeB_of_pairs _ side t ?_
  have hP : typOwnGuarded "pingback.Verifier" side = true := by
    cases side
    · exact pingbackOwnGuarded.1
    · exact pingbackOwnGuarded.2
  exact T.covered_pairsOk hF hD hG side hP t (rootCtx .direct side) [] hc

/-- **Race freedom for every tree in every wiring once resets clear in place** (F4): nothing but each
object's own mutex is needed. Depends on F1, F4. -/
theorem race_free_everywhere_of_locked_reset (hN : factNoUnguardedField = true) (w : Wiring) (side : Side) (t : T) :
    raceFreeB w side t = true := by
  obtain ⟨hF, _, _, _, _⟩ := facts_lock_discipline
  refine raceFreeB_of_pairs _ side t ?_
  intro k1 k2 a ha b hb hl hw
  exact excl_of_selfGuarded (T.acc_selfGuarded hF hN side k1 t _ [] a ha) (T.acc_selfGuarded hF hN side k2 t _ [] b hb)
    (sameLoc_eq hl).1 hw

/-- **F13c-swap, exactly**: either the source is repaired (F4 holds, and then every tree is race free
in every wiring), or a bare `status.Verifier` wired directly to the handlers violates the discipline
(its `Reset*Verifications` writes the `*MultiError` field that `Modify*`/`Verify*` read, with no mutex
in common) — `race B` of the harness reproduces that one with the race detector. -/
theorem reset_swap_status :
    (factNoUnguardedField = true ∧ ∀ w side t, raceFreeB w side t = true) ∨
    (factNoUnguardedField = false ∧ raceFreeB .direct .res (.ver (.status 200) []) = false ∧
      raceFreeB .direct .res (.filter (.method []) (.ver (.status 200) []) .nop) = false) := by
  obtain ⟨_, _, noUnguarded_or_racy⟩ := lock_tables
  exact noUnguarded_or_racy.imp_left fun h => ⟨h, race_free_everywhere_of_locked_reset h⟩

/-- `sync.RWMutex`: from the empty lock table, whatever sequence of `Lock`/`RLock`/`Unlock`/`RUnlock`
steps the goroutines manage to perform, two entries for the same mutex of which one is a write lock
are the same entry — a writer excludes every other holder. Hence two accesses that hold a common
mutex, one of them for writing (`excl`), are never in progress at the same time. -/
theorem rwmutex_exclusion (evs : List LockEv) (lt : LockTable) (h : LockTable.run [] evs = some lt) : lt.wf :=
  LockTable.wf_run evs LockTable.wf_nil h

/-- The access lists are not empty: an exchange writes the status verifier's list under the
MultiError's write lock and martianhttp's read lock. -/
example : ((T.ver (.status 200) []).accesses .martianhttp .res .modify).any
    (fun a => a.write && a.field == "errs" && a.held.any (fun h => h.owner == .root && !h.w)) = true := by decide +kernel

example : raceFreeB .direct .req (.group false (.cons (.ver (.failure []) []) (.cons (.ping [] [] [] [] true) .nil))) = true := by
  exact race_free_under_groups .req _ rfl

/-- A second goroutine can not take the write lock while a reader holds the mutex. -/
example : LockTable.run [] [.acquire 1 .root "mu" false, .acquire 2 .root "mu" true] = none := by decide +kernel
example : (LockTable.run [] [.acquire 1 .root "mu" false, .acquire 2 .root "mu" false, .release 1 .root "mu" false]).isSome = true := by
  decide +kernel

end Martian.Props.C13
