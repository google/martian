import Martian.Props.C05.Facts
import Martian.Props.C05.SemFacts
import Martian.Props.C05.TlsSession
import Martian.Lemmas.Proxy
import Martian.Lemmas.ProxyTrace
import Martian.Lemmas.ProxyState
/-!
C05 — MITM never downgrades and treats every tunnelled request as secure.
The model threads, per connection, `secure` (session flag), `connTls` (the connection argument each
`handle` call receives is the decrypted one) and `sessTls` (what a hijacker is handed). Proved for
every script: after a served MITM CONNECT whose tunnel starts with a TLS handshake, every later
request of that connection - the first and the N-th alike - is presented as https on a secure
session with TLS state attached, goes upstream over TLS, and a hijacker gets the decrypted
connection; before any such CONNECT (and inside a tunnel that carries plain HTTP) everything is
plain. TLS itself (handshake, certificates) is trusted; see C06 for the certificate logic.
-/
namespace Martian.Props.C05
open Martian.Proxy

variable (sd : Bool) (base : Nat) (items : List Item)

/-- Every request decrypted from a TLS MITM tunnel (any index after the CONNECT) is presented with
scheme https, a secure session and TLS state attached (whose state: `Props/C05/TlsSession.lean`). -/
theorem every_decrypted_request_is_https_secure_with_tls (j k : Nat) (rq : ReqB) (rs : ResB) (s' : St) (it : Item)
    (hj : items[j]? = some (.connectMitm true rq rs)) (hjk : j < k)
    (h : at? sd base {} 0 items k = some (s', it)) :
    Ev.reqmod k (base + k) true true true s'.tlsId ∈ runConn sd base items := by
  obtain ⟨h2, h3⟩ := at?_after_mitm (Nat.zero_le j) hjk hj h
  have := reqmod_reflects_state sd s' k (base + k) it
  simp only [h2, Bool.or_true] at this
  exact mem_run_of_at? [] h _ (by simpa using this)

/-- A request decrypted from a TLS MITM tunnel is forwarded upstream over TLS, never in cleartext:
every upstream event of it carries `tls = true`; a hijacker inside the tunnel is handed the
decrypted connection. -/
theorem upstream_over_tls_and_hijack_decrypted (j k : Nat) (rq : ReqB) (rs : ResB) (s' : St) (it : Item)
    (hj : items[j]? = some (.connectMitm true rq rs)) (hjk : j < k)
    (h : at? sd base {} 0 items k = some (s', it)) :
    (∀ t, Ev.upstream k t ∈ (handleItem sd s' k (base + k) it).1 → t = true) ∧
    (∀ t tid, Ev.hijacked k t tid ∈ (handleItem sd s' k (base + k) it).1 → t = true) := by
  obtain ⟨h2, h3⟩ := at?_after_mitm (Nat.zero_le j) hjk hj h
  constructor
  · intro t ht
    simpa [h2] using (of_item ht).2
  · intro t tid ht
    exact (of_item ht).2.1.trans h3

/-- The security state never degrades: once secure, every later request of the connection is. -/
theorem secure_state_is_sticky (s s' : St) (i k : Nat) (l : List Item) (it : Item)
    (hs : Sec s) (h : at? sd base s i l k = some (s', it)) : Sec s' :=
  at?_sec hs h

/-- Before any TLS MITM CONNECT - in particular on a plain connection, after a blind CONNECT failure,
and inside a MITM tunnel that does not start with a TLS handshake - requests are plain HTTP on an
insecure session. -/
theorem non_tls_traffic_is_plain_insecure (k : Nat) (s' : St) (it : Item)
    (hno : ∀ j, j < k → ∀ x, items[j]? = some x → isTlsMitm x = false)
    (h : at? sd base {} 0 items k = some (s', it)) :
    Ev.reqmod k (base + k) false false false 0 ∈ runConn sd base items := by
  have hp : Plain s' := at?_plain ⟨rfl, rfl, rfl⟩ hno h
  obtain ⟨h1, h2, h3⟩ := hp
  have := reqmod_reflects_state sd s' k (base + k) it
  rw [h1, h2] at this
  exact mem_run_of_at? [] h _ (by simpa using this)

/-- Transparent TLS listener: the connection is decrypted from its first byte, so every request on it
- the first included - is https, on a secure session, with TLS state attached. -/
theorem transparent_tls_listener_every_request_secure (k : Nat) (s' : St) (it : Item)
    (h : at? sd base tlsListenerState 0 items k = some (s', it)) :
    Ev.reqmod k (base + k) true true true s'.tlsId ∈ runConnOn tlsListenerState sd base items := by
  have hc := (at?_tls h).2 rfl
  have := reqmod_reflects_state sd s' k (base + k) it
  rw [hc] at this
  exact mem_run_of_at? [] h _ (by simpa using this)

/-- The CONNECT request itself is answered 200 through the response modifier and the loop goes on on
the same connection (same session): the machine stays in `again`. -/
theorem connect_then_tunnel_same_connection (s : St) (i c : Nat) (tls : Bool) :
    (handleItem sd s i c (.connectMitm tls .pass .pass)).2.isAgain = true ∧
      Ev.write i 200 false true ∈ (handleItem sd s i c (.connectMitm tls .pass .pass)).1 := by
  cases tls <;> simp [handleItem, handleMitm, pre, rqErr, Next.isAgain]

/-! Non-vacuity (tests): three requests inside one TLS tunnel, the last one hijacks. -/
example : (runConn false 0 [.connectMitm true .pass .pass, .x false .pass .pass (.ok 200 false),
      .x false .pass .pass (.ok 200 false), .x false .hijack .pass (.ok 200 false)]).filter
      (fun e => match e with | .reqmod _ _ _ _ _ _ => true | .hijacked _ _ _ => true | _ => false)
    = [.reqmod 0 0 false false false 0, .reqmod 1 1 true true true 2, .reqmod 2 2 true true true 2,
       .reqmod 3 3 true true true 2, .hijacked 3 true 2] := by decide +kernel

end Martian.Props.C05
