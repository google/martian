import Martian.Skel
import Martian.Generated.Proxy
import Martian.Generated.Tunnel
/-!
C04 — structural facts of `proxy.go` (regenerated from the source on every check) that
`Model/Tunnel.lean` transcribes: the response `connect` came back with (200 for a direct dial) is
written and flushed before the pumps start; the client→target pump reads from `brw` (so bytes that
arrived with the CONNECT go first) and writes to the target connection directly, the target→client pump writes to the client connection directly;
each pump half-closes its destination when its copy ends, whatever the reason; both are joined;
the target connection is closed on return; with a downstream proxy the bytes read ahead with its
2xx head are handed over as the response body; no SO_LINGER and no deadline is set on either
tunnel connection (the final `Close` of both is graceful: `Tunnel.releaseActs … .graceful`).
-/
namespace Martian.Props.C04
open Martian Skel
open Martian.Generated.Proxy (connectBlind connect)

-- `+kernel`: `decEq` on string literals is slow enough that only the kernel is asked to evaluate it.

/-- The response `connect` came back with is written and flushed, then both copies are started
(each exactly once, in either order), then the handler returns `errClose`; the target connection is closed by the deferred
`Close` only. (Order of the two `go` statements, names of temporaries and the spelling of the
`closeWrite` helper are not pinned.) -/
theorem facts_tunnel_pumps :
    hasSeq ["set res.ContentLength = -1", "call res.Write", "call brw.Flush",
            "go copySync(cconn, brw, cconn, donec)", "return errClose"] connectBlind = true ∧
    hasSeq ["set res.ContentLength = -1", "call res.Write", "call brw.Flush",
            "go copySync(conn, cconn, conn, donec)", "return errClose"] connectBlind = true ∧
    count "go copySync(cconn, brw, cconn, donec)" connectBlind = 1 ∧
    count "go copySync(conn, cconn, conn, donec)" connectBlind = 1 ∧
    count "defer cconn.Close" connectBlind = 1 ∧ count "call cconn.Close" connectBlind = 0 := by
  decide +kernel

/-- The `closeWrite` helper half-closes: its body calls a method named `CloseWrite` (behind a type
assertion) and no `Close`. -/
theorem facts_closeWrite_half_closes :
    Martian.Generated.Tunnel.closeWriteCalls = ["CloseWrite"] :=
  rfl

theorem facts_downstream_read_ahead_handed_over :
    hasBlock ["if res.StatusCode/100 == 2 {", "call pbr.Peek", "set res.Body = ioutil.NopCloser(bytes.NewReader(b))", "}",
              "return res, conn, nil"] connect = true := by
  decide +kernel

/-- `copySync` half-closes its destination unconditionally: `closeWrite` is not inside the
`if err != nil` that follows `io.Copy` (the model's `Pump.step` treats EOF, read error and write
error alike). -/
theorem facts_half_close_whatever_the_reason :
    hasBlock ["func copySync {", "call io.Copy", "call closeWrite", "}"] connectBlind = true ∧
    count "call closeWrite" connectBlind = 1 ∧ count "call io.Copy" connectBlind = 1 := by
  decide +kernel

/-- The failed-dial branch tests only `cerr != nil` and answers with the constant 502 plus a Warning;
it returns the result of the flush (the connection is kept). -/
theorem facts_dial_failure_status_is_constant_502 :
    hasBlock ["set cerr = p.connect(req)", "if cerr != nil {", "call proxyutil.NewResponse(502)", "call proxyutil.Warning"]
      connectBlind = true ∧
    hasSeq ["if cerr != nil {", "call res.Write", "call brw.Flush", "return err", "}", "defer cconn.Close"] connectBlind = true ∧
    count "call proxyutil.NewResponse(502)" connectBlind = 1 ∧ count "call proxyutil.NewResponse(200)" connectBlind = 0 := by
  decide +kernel

/-- Nothing in the blind branch or in `connect` calls SetLinger / SetDeadline / Set(Read|Write)Deadline. -/
theorem facts_tunnel_sockopts :
    Martian.Generated.Tunnel.tunnelSockopts = [] ∧
    Martian.Generated.Tunnel.blindStatementsScanned = true :=
  ⟨rfl, rfl⟩

end Martian.Props.C04
