import Martian.Lemmas.Tunnel
/-!
C04 — several tunnels at once through one proxy.

Every CONNECT is served by its own `handleLoop` goroutine with its own `brw`, its own `cconn`, its
own response and its own two copy goroutines; `connect()` allocates a fresh `bufio.Reader/Writer`
per call, so nothing is shared between tunnels. The model of a proxy serving `n` tunnels is
therefore a list of independent tunnel states, and a global schedule is any interleaving of
per-tunnel steps. `tunnels_are_independent`: whatever the interleaving, the state (and so both
write logs) of tunnel `i` is what tunnel `i` alone produces on its own events — and that is
exactly the `upPump` / `downPump` logs the single-tunnel theorems speak about.
(Seeded defect C04-L shares a pooled read buffer between tunnels: the harness's `multi` op
checks per-tunnel byte identity with tunnel 0's 200 held back while the others connect.)
-/
namespace Martian.Props.C04
open Martian Martian.Tunnel

inductive Dir where
  | up | down
  deriving Repr, DecidableEq

/-- The running state of one tunnel: its two pumps and what each has done to its destination. -/
structure Tun where
  cfg : Cfg
  up : Pump
  down : Pump
  toTarget : List Act
  toClient : List Act
  deriving Repr, DecidableEq

/-- Right after the 200 (and the read-ahead bytes) have been written and both pumps have started. -/
def Tun.init (cfg : Cfg) (ahead early : Bytes) : Tun :=
  let u := (Pump.fresh early).start
  let d := (Pump.fresh []).start
  { cfg := cfg, up := u.1, down := d.1, toTarget := u.2, toClient := optWrite ahead ++ d.2 }

def Tun.step (t : Tun) (d : Dir) (e : Ev) : Tun :=
  match d with
  | .up =>
    let r := t.up.step (readerWriteToLoop t.cfg.target t.cfg.client) e
    { t with up := r.1, toTarget := t.toTarget ++ r.2 }
  | .down =>
    let r := t.down.step (ioCopyLoop t.cfg.client t.cfg.target) e
    { t with down := r.1, toClient := t.toClient ++ r.2 }

/-- One step of the global schedule: an event in one direction of one tunnel. -/
structure Step where
  tunnel : Nat
  dir : Dir
  ev : Ev
  deriving Repr, DecidableEq

def Tun.run (t : Tun) (steps : List Step) : Tun := steps.foldl (fun t s => t.step s.dir s.ev) t

/-- The proxy: tunnel `i` is element `i`; a step touches the tunnel it names and nothing else. -/
def sysStep (sys : List Tun) (s : Step) : List Tun := sys.modify s.tunnel (fun t => t.step s.dir s.ev)

def sysRun (sys : List Tun) (steps : List Step) : List Tun := steps.foldl sysStep sys

def mine (i : Nat) (steps : List Step) : List Step := steps.filter (fun s => s.tunnel == i)

def events (d : Dir) (steps : List Step) : List Ev :=
  steps.filterMap (fun s => if s.dir = d then some s.ev else none)

/-- For any number of tunnels and any interleaving of their steps, tunnel `i` ends in the state it
reaches alone on its own steps: no step of another tunnel changes it. -/
theorem tunnels_are_independent (sys : List Tun) (steps : List Step) (i : Nat) :
    (sysRun sys steps)[i]? = (sys[i]?).map (fun t => t.run (mine i steps)) := by
  induction steps generalizing sys with
  | nil => simp [sysRun, mine, Tun.run]
  | cons s rest ih =>
    rw [sysRun, List.foldl_cons, ← sysRun, ih, sysStep, List.getElem?_modify]
    by_cases hs : s.tunnel = i
    · cases sys[i]? <;> simp [hs, mine, Tun.run]
    · simp [hs, mine]

theorem Tun.run_eq (t : Tun) (steps : List Step) :
    t.run steps =
      let u := Pump.runFrom (readerWriteToLoop t.cfg.target t.cfg.client) t.up (events .up steps)
      let d := Pump.runFrom (ioCopyLoop t.cfg.client t.cfg.target) t.down (events .down steps)
      { t with up := u.1, down := d.1, toTarget := t.toTarget ++ u.2, toClient := t.toClient ++ d.2 } := by
  induction steps generalizing t with
  | nil => simp [Tun.run, events, Pump.runFrom]
  | cons s rest ih =>
    rw [Tun.run, List.foldl_cons, ← Tun.run, ih]
    cases hd : s.dir <;> simp [hd, Tun.step, events, Pump.runFrom]

/-- The state a tunnel reaches alone (`tunnels_are_independent`) carries exactly the logs of the
single-tunnel model: what tunnel `i` writes to its target and to its client (before the final
close) is `upPump` / `downPump` of ITS OWN early data, read-ahead bytes and events — for every schedule of every set of tunnels. -/
theorem interleaved_tunnel_logs_are_its_own (cfg : Cfg) (ahead early : Bytes) (steps : List Step) :
    let t := (Tun.init cfg ahead early).run steps
    t.toTarget = (upPump cfg early (events .up steps)).2 ∧
    t.toClient = optWrite ahead ++ (downPump cfg (events .down steps)).2 := by
  simp [Tun.run_eq, Tun.init, upPump, downPump, Pump.run]

/-- test: two tunnels, steps interleaved; tunnel 0 sees only its own bytes -/
example :
    let sys := [Tun.init ⟨⟨true, true⟩, ⟨true, true⟩⟩ [7] [], Tun.init ⟨⟨true, true⟩, ⟨true, true⟩⟩ [8, 8] []]
    ((sysRun sys [⟨1, .down, .data [5]⟩, ⟨0, .down, .data [1]⟩, ⟨1, .up, .eof⟩])[0]?).map (fun t => bytesOf t.toClient)
      = some [7, 1] := by
  simp [tunnels_are_independent, mine, interleaved_tunnel_logs_are_its_own, events, downPump, run_bytes,
    sentBy, Ev.ending, Ev.accepted]

end Martian.Props.C04
