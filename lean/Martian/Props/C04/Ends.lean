import Martian.Lemmas.Tunnel
/-!
C04 — how a tunnel ends: the three reasons a copy goroutine stops (`EndReason`), and the kind of
the final `Close` (`CloseKind`).

* Whatever ends `io.Copy` — EOF, a failed `Read` (the peer reset the connection, a deadline), a
  failed `Write` (the destination is gone) — the destination is half-closed exactly once, after the
  bytes forwarded so far, and the pump is counted as finished (so the join can complete).
* The final close of both connections is graceful; under the TCP contract `Tunnel.receive` every
  byte written before it is delivered before end-of-stream, however many bytes were still on their
  way (slow reader, multi-MiB upload). With an abortive final close (`SO_LINGER 0` on the outbound
  connection) that is false: `abortive_final_close_truncates`.
-/
namespace Martian.Props.C04
open Martian Martian.Tunnel

/-- Pump level, for every relay loop, buffered prefix, event list and reason: if something ended
the copy, the log is the writes followed by exactly one `closeWrite`, the writes are the buffered
prefix plus what the destination accepted, nothing is retained and the reason is recorded. -/
theorem destination_half_closed_whatever_the_reason (l : Loop) (held : Bytes) (evs : List Ev)
    (r : EndReason) (h : endOf evs = some r) :
    ∃ ws : List Bytes,
      (Pump.run l (.fresh held) evs).2 = ws.map .write ++ [.closeWrite] ∧
      ws.flatten = held ++ sentBy evs ∧
      (Pump.run l (.fresh held) evs).1 = ⟨[], some r⟩ := by
  have hc : closes evs = true := by simp [closes, h]
  obtain ⟨ws, hw, hf⟩ := run_of_closes l held evs hc
  exact ⟨ws, hw, hf, by simp [run_shape, h]⟩

/-- Every ending event ends the pump: EOF, read error and write error alike. -/
theorem pump_ends_on_eof_readErr_writeErr (l : Loop) (held : Bytes) (pre post : List Ev) (e : Ev)
    (he : e.ending.isSome = true) :
    (Pump.run l (.fresh held) (pre ++ e :: post)).1.finished = true ∧
    eofSeen (Pump.run l (.fresh held) (pre ++ e :: post)).2 = true := by
  have hc : closes (pre ++ e :: post) = true :=
    (closes_iff_exists_ending _).2 ⟨e, by simp, he⟩
  exact ⟨(run_finished l held _).trans hc, by simp [run_shape, hc]⟩

/-- Events after the one that ended a copy change nothing (the goroutine is gone): no byte is
written after the half-close, and the half-close is not repeated. -/
theorem nothing_after_the_end (cfg : Cfg) (st : Nat) (ahead early : Bytes) (up more down : List Ev)
    (h : closes up = true) :
    handleConnect cfg (.answered st ahead) early (up ++ more) down = handleConnect cfg (.answered st ahead) early up down := by
  simp [handleConnect, handleConnectWith, upPump, run_append_of_closed _ _ up more h]

/-- The handler's final close of either connection is graceful, and happens exactly at release. -/
theorem final_close_is_graceful (cfg : Cfg) (st : Nat) (ahead early : Bytes) (up down : List Ev) :
    let o := handleConnect cfg (.answered st ahead) early up down
    finalClose o.toTarget = (if o.released then some .graceful else none) ∧
    finalClose o.toClient = (if o.released then some .graceful else none) := by
  simp [handleConnect, handleConnectWith_answered]

/-- Client → target, with close kinds: for every number `lost` of bytes still on their way when
the proxy closes (a target that reads slowly, an upload larger than every buffer), the target's
application reads exactly the early data and everything the client sent, and then — iff the
client→target copy has ended — end-of-stream; never a reset, never a shorter stream. -/
theorem every_byte_before_close_reaches_target (cfg : Cfg) (st : Nat) (ahead early : Bytes) (up down : List Ev)
    (lost : Nat) :
    receive lost (handleConnect cfg (.answered st ahead) early up down).toTarget =
      ⟨early ++ sentBy up, if closes up then .eof else .stillOpen⟩ := by
  rw [handleConnect, handleConnectWith_answered]
  exact receive_sideLog_graceful early _ up _ lost fun h => (Bool.and_eq_true_iff.1 h).1

/-- Target → client, with close kinds. -/
theorem every_byte_before_close_reaches_client (cfg : Cfg) (st : Nat) (ahead early : Bytes) (up down : List Ev)
    (lost : Nat) :
    receive lost (handleConnect cfg (.answered st ahead) early up down).toClient =
      ⟨ahead ++ sentBy down, if closes down then .eof else .stillOpen⟩ := by
  rw [handleConnect, handleConnectWith_answered]
  exact receive_sideLog_graceful ahead _ down _ lost fun h => (Bool.and_eq_true_iff.1 h).2

/-- The variant with `SetLinger(0)` on the outbound connection (what the model would be if that
call were added): once the tunnel is released, a target that had `lost > 0` bytes still on their
way reads a strictly shorter stream, ended by a reset. This is why the absence of socket options
on the tunnel connections is pinned as a regenerated fact, and why the harness closes tunnels with
multi-MiB uploads in flight towards slow readers. -/
theorem abortive_final_close_truncates (cfg : Cfg) (st : Nat) (ahead early : Bytes) (up down : List Ev)
    (lost : Nat) (hu : closes up = true) (hd : closes down = true) (hl : 0 < lost) :
    receive lost (handleConnectWith .abortive cfg (.answered st ahead) early up down).toTarget =
      ⟨(early ++ sentBy up).take ((early ++ sentBy up).length - lost), .reset⟩ := by
  simp [receive, handleConnectWith_answered, hu, hd, Nat.ne_of_gt hl]

/-- … and nothing is visible when nothing was outstanding, which is why exchanges of a few KiB with
a fast reader do not notice an abortive close. -/
theorem abortive_final_close_invisible_when_nothing_outstanding (cfg : Cfg) (st : Nat) (ahead early : Bytes)
    (up down : List Ev) (hu : closes up = true) (hd : closes down = true) :
    receive 0 (handleConnectWith .abortive cfg (.answered st ahead) early up down).toTarget =
      receive 0 (handleConnect cfg (.answered st ahead) early up down).toTarget := by
  simp [receive, handleConnect, handleConnectWith_answered, hu, hd]

/-- Concrete witness (test): target finished first, the client uploads 6 bytes and closes while 4
are still on their way; with an abortive close the target reads 2 bytes and a reset. -/
theorem abortive_final_close_counterexample :
    receive 4 (handleConnectWith .abortive ⟨⟨true, true⟩, ⟨true, true⟩⟩ (.answered 200 []) []
      [.data [1, 2, 3, 4, 5, 6], .eof] [.eof]).toTarget = ⟨[1, 2], .reset⟩ ∧
    receive 4 (handleConnect ⟨⟨true, true⟩, ⟨true, true⟩⟩ (.answered 200 []) []
      [.data [1, 2, 3, 4, 5, 6], .eof] [.eof]).toTarget = ⟨[1, 2, 3, 4, 5, 6], .eof⟩ := by
  rw [abortive_final_close_truncates _ _ _ _ _ _ 4 (by decide) (by decide) (by decide),
    every_byte_before_close_reaches_target]
  decide

/-- test: each of the three reasons is reachable, and each half-closes the destination -/
example : endOf [Ev.data [1], .eof] = some .eof ∧ endOf [Ev.data [1], .rerr] = some .readErr ∧
    endOf [Ev.data [1], .dataW [2, 3] 1, .eof] = some .writeErr := by decide
/-- test: the target resets the connection while the client keeps its side open — the client is
told end-of-stream. -/
example :
    let o := handleConnect ⟨⟨true, true⟩, ⟨true, true⟩⟩ (.answered 200 []) [] [.data [1, 2]] [.data [9], .rerr]
    eofSeen o.toClient = true ∧ bytesOf o.toClient = [9] ∧ o.released = false := by
  simp [handleConnect, handleConnectWith_answered, closes, endOf, sentBy, Ev.ending, Ev.accepted]
/-- test: the client then keeps sending — the other copy ends on its write error and the tunnel is
released without waiting for the client. -/
example :
    let o := handleConnect ⟨⟨true, true⟩, ⟨true, true⟩⟩ (.answered 200 []) [] [.data [1, 2], .dataW [3, 4, 5] 1] [.data [9], .rerr]
    o.released = true ∧ bytesOf o.toTarget = [1, 2, 3] ∧ finalClose o.toClient = some .graceful := by
  simp [handleConnect, handleConnectWith_answered, closes, endOf, sentBy, Ev.ending, Ev.accepted]

end Martian.Props.C04
