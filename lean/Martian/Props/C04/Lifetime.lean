import Martian.Lemmas.Tunnel
import Martian.Skel
import Martian.Generated.Proxy
/-!
C04 — open finding `c04:active-tunnel-cut-at-timeout`.

`handleLoop` arms one absolute deadline on the client connection before every exchange
(`conn.SetDeadline(time.Now().Add(p.timeout))`, default 5 minutes) and the blind tunnel branch
neither clears nor re-arms it (`facts_tunnel_sockopts`). A tunnel is therefore cut `p.timeout` after
its CONNECT request however busy it is: the client→target copy ends with a read timeout, the target
is told end-of-stream, and everything the client sends from then on is accepted by the proxy's
kernel and never forwarded (the client's writes do not fail). The property speaks of an *idle*
timeout; this one is not.

The model is faithful (`Ev.deadline` is an event of the client→target direction like any other),
so the theorems of `Props/C04.lean` hold as stated — they speak about what was forwarded up to the
event that ended the copy. What is false is the statement the property makes about the client's
whole stream; it is given here in full, refuted on a witness, and proved under the hypothesis that
excludes exactly this class (the tunnel is younger than the timeout).
-/
namespace Martian.Props.C04
open Martian Martian.Tunnel Skel

/-- What the client hands to the tunnel on its own account: everything it sends until it finishes
or breaks, or until the target stops taking bytes. The proxy's deadline is not the client's doing
and does not end its stream. -/
def offered : List Ev → Bytes
  | [] => []
  | .deadline :: es => offered es
  | e :: es => match e.ending with
    | none => e.accepted ++ offered es
    | some _ => e.accepted

/-- The property's first sentence, for the whole life of a tunnel (FALSE of the code as it is). -/
def TransparentForLife : Prop :=
  ∀ (cfg : Cfg) (st : Nat) (ahead early : Bytes) (up down : List Ev),
    bytesOf (handleConnect cfg (.answered st ahead) early up down).toTarget = early ++ offered up

theorem offered_eq_sentBy_of_no_deadline (evs : List Ev) (h : Ev.deadline ∉ evs) :
    offered evs = sentBy evs := by
  fun_induction offered evs
  case case1 => rfl
  case case2 => exact absurd List.mem_cons_self h
  case case3 hend ih => simp [sentBy, hend, ih (List.not_mem_of_not_mem_cons h)]
  case case4 hend => simp [sentBy, hend]

/-- Partial: as long as the serving loop's deadline has not passed (the tunnel is younger than
`p.timeout`), every byte the client hands to the tunnel is forwarded. -/
theorem transparent_for_life_partial (cfg : Cfg) (st : Nat) (ahead early : Bytes) (up down : List Ev)
    (h : Ev.deadline ∉ up) :
    bytesOf (handleConnect cfg (.answered st ahead) early up down).toTarget = early ++ offered up := by
  rw [offered_eq_sentBy_of_no_deadline up h, handleConnect, handleConnectWith_answered, bytesOf_sideLog]

/-- What happens at the deadline, for every busy tunnel: the target has been forwarded exactly what
was sent before it, is told end-of-stream although the client has not finished, and nothing the
client sends afterwards (`post`) arrives. -/
theorem deadline_cuts_a_busy_tunnel (cfg : Cfg) (st : Nat) (ahead early : Bytes) (pre post down : List Ev)
    (hp : closes pre = false) :
    let o := handleConnect cfg (.answered st ahead) early (pre ++ .deadline :: post) down
    bytesOf o.toTarget = early ++ sentBy pre ∧ eofSeen o.toTarget = true := by
  have hc : closes (pre ++ .deadline :: post) = true :=
    (closes_iff_exists_ending _).2 ⟨.deadline, by simp, rfl⟩
  have hs : sentBy (pre ++ .deadline :: post) = sentBy pre := by
    rw [sentBy_append, hp, if_neg Bool.false_ne_true]
    simp [sentBy, Ev.ending, Ev.accepted]
  simp only [handleConnect, handleConnectWith_answered, bytesOf_sideLog, eofSeen_sideLog, hs, hc, and_self]

/-- Counterexample (test): the client sends `[1]`, the deadline passes, the client sends `[2]` and
only then finishes — the target is forwarded `[1]` alone. -/
theorem transparent_for_life_counterexample : ¬ TransparentForLife := by
  intro h
  have h1 := h ⟨⟨true, true⟩, ⟨true, true⟩⟩ 200 [] [] [.data [1], .deadline, .data [2], .eof] []
  rw [handleConnect, handleConnectWith_answered, bytesOf_sideLog] at h1
  exact absurd h1 (by decide)

/-- The structural reason, regenerated from proxy.go: the deadline is armed once per exchange in the
serving loop, immediately before `p.handle`. -/
theorem facts_deadline_armed_once_per_exchange :
    hasBlock ["for {", "call conn.SetDeadline", "call p.handle"] Martian.Generated.Proxy.handleLoopServing = true ∧
    count "call conn.SetDeadline" Martian.Generated.Proxy.handleLoopServing = 1 := by
  decide +kernel

/-- test: the hypothesis of the partial theorem is satisfiable -/
example : Ev.deadline ∉ [Ev.data [1, 2], Ev.eof] := by decide

end Martian.Props.C04
