import Martian.Lemmas.MitmSched
/-!
C06 — concurrent handshakes at the finest grain: every lock boundary and every clock read of
`Config.cert` is a separate step (`stepF`), any number of requesters, any interleaving, and time moves
forward by an arbitrary amount before every step. So a cached certificate may expire between the
read-locked lookup and its `Verify`, between `Verify` and the return; another requester may replace
the map entry while this one still holds the old pointer; two requesters may issue for the same host
at once (last writer wins).
-/
namespace Martian.Props.C06
open Martian Martian.Go Martian.Mitm

/-- **Every schedule, every requester.** Whoever has returned holds a refusal only if its own host names
nothing; otherwise a certificate with exactly the SAN of **its own** port-stripped host, the CA
signature, the proxy key and the configured organisation. With validity ≥ 1 s and a servable host that
certificate verified for the host at the instant `tchk` it was checked (`Leaf.Verify` of a cache hit)
or created (fresh); at the instant `tret ≥ tchk` of the return it still verifies **iff** its `NotAfter`
has not been passed meanwhile (everything but the window is time-independent), and a fresh one does
for at least `validity − 1 s`. -/
theorem served_under_every_fine_schedule (cfg : Config) (hosts : List Bytes) (s : State) (t0 : Int)
    (hc : ∀ k c, (k, c) ∈ s.cache → GoodFor k c ∧ c.org = cfg.org)
    (sched : List (Nat × Nat)) (i : Nat) (hostname : Bytes) (o : Outcome) (tchk tret : Int)
    (hh : hosts[i]? = some hostname)
    (hd : (runF cfg sched { st := s, clock := t0, threads := hosts.map FPc.start }).threads[i]? = some (.done o tchk tret)) :
    match o with
    | .refused => normalise hostname = []
    | .served c f =>
      normalise hostname ≠ [] ∧ (c.names, c.ips) = sanFor (normalise hostname) ∧
      c.signedByCA = true ∧ c.keyHeld = true ∧ c.org = cfg.org ∧ tchk ≤ tret ∧
      (1000 ≤ cfg.validity → Servable hostname →
        verifiesFor c (normalise hostname) tchk = true ∧
        (verifiesFor c (normalise hostname) tret = true ↔ tret ≤ c.notAfter) ∧
        (f = true → tret ≤ tchk + cfg.validity - 1000 → verifiesFor c (normalise hostname) tret = true)) := by
  have hinv := finv_run (cfg := cfg) (hosts := hosts) sched (finv_start (cfg := cfg) (hosts := hosts) (t0 := t0) hc)
  obtain ⟨h', hh', hg⟩ := hinv.2 i _ hd
  rw [hh] at hh'
  cases hh'
  obtain ⟨hle, _, hr⟩ := hg
  cases o with
  | refused => exact hr
  | served c f =>
    obtain ⟨hne, ⟨hgood, horg⟩, hcached, hfresh⟩ := hr
    refine ⟨hne, hgood.1, hgood.2.1, hgood.2.2, horg, hle, fun hv hs => ?_⟩
    have hfl := lt_floorSec_add (tchk + cfg.validity)
    -- inside the window when checked: by `Verify` for a hit, by the template's two clock reads for a fresh one
    have hwin : c.notBefore ≤ tchk ∧ tchk ≤ c.notAfter := by
      cases f with
      | false => simpa [inWindow] using (verifiesFor_iff.mp (verifiesFor_of_goVerify hne (hcached rfl))).2.2.1
      | true => have := hfresh rfl; omega
    -- everything but the window is independent of the time
    have hver : ∀ t, verifiesFor c (normalise hostname) t = true ↔ c.notBefore ≤ t ∧ t ≤ c.notAfter := fun t => by
      simp [verifiesFor_iff, hne, verifyHostname_of_san hgood.1 hs.1 hs.2.1 hs.2.2, hgood.2.1, inWindow]
    refine ⟨(hver _).mpr hwin, ?_, fun hf hslack => ?_⟩
    · rw [hver]; exact ⟨fun h => h.2, fun h => ⟨by omega, h⟩⟩
    · have := hfresh hf
      exact (hver _).mpr ⟨by omega, by omega⟩

/-- "A served certificate is valid at the time it is returned", restricted to what is true: under the
assumption that the return happens before `NotAfter`. Without it the statement is false — see
`served_valid_at_return_counterexample`. -/
theorem served_valid_at_return_partial (cfg : Config) (hosts : List Bytes) (s : State) (t0 : Int)
    (hc : ∀ k c, (k, c) ∈ s.cache → GoodFor k c ∧ c.org = cfg.org)
    (sched : List (Nat × Nat)) (i : Nat) (hostname : Bytes) (c : Cert) (f : Bool) (tchk tret : Int)
    (hh : hosts[i]? = some hostname) (hv : 1000 ≤ cfg.validity) (hs : Servable hostname)
    (hd : (runF cfg sched { st := s, clock := t0, threads := hosts.map FPc.start }).threads[i]? = some (.done (.served c f) tchk tret))
    (hnotyet : tret ≤ c.notAfter) :
    verifiesFor c (normalise hostname) tret = true := by
  have := served_under_every_fine_schedule cfg hosts s t0 hc sched i hostname _ tchk tret hh hd
  exact (this.2.2.2.2.2.2 hv hs).2.1.mpr hnotyet

/-- The residual window (inherent to any cache with expiry and no renewal margin): a cached
certificate is verified in its last valid millisecond and returned one millisecond later — already
expired when the caller gets it. Requester 0 issues at 8.000 s with validity 2 s (`NotAfter` = 10.000 s);
requester 1 looks up and verifies at 10.000 s and returns at 10.001 s. -/
theorem served_valid_at_return_counterexample :
    let cfg : Config := { validity := 2000, org := [] }
    let h := strBytes "example.com"
    let sys := runF cfg [(0, 0), (0, 0), (0, 0), (0, 0), (0, 0), (0, 0), (1, 2000), (1, 0), (1, 1)]
      { st := {}, clock := 8000, threads := [.start h, .start h] }
    ∃ c, sys.threads[1]? = some (.done (.served c false) 10000 10001) ∧
      verifiesFor c h 10000 = true ∧ verifiesFor c h 10001 = false := by
  refine ⟨{ serial := 0, names := [strBytes "example.com"], ips := [], notBefore := 6000, notAfter := 10000,
            org := [], signedByCA := true, keyHeld := true }, ?_⟩
  decide +kernel

/-- Expiry between the read-locked lookup and the use: a requester that fetched the entry while it was
valid and reaches `Verify` after `NotAfter` does not return it; it goes on to issue a fresh one. -/
theorem expired_between_lookup_and_verify_not_served (cfg : Config) (sys : FSys) (i d : Nat) (host : Bytes) (c : Cert)
    (hp : sys.threads[i]? = some (.looked host c)) (hexp : c.notAfter < sys.clock + (d : Int)) :
    (stepF cfg sys i d).threads[i]? = some (.miss host) := by
  obtain ⟨hlt, _⟩ := List.getElem?_eq_some_iff.mp hp
  unfold stepF
  simp only [hp, goVerify_of_expired hexp, Bool.false_eq_true, if_false]
  simp [hlt]

/-- The fine-grained steps of one requester, run back to back with no time passing, are the
sequential `Config.cert` (so the step semantics really is that function cut at its lock boundaries
and clock reads). The longest path has six steps: lookup, verify, serial + `NotBefore`, `NotAfter` + sign,
insert, return; a step of a requester that has returned changes nothing, so seven cover every path. -/
theorem fine_steps_are_cert (cfg : Config) (hostname : Bytes) (now : Int) (s : State) :
    runF cfg (List.replicate 7 (0, 0)) { st := s, clock := now, threads := [.start hostname] } =
      { st := (cert cfg hostname now s).1, clock := now, threads := [.done (cert cfg hostname now s).2 now now] } := by
  by_cases he : (normalise hostname).isEmpty = true
  · simp [List.replicate, runF, stepF, cert, he]
  · cases hl : s.cache.lookup (normalise hostname) with
    | none => simp [List.replicate, runF, stepF, cert, certFor, he, hl, issueAndStore, issue, store, insertCert]
    | some c =>
      cases hg : goVerify c (normalise hostname) now <;>
        simp [List.replicate, runF, stepF, cert, certFor, he, hl, hg, issueAndStore, issue, store, insertCert]

/-- Two requesters for one host spelled in different case, both missing the cache: both issue, each gets a
certificate naming its own spelling, and both are inserted, under keys that differ in case
(test; the general fact is `served_under_every_fine_schedule`). -/
example :
    let cfg : Config := { validity := 3600000, org := [] }
    let h := strBytes "example.com"
    let sys := runF cfg [(0, 0), (1, 0), (0, 1), (1, 1), (0, 1), (1, 1), (1, 1), (0, 1), (0, 0), (1, 0)]
      { st := {}, clock := 5000, threads := [.start h, .start (strBytes "EXAMPLE.com:443")] }
    sys.st.cache.length = 2 ∧ sys.st.next = 2 ∧
      sys.threads.map (fun pc => match pc with
        | .done (.served c true) _ _ => some c.names
        | _ => none) = [some [h], some [strBytes "EXAMPLE.com"]] := by
  decide +kernel

end Martian.Props.C06
