import Martian.Generated.Mitm
/-!
C06 — "backed by a key the proxy holds so the handshake completes": which clients `crypto/tls` is willing
to serve with the `tls.Certificate` that `Config.cert` returns.

Model of `crypto/tls`'s `selectSignatureScheme` as far as an RSA leaf is concerned (the leaf key of every
martian config is RSA: `NewConfig` generates it): the candidate schemes of the key are the PKCS#1 v1.5
and RSASSA-PSS families under TLS 1.2 and RSASSA-PSS alone under TLS 1.3; a certificate may narrow them
through `SupportedSignatureAlgorithms` (empty = no restriction); the first scheme of the client's
`signature_algorithms` that survives is used, and there being none is `handshake_failure`.
`usable` is what the harness observes through `(*tls.ClientHelloInfo).SupportsCertificate` for each
client profile (oracle `c06:unusable:<profile>`); the regenerated fact `facts_served_unrestricted`
says that the certificate martian serves sets no restriction.
-/
namespace Martian.Props.C06
open Martian

inductive Family | pkcs1 | pss | ecdsa | ed25519
  deriving DecidableEq, Repr

structure Scheme where
  family : Family
  hash   : Nat          -- 1 = SHA-1, 256, 384, 512
  deriving DecidableEq, Repr

inductive Vers | tls12 | tls13
  deriving DecidableEq, Repr

/-- `signatureSchemesForCertificate` for an RSA key (key large enough for every hash: ≥ 2048 bits). -/
def rsaCandidate (v : Vers) (s : Scheme) : Bool :=
  match v, s.family with
  | _, .pss => s.hash == 256 || s.hash == 384 || s.hash == 512
  | .tls12, .pkcs1 => s.hash == 1 || s.hash == 256 || s.hash == 384 || s.hash == 512
  | _, _ => false

/-- The restriction a certificate carries: `[]` (the field left unset) allows everything. -/
def allowedBy (restrict : List Scheme) (s : Scheme) : Bool :=
  restrict.isEmpty || restrict.contains s

/-- `selectSignatureScheme`: the first of the peer's schemes that the key supports and the certificate allows. -/
def selectScheme (v : Vers) (restrict peer : List Scheme) : Option Scheme :=
  peer.find? (fun s => rsaCandidate v s && allowedBy restrict s)

def usable (v : Vers) (restrict peer : List Scheme) : Bool := (selectScheme v restrict peer).isSome

/-- An unrestricted RSA certificate serves every client that offers at least one scheme an RSA key can
sign with under the negotiated version — whatever else, and in whatever order, the client lists. -/
theorem unrestricted_usable (v : Vers) (peer : List Scheme) (s : Scheme)
    (hs : s ∈ peer) (hc : rsaCandidate v s = true) : usable v [] peer = true := by
  unfold usable selectScheme
  rw [List.find?_isSome]
  exact ⟨s, hs, by simp [hc, allowedBy]⟩

/-- The scheme chosen is one the client offered and the key can sign with (no downgrade to something
the peer did not list). -/
theorem selected_is_offered (v : Vers) (restrict peer : List Scheme) (s : Scheme)
    (h : selectScheme v restrict peer = some s) : s ∈ peer ∧ rsaCandidate v s = true := by
  unfold selectScheme at h
  have h1 := List.mem_of_find?_eq_some h
  have h2 := List.find?_some h
  simp only [Bool.and_eq_true] at h2
  exact ⟨h1, h2.1⟩

/-- A restriction can only lose clients: whoever a restricted certificate serves, the unrestricted one serves. -/
theorem restriction_only_loses (v : Vers) (restrict peer : List Scheme)
    (h : usable v restrict peer = true) : usable v [] peer = true := by
  unfold usable at h
  obtain ⟨s, hs⟩ := Option.isSome_iff_exists.mp h
  have := selected_is_offered v restrict peer s hs
  exact unrestricted_usable v peer s this.1 this.2

/-- And it does lose some: a PSS-only certificate refuses the TLS 1.2 client that offers PKCS#1 v1.5 only
(the seeded change C06-R; the harness profile `tls12-pkcs1v15-only`). -/
theorem pss_only_refuses_pkcs1_client :
    usable .tls12 [⟨.pss, 256⟩, ⟨.pss, 384⟩, ⟨.pss, 512⟩] [⟨.pkcs1, 256⟩, ⟨.pkcs1, 384⟩, ⟨.pkcs1, 512⟩] = false ∧
    usable .tls12 [] [⟨.pkcs1, 256⟩, ⟨.pkcs1, 384⟩, ⟨.pkcs1, 512⟩] = true := by decide +kernel

/-- Regenerated from `mitm/mitm.go`: the served `tls.Certificate` literal sets exactly the chain, the key and
the parsed leaf, and nothing reachable from `cert` writes `SupportedSignatureAlgorithms` — the `restrict`
argument of `usable` is `[]` for every certificate martian serves. -/
theorem facts_served_unrestricted :
    Generated.Mitm.servedCertKeys = ["Certificate", "Leaf", "PrivateKey"] ∧
    Generated.Mitm.servedCertRestrictWrites = 0 := by decide +kernel

/-- The property clause for the harness's client profiles: each is served by the certificate as built. -/
theorem served_cert_usable_for_profiles :
    usable .tls12 [] [⟨.pkcs1, 256⟩, ⟨.pkcs1, 384⟩, ⟨.pkcs1, 512⟩] = true ∧
    usable .tls12 [] [⟨.pss, 256⟩, ⟨.pss, 384⟩, ⟨.pss, 512⟩] = true ∧
    usable .tls12 [] [⟨.pkcs1, 1⟩, ⟨.pkcs1, 256⟩] = true ∧
    usable .tls13 [] [⟨.pss, 256⟩, ⟨.pss, 384⟩, ⟨.pss, 512⟩] = true := by decide +kernel

-- non-vacuity: a client with an ECDSA-first list and one RSA scheme meets the hypotheses
example : usable .tls12 [] [⟨.ecdsa, 256⟩, ⟨.ed25519, 0⟩, ⟨.pkcs1, 256⟩] = true :=
  unrestricted_usable _ _ ⟨.pkcs1, 256⟩ (by decide) (by decide)

end Martian.Props.C06
