import Martian.Lemmas.Mitm
/-!
C06 — fault injection at the signing step. The CA key handed to `NewConfig` is any `crypto.Signer`; its `Sign`
may fail at any call (`signOk = false`). Whatever the cache holds — nothing, a valid entry, an expired entry —
nothing that does not verify is ever served: a failed signature means a refused handshake, never the stale entry.
-/
namespace Martian.Props.C06
open Martian Martian.Go Martian.Mitm

/-- With a healthy signer `certS` is `cert`. -/
theorem certS_healthy (cfg : Config) (hostname : Bytes) (now : Int) (s : State) :
    certS cfg hostname now true s = cert cfg hostname now s :=
  (cert_eq_certS cfg hostname now s).symm

/-- **Signing failure refuses, never serves stale.** When the signing step fails and the cache has no entry for
the host, or one that no longer verifies (expired, or any other reason), the handshake is refused and the cache
is left as it was. -/
theorem sign_failure_refuses_never_serves_stale (cfg : Config) (hostname : Bytes) (now : Int) (s : State)
    (hstale : ∀ c, s.cache.lookup (normalise hostname) = some c → goVerify c (normalise hostname) now = false) :
    certS cfg hostname now false s = (s, .refused) := by
  rcases certS_cases cfg hostname now false s with ⟨_, e⟩ | ⟨_, c, hl, hg, _⟩ | ⟨_, _, e⟩
  · exact e
  · rw [hstale c hl] at hg; cases hg
  · exact e

/-- Whatever the signer does and whatever the cache holds, a served certificate is either the cached entry that
has just passed `Verify` for this host at this time, or a freshly signed one (then the signer worked). -/
theorem served_is_verified_or_fresh (cfg : Config) (hostname : Bytes) (now : Int) (signOk : Bool) (s : State)
    {c : Cert} {f : Bool} (h : (certS cfg hostname now signOk s).2 = .served c f) :
    (f = false ∧ s.cache.lookup (normalise hostname) = some c ∧ goVerify c (normalise hostname) now = true) ∨
    (f = true ∧ signOk = true ∧ c = issue cfg (normalise hostname) now s.next) := by
  rcases certS_cases cfg hostname now signOk s with ⟨_, e⟩ | ⟨_, _, hl, hg, e⟩ | ⟨_, _, e⟩
  · rw [e] at h; cases h
  · rw [e] at h; cases h; exact .inl ⟨rfl, hl, hg⟩
  · cases signOk with
    | false => rw [e] at h; cases h
    | true => rw [e] at h; cases h; exact .inr ⟨rfl, rfl, rfl⟩

/-- Hence, with or without faults: every served certificate verifies for the requested host at the time of the
call (validity ≥ 1 s, servable host). -/
theorem served_verifies_under_faults (cfg : Config) (hostname : Bytes) (now : Int) (signOk : Bool) (s : State)
    {c : Cert} {f : Bool} (hv : 1000 ≤ cfg.validity) (hs : Servable hostname)
    (h : (certS cfg hostname now signOk s).2 = .served c f) :
    verifiesFor c (normalise hostname) now = true := by
  rcases served_is_verified_or_fresh cfg hostname now signOk s h with ⟨_, _, hg⟩ | ⟨_, _, hc⟩
  · exact verifiesFor_of_goVerify hs.1 hg
  · rw [hc]; exact verifiesFor_issue cfg now _ hv hs

/-- A failed signature changes nothing: no entry is stored, no serial is consumed; a valid entry keeps being served. -/
theorem sign_failure_keeps_state (cfg : Config) (hostname : Bytes) (now : Int) (s : State) :
    (certS cfg hostname now false s).1 = s := by
  rcases certS_cases cfg hostname now false s with ⟨_, e⟩ | ⟨_, _, _, _, e⟩ | ⟨_, _, e⟩ <;> rw [e] <;> rfl

/-- (test) the defect of seeded C06-H on a concrete history: a 2-second leaf, three seconds later, signer down —
refused, not the stale leaf. -/
example :
    let cfg : Config := { validity := 2000, org := [] }
    let h := strBytes "example.com"
    let s1 := (certS cfg h 10400 true {}).1
    (certS cfg h 10500 false s1).2 = .served (issue cfg h 10400 0) false ∧
    (certS cfg h 13400 false s1).2 = .refused ∧
    (certS cfg h 13400 true s1).2 = .served (issue cfg h 13400 1) true := by decide +kernel

end Martian.Props.C06
