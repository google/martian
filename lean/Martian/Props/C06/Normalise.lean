import Martian.Lemmas.MitmNorm
/-!
C06 — host normalisation ("Remove the port if it exists") on every spelling the property lists:
`name`, `name:port`, IPv4, `v4:port`, bare IPv6, `[v6]:port`, in any letter case. `normalise` is
`net.SplitHostPort`-or-identity (Model/Mitm.lean); `parseIP` is `net.ParseIP`.
-/
namespace Martian.Props.C06
open Martian Martian.Go Martian.Mitm

/-- `host:port` (DNS name or IPv4 literal, any port string without `:`/`[`/`]`) ↦ `host`. -/
theorem normalise_host_port {d p : Bytes}
    (d1 : colon ∉ d) (d2 : lbr ∉ d) (d3 : rbr ∉ d) (p1 : colon ∉ p) (p2 : lbr ∉ p) (p3 : rbr ∉ p) :
    normalise (d ++ colon :: p) = d :=
  (normalise_portForm (splitHostPort_host_port d1 d2 d3 p1 p2 p3)).1

/-- `[addr]:port` ↦ `addr` (colons inside the brackets are kept, whatever the groups look like). -/
theorem normalise_bracketed {a p : Bytes}
    (a2 : lbr ∉ a) (a3 : rbr ∉ a) (p1 : colon ∉ p) (p2 : lbr ∉ p) (p3 : rbr ∉ p) :
    normalise (lbr :: a ++ rbr :: colon :: p) = a :=
  (normalise_portForm (splitHostPort_bracketed a2 a3 p1 p2 p3)).1

/-- A host without any colon (bare DNS name, bare IPv4) is used as it is. -/
theorem normalise_no_colon {h : Bytes} (hc : colon ∉ h) : normalise h = h :=
  normalise_bare (splitHostPort_no_colon hc)

/-- **A bare IPv6 literal is never truncated**, syntactic form: two or more colons and no leading
`[` — in particular when the last group consists of decimal digits only (`::1`, `2001:db8::7`,
`fe80::1:2:443`), the class in which "last colon = port separator" heuristics go wrong. -/
theorem normalise_bare_v6 {h : Bytes} (hh : h.head? ≠ some lbr) (h2 : 2 ≤ h.count colon) : normalise h = h :=
  normalise_bare (splitHostPort_two_colons hh h2)

/-- **A bare IP literal is never truncated**, semantic form: whatever `net.ParseIP` accepts (IPv4, IPv6, v4-mapped, `::`-compressed, with
an embedded dotted quad) is left untouched by the port stripping, so the IP SAN is built from the
whole literal. -/
theorem normalise_ip_literal {h : Bytes} {ip : IP} (hp : parseIP h = some ip) : normalise h = h :=
  normalise_bare (splitHostPort_of_parseIP hp)

/-- A bare IP literal gets exactly the IP SAN of the complete address, under its own cache key. -/
theorem ip_literal_san {h : Bytes} {ip : IP} (hp : parseIP h = some ip) :
    sanFor (normalise h) = ([], [ip]) := by
  rw [normalise_ip_literal hp]; simp [sanFor, hp]

/-- Letter case does not disturb the port stripping: lower-casing (or any byte map that leaves `:`,
`[`, `]` alone) commutes with it. -/
theorem normalise_toLower (h : Bytes) : normalise (toLower h) = toLower (normalise h) :=
  normalise_map keepsDelims_toLowerB h

/-- The listed spellings with a port are servable whenever the host part is a host at all. -/
theorem servable_host_port {d p : Bytes}
    (d0 : d ≠ []) (d0' : d ≠ [dot]) (d1 : colon ∉ d) (d2 : lbr ∉ d) (d3 : rbr ∉ d)
    (p1 : colon ∉ p) (p2 : lbr ∉ p) (p3 : rbr ∉ p) : Servable (d ++ colon :: p) :=
  servable_portForm (splitHostPort_host_port d1 d2 d3 p1 p2 p3) d0 d0'

theorem servable_bracketed {a p : Bytes}
    (a0 : a ≠ []) (a0' : a ≠ [dot]) (a2 : lbr ∉ a) (a3 : rbr ∉ a) (p1 : colon ∉ p) (p2 : lbr ∉ p) (p3 : rbr ∉ p) :
    Servable (lbr :: a ++ rbr :: colon :: p) :=
  servable_portForm (splitHostPort_bracketed a2 a3 p1 p2 p3) a0 a0'

/-- A bare IP literal is servable. -/
theorem servable_ip_literal {h : Bytes} {ip : IP} (hp : parseIP h = some ip) : Servable h := by
  unfold Servable
  rw [normalise_ip_literal hp]
  refine ⟨?_, ?_, (parseIP_shape hp).1⟩
  · rintro rfl
    have : parseIP [] = none := by decide
    rw [this] at hp
    cases hp
  · rintro rfl
    have : parseIP [dot] = none := by decide
    rw [this] at hp
    cases hp

/-! ### tests: the class of seeded defect C06-C, and the other listed spellings -/

example : normalise (strBytes "::1") = strBytes "::1" ∧ normalise (strBytes "2001:db8::7") = strBytes "2001:db8::7" ∧
    normalise (strBytes "fe80::1:2:443") = strBytes "fe80::1:2:443" ∧
    normalise (strBytes "1:2:3:4:5:6:7:8") = strBytes "1:2:3:4:5:6:7:8" ∧
    normalise (strBytes "::ffff:10.0.0.1") = strBytes "::ffff:10.0.0.1" := by decide +kernel
example : normalise (strBytes "[fe80::1:2:443]:8443") = strBytes "fe80::1:2:443" ∧
    normalise (strBytes "EXAMPLE.com:443") = strBytes "EXAMPLE.com" ∧ normalise (strBytes "10.0.0.1:1") = strBytes "10.0.0.1" := by decide +kernel

end Martian.Props.C06
