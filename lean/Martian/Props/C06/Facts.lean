import Martian.Generated.Mitm
/-!
C06 — facts about `mitm/mitm.go` regenerated from the source on every check (`go/cmd/vextract/facts_c06.go`
→ `Generated/Mitm.lean`) that the model's `normalise`, `sanFor`, `issue` and `goVerify` rely on. They are
read off `cert` **and the package functions reachable from it**, by meaning (which library function, which
field, which sign), so extracting a helper or renaming a variable changes nothing, while swapping the
port-stripping function, the SAN rule, the window or the verify options breaks a theorem here.
-/
namespace Martian.Props.C06
open Martian

/-- The only library functions that look at or rewrite the host string on its way to the cache key and
the SAN are `net.SplitHostPort` (model: `splitHostPort`/`normalise`) and `net.ParseIP` (model: `parseIP`). -/
theorem facts_host_functions :
    Generated.Mitm.hostFunctions = ["net.ParseIP", "net.SplitHostPort"] := by decide +kernel

/-- SAN choice (model: `sanFor`): `IPAddresses = [ip]` exactly under `ip := net.ParseIP(host); ip != nil`,
`DNSNames = [host]` in the else branch, and no other write to either field on the path. -/
theorem facts_san_choice :
    Generated.Mitm.sanByParseIP = true ∧ Generated.Mitm.sanWrites = 2 := by decide +kernel

/-- The template (model: `issue`, `stepF`): `NotBefore = time.Now() − validity`, `NotAfter = time.Now() + validity`
(at most the two clock reads the fine-grained semantics has), the organisation is the configured one, the
leaf is a server-auth certificate (what `Verify` demands by default). -/
theorem facts_template :
    Generated.Mitm.tmplNotBefore = "now-validity" ∧ Generated.Mitm.tmplNotAfter = "now+validity" ∧
    Generated.Mitm.templateClockReads ≤ 2 ∧ Generated.Mitm.tmplOrgFromConfig = true ∧
    Generated.Mitm.tmplServerAuth = true := by decide +kernel

/-- The re-verification of a cache hit (model: `goVerify`): `VerifyOptions` sets exactly `DNSName` — the very
string that keys the cache — and `Roots`; no `CurrentTime` (the real clock decides), no `KeyUsages`. -/
theorem facts_verify_call :
    Generated.Mitm.verifyOptionKeys = ["DNSName", "Roots"] ∧ Generated.Mitm.verifyNameIsCacheKey = true := by decide +kernel

/-- A cache hit is returned only from inside the success branch of its own `Leaf.Verify` (model: `certFor`,
`stepF` hand out a cached certificate only after `goVerify`): no shortcut — memoised verdict, rate limit,
"checked recently" — returns the entry unverified. -/
theorem facts_hit_verified :
    Generated.Mitm.unverifiedHitReturns = 0 ∧ 1 ≤ Generated.Mitm.verifiedHitReturns := by decide +kernel

end Martian.Props.C06
