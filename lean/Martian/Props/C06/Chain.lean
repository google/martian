import Martian.Lemmas.Mitm
import Martian.Generated.Mitm
/-!
C06 — the CHAIN part of "verifies" for names the configuration itself carries. The bit `signedByCA` stands for
"the CA's signature on the leaf checks out". Go's chain builder (`Certificate.buildChains` → `alreadyInChain`)
additionally skips a candidate parent that has **the same subject, the same public key and the same SANs** as a
certificate already in the chain. A leaf issued for the authority's own name, with the leaf organisation equal to
the authority's, has the CA certificate's subject and SAN; it still chains because `NewConfig` generates a key of
its own for the leaves. This file states that: the chain verdict does not depend on which name is asked — for ALL
names, the authority's own included — given distinct keys, and shows what happens without that.
Trusted: that `alreadyInChain` is this comparison (crypto/x509/verify.go, Go 1.23) — checked on every run by real
`x509.Verify` on leaves served for the authority's own name under every CA key kind.
-/
namespace Martian.Props.C06
open Martian Martian.Go Martian.Mitm

/-- What `alreadyInChain` looks at, for the CA certificate: subject (CN, organisation), SANs, public key. -/
structure Authority where
  cn : Bytes
  org : Bytes
  names : List Bytes
  ips : List IP
  key : Nat
  deriving DecidableEq, Repr

/-- The template's subject is `CommonName: hostname, Organization: [c.org]`; `leafKey` is the key of `c.priv`. -/
def alreadyInChain (a : Authority) (host : Bytes) (leafKey : Nat) (c : Cert) : Bool :=
  host == a.cn && c.org == a.org && leafKey == a.key && c.names == a.names && c.ips == a.ips

/-- Chain building to the single root `a`: signed by it, and the root not mistaken for the leaf itself. -/
def chainsTo (a : Authority) (host : Bytes) (leafKey : Nat) (c : Cert) : Bool :=
  c.signedByCA && !alreadyInChain a host leafKey c

/-- **The chain verdict does not depend on the name asked.** With a leaf key different from the authority's
(what `NewConfig` generates: `facts_leaf_key_generated`), for every host — an ordinary one or the authority's own
CN / SAN in any spelling — every organisation and every authority, the leaf chains iff the signature is good. -/
theorem chain_independent_of_name (a : Authority) (host : Bytes) (leafKey : Nat) (c : Cert)
    (hk : leafKey ≠ a.key) : chainsTo a host leafKey c = c.signedByCA := by
  have : (leafKey == a.key) = false := by simpa using hk
  simp [chainsTo, alreadyInChain, this]

/-- In particular every issued certificate chains, whatever it was issued for. -/
theorem issued_chains_for_every_name (cfg : Config) (a : Authority) (host : Bytes) (now : Int) (n leafKey : Nat)
    (hk : leafKey ≠ a.key) : chainsTo a host leafKey (issue cfg host now n) = true := by
  rw [chain_independent_of_name a host leafKey _ hk]; rfl

/-- Without the distinct key the verdict DOES depend on the name: the leaf for the authority's own name under the
authority's organisation is taken for the root itself and does not chain, while every other name still does
(the defect class of seeded C06-N: the CA key reused as the leaf key). -/
theorem shared_key_own_name_counterexample :
    let a : Authority := { cn := strBytes "martian.proxy", org := strBytes "Martian Proxy",
                           names := [strBytes "martian.proxy"], ips := [], key := 7 }
    let cfg : Config := { validity := 3600000, org := strBytes "Martian Proxy" }
    chainsTo a (strBytes "martian.proxy") 7 (issue cfg (strBytes "martian.proxy") 5000 0) = false ∧
    chainsTo a (strBytes "Martian.Proxy") 7 (issue cfg (strBytes "Martian.Proxy") 5000 0) = true ∧
    chainsTo a (strBytes "example.com") 7 (issue cfg (strBytes "example.com") 5000 0) = true ∧
    chainsTo a (strBytes "martian.proxy") 8 (issue cfg (strBytes "martian.proxy") 5000 0) = true := by decide +kernel

/-- With a shared key the only names that fail are the authority's own, exact case, same organisation and SAN. -/
theorem shared_key_fails_only_for_own_name (a : Authority) (host : Bytes) (c : Cert)
    (hs : c.signedByCA = true) (h : chainsTo a host a.key c = false) :
    host = a.cn ∧ c.org = a.org ∧ c.names = a.names ∧ c.ips = a.ips := by
  simp only [chainsTo, alreadyInChain, hs, Bool.true_and, Bool.not_eq_false', Bool.and_eq_true, beq_iff_eq] at h
  exact ⟨h.1.1.1.1, h.1.1.1.2, h.1.2, h.2⟩

/-- Regenerated from `NewConfig`: the key in the `priv` field comes from a `GenerateKey` call and from nothing
else, and the `privateKey` parameter flows into `capriv` only — the hypothesis `leafKey ≠ a.key` above. -/
theorem facts_leaf_key_generated :
    Generated.Mitm.leafKeyGenerated = true ∧ Generated.Mitm.caKeyFlowsTo = ["capriv"] := by decide +kernel

end Martian.Props.C06
