import Martian.Lemmas.Mitm
/-!
C06 — the NAME and the WINDOW part of "verifies" made concrete.

`verifyHostname` (Model/Mitm.lean) transcribes Go 1.23 `x509.Certificate.VerifyHostname`
(`validHostname`, `matchHostnames` with the left-most wildcard, `matchExactly`, the `[ip]` spelling);
`verifyErr` the order in which `Certificate.Verify` tests window, host name and chain. The theorems
here say what that verifier accepts **on the certificates this code issues** (`GoodFor k c`: the SAN is
the one the template builds for cache key `k`): exactly the spellings of `k` itself.
-/
namespace Martian.Props.C06
open Martian Martian.Go Martian.Mitm

/-! ### the two branches of `VerifyHostname` -/

/-- A host that parses as an IP address, with or without `[ ]`, is compared with the IP SANs only
(byte-wise on the 16-byte form), never with a DNS name. -/
theorem verifyHostname_ip_branch (c : Cert) (h : Bytes) {ip : IP} (hp : parseIP (stripBrackets h) = some ip) :
    verifyHostname c h = c.ips.contains ip := by
  simp [verifyHostname, hp]

/-- Any other host is compared with the DNS SANs only. -/
theorem verifyHostname_dns_branch (c : Cert) (h : Bytes) (hp : parseIP (stripBrackets h) = none) :
    verifyHostname c h = c.names.any (fun n => matchDNS n (toLower h)) := by
  simp [verifyHostname, hp]

/-! ### what an issued certificate is valid for: exactly its own host -/

/-- A name that is valid as a certificate pattern and has no wildcard: LDH labels (plus `_`), no empty
label, no trailing dot. Every DNS name the property lists is one. -/
def PlainName (k : Bytes) : Prop := validHostname k true = true ∧ star ∉ k

instance (k : Bytes) : Decidable (PlainName k) := by unfold PlainName; exact inferInstance

/-- Certificate issued for an IP literal `k`: it verifies for `h` iff `h` (brackets optional) parses
to the same address. -/
theorem issued_ip_exact {k : Bytes} {c : Cert} {ip : IP} (hg : GoodFor k c) (hk : parseIP k = some ip) (h : Bytes) :
    verifyHostname c h = true ↔ parseIP (stripBrackets h) = some ip := by
  have hs := Prod.mk.inj (hg.1.trans (sanFor_of_some hk))
  unfold verifyHostname
  cases hp : parseIP (stripBrackets h) with
  | none => simp [hs.1]
  | some a =>
    simp only [hs.2, List.contains_cons, List.contains_nil, Bool.or_false, beq_iff_eq, Option.some.injEq]

/-- Certificate issued for a plain DNS name `k`: it verifies for `h` iff `h` is not an IP literal and
equals `k` up to ASCII letter case and one trailing dot. No other host is accepted. -/
theorem issued_dns_exact {k : Bytes} {c : Cert} (hg : GoodFor k c) (hk : parseIP k = none) (hp : PlainName k) (h : Bytes) :
    verifyHostname c h = true ↔ parseIP (stripBrackets h) = none ∧ toLower (trimDot h) = toLower k := by
  obtain ⟨hvp, hstar⟩ := hp
  rw [verifyHostname_dns_key hg hk]
  refine and_congr_right fun _ => ⟨fun hm => ?_, fun he => ?_⟩
  · unfold matchDNS at hm
    split at hm
    · have := matchHostnames_no_star hstar hm
      rwa [trimDot_toLower, toLower_idem] at this
    · obtain ⟨_, _, he⟩ := matchExactly_toLower_iff.mp hm
      rcases trimDot_cases h with ⟨_, ht⟩ | ht
      · rw [ht]; exact he.symm
      · -- `h` ends in a dot, so would the valid pattern `k`
        exfalso
        apply validPattern_no_trailing_dot hvp
        apply getLast?_toLower_dot.mp
        rw [he, ht, toLower_append]
        simp [toLower, (toLowerB_eq_iff (x := dot) (by decide) (by decide)).mpr rfl]
  · unfold matchDNS
    have hst : star ∉ trimDot (toLower h) := by
      rw [trimDot_toLower, he]; exact fun hm => hstar ((mem_toLower_iff (x := star) (by decide) (by decide)).mp hm)
    have hv : validHostname (toLower h) false = true := by
      rw [validHostname_input_eq_pattern hst, trimDot_toLower, he, validHostname_toLower]; exact hvp
    simp only [hv, hvp, Bool.and_self, if_true]
    apply matchHostnames_self_lower (validPattern_ne_nil hvp)
    rw [trimDot_toLower, toLower_idem]; exact he

/-- Certificate issued for any other key `k` (not an IP literal, not valid as a pattern: `[::1]`,
`example.com.`, a name with a space, …): only the exact match applies — `h` equals `k` up to ASCII
letter case, and `k` is neither empty nor ".". -/
theorem issued_odd_exact {k : Bytes} {c : Cert} (hg : GoodFor k c) (hk : parseIP k = none)
    (hv : validHostname k true = false) (h : Bytes) :
    verifyHostname c h = true ↔
      parseIP (stripBrackets h) = none ∧ k ≠ [] ∧ k ≠ [dot] ∧ toLower h = toLower k := by
  rw [verifyHostname_dns_key hg hk]
  refine and_congr_right fun _ => ?_
  unfold matchDNS
  simp only [hv, Bool.and_false, Bool.false_eq_true, if_false]
  rw [matchExactly_toLower_iff]
  exact and_congr_right fun _ => and_congr_right fun _ => eq_comm

/-- The three cases together: the certificate issued for cache key `k` verifies for `k` itself —
whenever `k` is not empty, not "." and does not start with `[` — in every letter case. -/
theorem issued_verifies_any_case {k : Bytes} {c : Cert} (hg : GoodFor k c) (hk : parseIP k = none)
    (h1 : k ≠ []) (h2 : k ≠ [dot]) (h : Bytes) (hph : parseIP (stripBrackets h) = none) (he : toLower h = toLower k) :
    verifyHostname c h = true :=
  (verifyHostname_dns_key hg hk h).mpr ⟨hph, he ▸ matchDNS_self h1 h2⟩

/-- (test) A wildcard key — not a spelling the property lists, only reachable by calling
`GetCertificate` with such an SNI — yields a certificate that also names sibling hosts. -/
theorem wildcard_key_names_siblings :
    verifyHostname (issue { validity := 3600000, org := [] } (strBytes "*.example.com") 5000 0) (strBytes "a.example.com") = true ∧
    verifyHostname (issue { validity := 3600000, org := [] } (strBytes "*.example.com") 5000 0) (strBytes "a.b.example.com") = false ∧
    ¬ PlainName (strBytes "*.example.com") := by
  decide +kernel

/-! ### the order of `Certificate.Verify` and the validity window -/

/-- `goVerify` is "no error" of the ordered check. -/
theorem goVerify_iff_verifyErr_ok (c : Cert) (host : Bytes) (now : Int) :
    goVerify c host now = true ↔ verifyErr c host now = .ok := by
  unfold goVerify verifyErr
  cases inWindow c now <;> cases (host.isEmpty || verifyHostname c host) <;> cases c.signedByCA <;> simp

/-- The window is tested first and with the certificate's whole-second bounds: `Expired` exactly when
the time lies outside `[NotBefore, NotAfter]`, whatever the name and the chain. -/
theorem verifyErr_expired_iff (c : Cert) (host : Bytes) (now : Int) :
    verifyErr c host now = .expired ↔ now < c.notBefore ∨ c.notAfter < now := by
  have hw : inWindow c now = false ↔ now < c.notBefore ∨ c.notAfter < now := by
    simp only [inWindow, Bool.and_eq_false_iff, decide_eq_false_iff_not]
    omega
  rw [← hw]
  unfold verifyErr
  cases inWindow c now <;> cases (host.isEmpty || verifyHostname c host) <;> cases c.signedByCA <;> simp

/-- A hostname error is reported only inside the window, an authority error only for a certificate
that is inside the window and names the host. -/
theorem verifyErr_order (c : Cert) (host : Bytes) (now : Int) :
    (verifyErr c host now = .hostname → inWindow c now = true ∧ host ≠ [] ∧ verifyHostname c host = false) ∧
    (verifyErr c host now = .authority → inWindow c now = true ∧ (host = [] ∨ verifyHostname c host = true) ∧ c.signedByCA = false) := by
  unfold verifyErr
  cases hw : inWindow c now <;> cases hh : verifyHostname c host <;> cases hs : c.signedByCA <;> cases host <;> simp

/-- The window of a freshly issued certificate, exactly: whole seconds around `now ∓ validity`. -/
theorem issued_window (cfg : Config) (k : Bytes) (now t : Int) (n : Nat) :
    inWindow (issue cfg k now n) t = true ↔ floorSec (now - cfg.validity) ≤ t ∧ t ≤ floorSec (now + cfg.validity) := by
  rw [inWindow, Bool.and_eq_true, decide_eq_true_eq, decide_eq_true_eq]
  rfl

/-- A freshly issued certificate is valid from `now − validity` until (at least) one second before
`now + validity`. -/
theorem issued_valid_throughout (cfg : Config) (k : Bytes) (now t : Int) (n : Nat)
    (h1 : now - cfg.validity ≤ t) (h2 : t ≤ now + cfg.validity - 1000) :
    inWindow (issue cfg k now n) t = true := by
  rw [issued_window]
  have a := floorSec_le (now - cfg.validity)
  have b := lt_floorSec_add (now + cfg.validity)
  omega

/-- A freshly issued certificate has expired once the configured validity has passed. -/
theorem issued_expired_after (cfg : Config) (k : Bytes) (now t : Int) (n : Nat) (h : now + cfg.validity < t) :
    inWindow (issue cfg k now n) t = false := by
  rw [← Bool.not_eq_true, issued_window]
  have b := floorSec_le (now + cfg.validity)
  omega

/-! ### non-vacuity -/

example : PlainName (strBytes "example.com") ∧ PlainName (strBytes "xn--bcher-kva.example") ∧
    PlainName (strBytes "EXAMPLE.Com") ∧ PlainName (strBytes "a_b.example") ∧ ¬ PlainName (strBytes "example.com.") ∧
    ¬ PlainName (strBytes "-a.example.com") ∧ ¬ PlainName (strBytes "a..b") ∧ ¬ PlainName [] := by decide +kernel
/-- trailing dot and case on the host side; no match for a sibling or a parent -/
example : let c := issue { validity := 2000, org := [] } (strBytes "example.com") 10400 0
    verifyHostname c (strBytes "EXAMPLE.com.") = true ∧ verifyHostname c (strBytes "example.com..") = false ∧
    verifyHostname c (strBytes "a.example.com") = false ∧ verifyHostname c (strBytes "com") = false := by decide +kernel
/-- IPv4 against its v4-mapped IPv6 spelling and the bracketed form -/
example : let c := issue { validity := 2000, org := [] } (strBytes "10.0.0.1") 10400 0
    verifyHostname c (strBytes "::ffff:10.0.0.1") = true ∧ verifyHostname c (strBytes "[::ffff:a00:1]") = true ∧
    verifyHostname c (strBytes "10.0.0.2") = false ∧ verifyHostname c (strBytes "10.0.0.1.") = false := by decide +kernel
example : verifyErr (issue { validity := 2000, org := [] } (strBytes "example.com") 10400 0) (strBytes "other.example") 99000 = .expired ∧
    verifyErr (issue { validity := 2000, org := [] } (strBytes "example.com") 10400 0) (strBytes "other.example") 10400 = .hostname := by decide +kernel

end Martian.Props.C06
