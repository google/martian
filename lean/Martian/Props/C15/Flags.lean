import Martian.Lemmas.Logging
import Martian.Lemmas.MessageView
/-!
C15 — "an exchange marked to skip logging is recorded by none of them", with the marking modelled:
context flag operations are idempotent, an exchange may be marked any number of times, from the
request side, the response side or both, by plain markers or by `api.Forwarder`.
-/
namespace Martian.Props.C15
open Martian Martian.MessageView Martian.Logging

/-- A flag reads true iff it was true before or at least one of the operations sets it: the number
of marks (≥ 1) and the other flags' operations do not matter. -/
theorem flags_accumulate (f : Flags) (ms : List Mark) :
    (f.applyAll ms).skipLogging = (f.skipLogging || ms.any Mark.setsSkipLogging) ∧
    (f.applyAll ms).skipRoundTrip = (f.skipRoundTrip || ms.any Mark.setsSkipRoundTrip) ∧
    (f.applyAll ms).apiRequest = (f.apiRequest || ms.any Mark.setsApiRequest) :=
  ⟨applyAll_flag (·.skipLogging) _ (fun _ mk => by cases mk <;> rfl) f ms,
   applyAll_flag (·.skipRoundTrip) _ (fun _ mk => by cases mk <;> rfl) f ms,
   applyAll_flag (·.apiRequest) _ (fun _ mk => by cases mk <;> rfl) f ms⟩

/-- Marking is idempotent. -/
theorem mark_idempotent (f : Flags) (mk : Mark) : (f.apply mk).apply mk = f.apply mk := by
  cases mk <;> rfl

/-- An exchange marked skip-logging any number ≥ 1 of times (among any other flag operations, from
any initial flags) is recorded by none of the loggers. -/
theorem skip_logging_records_nothing_marks (l : Logger) (m : Msg) (f0 : Flags) (ms : List Mark)
    (hl : ∀ o, l ≠ .snapshot o) (hm : ∃ mk ∈ ms, mk.setsSkipLogging = true) :
    (logMsg l (f0.applyAll ms).skipLogging m).2 = none := by
  rw [(skipLogging_applyAll f0 ms).2 (.inr hm), logMsg_skip l m hl]

/-- Whole exchange, one logger: marked before the request side ⇒ neither message is recorded;
marked only between request side and response side ⇒ the response is not recorded. Both messages
are handed on unchanged in every case. -/
theorem marked_exchange_is_not_recorded (l : Logger) (f0 : Flags) (pre post : List Mark) (req res : Msg)
    (hl : ∀ o, l ≠ .snapshot o) :
    ((∃ mk ∈ pre, mk.setsSkipLogging = true) →
      (logExchange l f0 pre post req res).1.2 = none ∧ (logExchange l f0 pre post req res).2.2 = none) ∧
    ((∃ mk ∈ post, mk.setsSkipLogging = true) → (logExchange l f0 pre post req res).2.2 = none) ∧
    (logExchange l f0 pre post req res).1.1 = req ∧ (logExchange l f0 pre post req res).2.1 = res := by
  refine ⟨fun h => ⟨skip_logging_records_nothing_marks l req f0 pre hl h, ?_⟩,
    skip_logging_records_nothing_marks l res (f0.applyAll pre) post hl, logMsg_fst _ _ _, logMsg_fst _ _ _⟩
  -- a flag set on the request side is still set on the response side
  show (logMsg l ((f0.applyAll pre).applyAll post).skipLogging res).2 = none
  rw [(skipLogging_applyAll _ post).2 (.inl ((skipLogging_applyAll f0 pre).2 (.inr h))), logMsg_skip l res hl]

def getMsg : Msg :=
  { isReq := true, method := strBytes "GET", url := strBytes "/", major := 1, minor := 1, code := 0,
    status := [], host := strBytes "h", te := [], cl := 0, hdr := [], body := some [], trailer := none }

/-- Non-vacuity and sensitivity: an exchange that nobody marked is recorded on both sides; with the
skip-logging mark a toggle (`f.skipLogging := !f.skipLogging`) two marks would read "not marked". -/
example : (logExchange .marbl Flags.init [.skipRoundTrip, .apiRequest] [] getMsg getMsg).1.2.isSome = true ∧
    (Flags.init.applyAll [.skipLogging, .skipLogging]).skipLogging = true ∧
    (Flags.init.applyAll [.forwarder, .skipLogging]).skipLogging = true ∧
    (Flags.init.applyAll [.skipRoundTrip, .skipRoundTrip]).skipLogging = false := by decide

end Martian.Props.C15
