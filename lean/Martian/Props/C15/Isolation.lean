import Martian.Lemmas.Logging
/-!
C15 — several messages in flight through the same loggers: a message that was logged and is held
(request whose round trip has not started, response of another exchange, the other direction of
the same exchange) is written out exactly as it arrived, whatever is logged in between.
-/
namespace Martian.Props.C15
open Martian Martian.MessageView Martian.Logging

/-- For every number of messages, every sequence of "log message i with logger l" / "write message
i out" events (any interleaving, any loggers and options, messages logged several times or not at
all), every message is written out as it arrived: same fields, same body bytes. The snapshot
allocates a fresh buffer per drained body (`ioutil.ReadAll`). -/
theorem held_messages_are_isolated (ms : List Msg) (evs : List Ev) :
    ∀ p ∈ (run .fresh (World.ofMsgs ms) evs).2, ms[p.1]? = some p.2 := by
  intro p hp
  obtain ⟨s0, h0, e0⟩ := run_fresh (World.ofMsgs ms) evs _ ⟨valid_ofMsgs ms, Same.refl _⟩ p hp
  rw [e0, ← (ofMsgs_slot h0).2]

/-- The same for any world whose slots read from existing buffers (messages may already share a
buffer: nothing ever writes into an existing one). -/
theorem held_messages_are_isolated_from (w : World) (hv : Valid w) (evs : List Ev) :
    ∀ p ∈ (run .fresh w evs).2, ∃ s0, w.slots[p.1]? = some s0 ∧ p.2 = deref w.heap s0 :=
  run_fresh w evs w ⟨hv, Same.refl _⟩

def msgA : Msg :=
  { isReq := true, method := strBytes "POST", url := strBytes "/", major := 1, minor := 1, code := 0,
    status := [], host := strBytes "h", te := [], cl := 3, hdr := [], body := some (strBytes "AAA"), trailer := none }
def msgB : Msg := { msgA with body := some (strBytes "BBB") }

/-- The theorem has content: with scratch buffers recycled through a pool (handed back when the
snapshot returns) the events "snapshot A, snapshot B, write A" send A out with B's bytes. -/
theorem pooled_buffers_break_isolation :
    (run .pooled (World.ofMsgs [msgA, msgB])
      [.log 0 (.snapshot noOpts) false, .log 1 (.snapshot noOpts) false, .write 0]).2 = [(0, msgB)] ∧
    (run .fresh (World.ofMsgs [msgA, msgB])
      [.log 0 (.snapshot noOpts) false, .log 1 (.snapshot noOpts) false, .write 0]).2 = [(0, msgA)] := by
  decide +kernel

/-- HAR request logging is immune even then (`postData` copies the body once more with a plain
`ReadAll`), HAR response logging and the text logger are not: the model distinguishes them. -/
example :
    (run .pooled (World.ofMsgs [msgA, msgB])
      [.log 0 (.har .all .all) false, .log 1 (.har .all .all) false, .write 0]).2 = [(0, msgA)] ∧
    (run .pooled (World.ofMsgs [msgA, msgB])
      [.log 0 (.text false false) false, .log 1 (.text false false) false, .write 0]).2 = [(0, msgB)] := by
  decide +kernel

end Martian.Props.C15
