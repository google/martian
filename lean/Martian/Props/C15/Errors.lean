import Martian.Lemmas.MessageView
/-!
C15 — when does a logger return an error? The proxy turns a modifier's error into a `Warning` header
of the forwarded message, so every error return is a difference from the unlogged message (open
findings `c15:logger-error:*`). The model has exactly three causes on a body that reads cleanly; the
harness reports any other logger error as a violation.
-/
namespace Martian.Props.C15
open Martian Martian.MessageView

/-- A logger returns an error only for: HAR on a request whose post data is captured and does not
parse as its declared type; HAR on a response whose body is captured and does not decode; the text
logger with `decode` when the decompressor does not open. Never under skip-logging, never marbl,
never a bare snapshot — and in particular never for a body that opens but fails to decode midway
under the text logger (its copy error is dropped). -/
theorem logger_errors_are_classified (t : Trusted) (l : Logger) (skip : Bool) (m : Msg)
    (he : (logMsgT t l skip m).err = true) :
    skip = false ∧
    ((∃ post body, l = .har post body ∧ m.isReq = true ∧ t.postParses = false) ∨
     (∃ post body, l = .har post body ∧ m.isReq = false ∧ decodesOn t noOpts m = false) ∨
     (∃ ho, l = .text ho true ∧ decodeOpensOn t { skipBody := ho, cts := [] } m = false)) := by
  simp only [logMsgT_eq] at he
  cases skip
  · refine ⟨rfl, ?_⟩
    cases l with
    | har post body =>
      cases hr : m.isReq
      · simp [logErr, hr] at he
        exact .inr (.inl ⟨post, body, rfl, rfl, he.2⟩)
      · simp [logErr, hr] at he
        exact .inl ⟨post, body, rfl, rfl, he.2⟩
    | text ho dec =>
      simp [logErr] at he
      obtain ⟨rfl, h⟩ := he
      exact .inr (.inr ⟨ho, rfl, h⟩)
    | _ => cases he
  · cases he

end Martian.Props.C15
