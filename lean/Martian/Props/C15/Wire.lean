import Martian.Lemmas.Http1Wire
import Martian.Lemmas.Http1Ext
/-!
C15, clause "the snapshot itself is a parseable HTTP message equal to the original" — with the
HTTP/1 reader INSIDE the model (`Model/Http1.lean`, a transcription of `http.ReadRequest` /
`http.ReadResponse` + `io.ReadAll(Body)` that is run against the real `net/http` on every check).

`wire m` is the byte string a full snapshot consists of (`snapshot_is_wire_partial` in
`Props/C15.lean`). Under the decidable well-formedness predicates `WFReq` / `WFRes` the reader
returns the original message from it: every start-line field, `Host`, framing, body bytes, trailer
are those of `m`; the header list is `m`'s end-to-end fields plus the `Content-Length` field the
serialiser derived from `m.cl` (`parsedHdr`) — value by value, in order, for every field name —
and for a message already in the reader's normal form the result is `m` itself.
-/
namespace Martian.Props.C15
open Martian Martian.Go Martian.MessageView Martian.Http1

/-- A full snapshot of a request re-parses to the request, and nothing of what follows it on the
stream is consumed. -/
theorem request_snapshot_reparses (o : Opts) (m : Msg) (hc : captures o m = true) (ht : m.trailer = none)
    (h : WFReq m) (rest : Bytes) :
    readRequest ((snapshot o m).message ++ rest) = .complete (reqParsed m) rest := by
  rw [snapshot_message_eq_wire o m hc ht]; exact readRequest_wire m h rest

/-- The wire form itself re-parses to the request, trailers included (the snapshot of a chunked message with a
trailer map lacks its final CRLF — F15a — and is therefore NOT this byte string). -/
theorem wire_request_reparses (m : Msg) (h : WFReq m) (rest : Bytes) :
    readRequest (wire m ++ rest) = .complete (reqParsed m) rest := readRequest_wire m h rest

/-- A full snapshot of a response with a body (Content-Length, chunked or close-delimited)
re-parses to the response. -/
theorem response_snapshot_reparses (o : Opts) (meth : Bytes) (m : Msg) (hc : captures o m = true)
    (ht : m.trailer = none) (h : WFRes meth m) (rest : Bytes) (hrest : lengthDelimited m = false → rest = []) :
    readResponse meth ((snapshot o m).message ++ rest) = .complete (resParsed m) rest := by
  rw [snapshot_message_eq_wire o m hc ht]; exact readResponse_wire meth m h rest hrest

/-- What "equal to the original" means field by field: everything but the header list is `m`'s
(`ContentLength`: `parsedCL m`, which is `m.cl` except that a request with neither framing field is
reported with length 0). -/
theorem reparsed_request_fields (m : Msg) :
    let p := (reqParsed m).msg
    p.method = m.method ∧ p.url = m.url ∧ p.major = m.major ∧ p.minor = m.minor ∧ p.host = m.host ∧
    p.te = m.te ∧ p.cl = parsedCL m ∧ p.body = m.body ∧ p.trailer = m.trailer := by
  simp [reqParsed]

theorem reparsed_response_fields (m : Msg) :
    let p := (resParsed m).msg
    p.code = m.code ∧ p.status = m.status ∧ p.major = m.major ∧ p.minor = m.minor ∧
    p.te = m.te ∧ p.cl = m.cl ∧ p.body = m.body ∧ p.trailer = m.trailer := by
  simp [resParsed]

/-- The re-parsed header list carries, for every field name that is not a framing field, exactly
the original values, with multiplicity and in order. -/
theorem reparsed_request_header_values (m : Msg) (k : Bytes) (hk : (exclOf m).contains k = false)
    (hcl : (clKey == k) = false) : vals (reqParsed m).msg.hdr k = vals m.hdr k :=
  vals_parsedHdr m k hk hcl

theorem reparsed_response_header_values (m : Msg) (k : Bytes) (hk : (exclOf m).contains k = false)
    (hcl : (clKey == k) = false) (hconn : (connKey == k) = false) :
    vals (resParsed m).msg.hdr k = vals m.hdr k :=
  vals_resHdr m k hk hcl hconn

/-- A request in the reader's normal form re-parses to itself. -/
theorem request_in_normal_form_reparses_to_itself (m : Msg) (h : WFReq m) (hn : parsedHdr m = m.hdr)
    (hc : parsedCL m = m.cl) (rest : Bytes) :
    ∃ p, readRequest (wire m ++ rest) = .complete p rest ∧ p.msg = m :=
  ⟨reqParsed m, readRequest_wire m h rest, reqParsed_msg_of_normal m hn hc⟩

theorem response_in_normal_form_reparses_to_itself (meth : Bytes) (m : Msg) (h : WFRes meth m)
    (hn : resHdr m = m.hdr) (rest : Bytes) (hrest : lengthDelimited m = false → rest = []) :
    ∃ p, readResponse meth (wire m ++ rest) = .complete p rest ∧ p.msg = m :=
  ⟨resParsed m, readResponse_wire meth m h rest hrest, resParsed_msg_of_normal m hn⟩

/-- F15a seen by the reader: the snapshot of a chunked request with a trailer map (it lacks the
final CRLF) is a strict prefix of the wire form and is therefore NOT read as a complete message —
the reader reports an incomplete or malformed trailer. This is the exact input class of the open
finding `c15:snapshot-chunked-trailers-lacks-final-crlf`. -/
theorem chunked_trailer_snapshot_does_not_reparse (o : Opts) (m : Msg) (t : List KV)
    (hc : captures o m = true) (ht : m.trailer = some t) (hch : isChunked m.te = true) (h : WFReq m) :
    (readRequest (snapshot o m).message).isComplete = false := by
  have hw := wire_eq_snapshot_crlf o m t hc ht hch
  have h0 := readRequest_wire m h []
  have h1 := readRequest_wire m h [0]
  simp only [List.append_nil] at h0
  have hk : (snapshot o m).message.length < (wire m).length := by rw [hw]; simp [crlf]
  have := request_prefix_never_complete (wire m) (reqParsed m) h0 h1 _ hk
  rw [hw] at this
  simpa using this

/-! Non-vacuity (tests): concrete well-formed messages in normal form, one per framing. -/

def exReqCL : Msg :=
  { isReq := true, method := strBytes "POST", url := strBytes "http://h.example/p?q=1", major := 1, minor := 1,
    code := 0, status := [], host := strBytes "h.example", te := [], cl := 3,
    hdr := [(strBytes "Accept", strBytes "*/*"), (strBytes "Content-Length", strBytes "3"),
            (strBytes "X-Repeat", strBytes "one"), (strBytes "X-Repeat", strBytes "two")],
    body := some (strBytes "abc"), trailer := none }

def exReqChunked : Msg :=
  { isReq := true, method := strBytes "PUT", url := strBytes "/up", major := 1, minor := 1,
    code := 0, status := [], host := strBytes "h.example:8080", te := [chunkedTok], cl := -1,
    hdr := [(strBytes "Content-Type", strBytes "text/plain")],
    body := some (strBytes "hello"), trailer := some [(strBytes "X-Checksum", strBytes "abc")] }

def exResCL : Msg :=
  { isReq := false, method := [], url := [], major := 1, minor := 1, code := 200, status := strBytes "200 OK",
    host := [], te := [], cl := 2,
    hdr := [(strBytes "Content-Length", strBytes "2"), (strBytes "Set-Cookie", strBytes "a=1"),
            (strBytes "Set-Cookie", strBytes "b=2")],
    body := some (strBytes "ok"), trailer := none }

def exResEof : Msg :=
  { exResCL with cl := -1, hdr := [(strBytes "Etag", strBytes "\"x\"")] }

example : WFReq exReqCL ∧ parsedHdr exReqCL = exReqCL.hdr ∧ parsedCL exReqCL = exReqCL.cl := by decide +kernel
example : WFReq exReqChunked ∧ parsedHdr exReqChunked = exReqChunked.hdr ∧ parsedCL exReqChunked = exReqChunked.cl := by
  decide +kernel
example : WFRes (strBytes "GET") exResCL ∧ resHdr exResCL = exResCL.hdr ∧ lengthDelimited exResCL = true := by decide +kernel
example : WFRes (strBytes "GET") exResEof ∧ resHdr exResEof = exResEof.hdr ∧ lengthDelimited exResEof = false := by decide +kernel
example : captures noOpts exReqCL = true ∧ exReqCL.trailer = none := by decide +kernel
example : captures noOpts exReqChunked = true ∧ isChunked exReqChunked.te = true ∧
    exReqChunked.trailer = some [(strBytes "X-Checksum", strBytes "abc")] := by decide +kernel

end Martian.Props.C15
