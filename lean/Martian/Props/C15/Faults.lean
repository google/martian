import Martian.Lemmas.Logging
import Martian.Lemmas.MessageView
/-!
C15 — faults while the logger reads the body. The body of a message whose peer went away yields
some bytes and then an error; the proxy forwards the message whatever the logger returns. What the
body still yields afterwards decides what is forwarded: the bytes before the break, and the break
itself (a chunked message without its last-chunk, a Content-Length body that is short).
The model follows /repo after fix 5291428 (`snapshotKeepsPrefix = true`).
-/
namespace Martian.Props.C15
open Martian Martian.MessageView Martian.Logging

/-- The clause: after any logger, the body yields exactly what it would have yielded. True of the
code (`keep = true`, since /repo 5291428 the snapshot hands back the consumed bytes followed by the
same error); false of the unrepaired variant `keep = false`, kept as a definition so that the
inverse of the fix stays documented (`unrepaired_snapshot_loses_consumed_bytes`). -/
def LoggingPreservesBodyFaults (keep : Bool) : Prop :=
  ∀ (t : Trusted) (l : Logger) (skip : Bool) (m : Msg) (b : FBody), (logFaultK keep t l skip m b).body = b

/-- Every logger, option combination, skip flag, verdict of the trusted parsers, message and body —
in particular a body that fails after any number of bytes under a logger that drains it: the
message handed on yields exactly what it would have yielded without the logger, the same bytes and
then the same clean end or the same error. So what is forwarded breaks off at the same point, with
the same bytes before the break, with and without the logger. -/
theorem logging_preserves_body_faults (t : Trusted) (l : Logger) (skip : Bool) (m : Msg) (b : FBody) :
    (logFault t l skip m b).body = b := by
  -- the drained branch hands back `if keep then b.data else []`; here `keep` is `snapshotKeepsPrefix = true`
  rw [logFault, logFaultK_body, snapshotKeepsPrefix, if_pos rfl]
  -- a clean end is never turned into an error; on a failing body both branches are "`d`, then the error"
  obtain ⟨d, e⟩ := b
  cases e
  · rfl
  · exact ite_self _

/-- In particular the break itself is never masked and never introduced: a body that fails still
fails (the message is forwarded broken off, never as a complete one), a body that ends cleanly
still does. This part holds whatever the snapshot does with the consumed bytes. -/
theorem logging_never_masks_body_faults (keep : Bool) (t : Trusted) (l : Logger) (skip : Bool) (m : Msg)
    (b : FBody) : (logFaultK keep t l skip m b).body.err = b.err := by
  rw [logFaultK_body]
  obtain ⟨d, e⟩ := b
  cases e
  · rfl
  · exact (apply_ite FBody.err _ _ _).trans (ite_self _)

theorem logging_preserves_body_faults_full : LoggingPreservesBodyFaults snapshotKeepsPrefix :=
  logging_preserves_body_faults

def brokenUpload : Msg :=
  { isReq := true, method := strBytes "POST", url := strBytes "/", major := 1, minor := 1, code := 0,
    status := [], host := strBytes "h", te := [chunkedTok], cl := -1, hdr := [], body := some [], trailer := none }

/-- The inverse of the fix (the snapshot as it was before /repo 5291428: `if err != nil { return err }`,
the body left where the error struck): a chunked upload that breaks off after `abc`, under a bare
snapshot, is handed on broken off but WITHOUT `abc` — the clause fails, on exactly the bodies that
fail under a draining logger and nowhere else. -/
theorem unrepaired_snapshot_loses_consumed_bytes :
    ¬ LoggingPreservesBodyFaults false ∧
    (logFaultK false ⟨true, true, true⟩ (.snapshot noOpts) false brokenUpload ⟨strBytes "abc", true⟩).body = ⟨[], true⟩ ∧
    (∀ (t : Trusted) (l : Logger) (skip : Bool) (m : Msg) (b : FBody),
      (b.err = false ∨ installs l skip { m with body := some b.data } = []) →
        (logFaultK false t l skip m b).body = b) := by
  have h2 : (logFaultK false ⟨true, true, true⟩ (.snapshot noOpts) false brokenUpload
      ⟨strBytes "abc", true⟩).body = ⟨[], true⟩ := by decide +kernel
  refine ⟨fun h => absurd ((h _ _ _ _ _).symm.trans h2) (by decide), h2, fun t l skip m b h => ?_⟩
  rw [logFaultK_body, if_neg]
  rcases h with h | h <;> simp [h]

/-- A logger whose read of the body failed returns the error and has recorded nothing. -/
theorem failed_body_read_records_nothing (t : Trusted) (l : Logger) (skip : Bool) (m : Msg) (b : FBody)
    (he : b.err = true) (hd : installs l skip { m with body := some b.data } ≠ []) :
    (logFault t l skip m b).record = none ∧ (logFault t l skip m b).err = true := by
  simp [logFault, logFaultK, he, hd]

/-- On a body that ends cleanly this is the error-path model `logMsgT`. -/
theorem logFault_clean (t : Trusted) (l : Logger) (skip : Bool) (m : Msg) (d : Bytes) :
    (logFault t l skip m ⟨d, false⟩).record = (logMsgT t l skip { m with body := some d }).record ∧
    (logFault t l skip m ⟨d, false⟩).err = (logMsgT t l skip { m with body := some d }).err :=
  ⟨rfl, rfl⟩

-- non-vacuity: a draining logger on a failing body hands on the consumed bytes and the error; marbl
-- and a skip-logging exchange never touch the body; a logger error is returned on the draining path
example : (logFault ⟨true, true, true⟩ (.text false false) false brokenUpload ⟨strBytes "abc", true⟩).body = ⟨strBytes "abc", true⟩ ∧
    (logFault ⟨true, true, true⟩ (.text false false) false brokenUpload ⟨strBytes "abc", true⟩).err = true ∧
    (logFault ⟨true, true, true⟩ .marbl false brokenUpload ⟨strBytes "abc", true⟩).body = ⟨strBytes "abc", true⟩ ∧
    (logFault ⟨true, true, true⟩ .marbl false brokenUpload ⟨strBytes "abc", true⟩).err = false ∧
    (logFault ⟨true, true, true⟩ (.text false false) true brokenUpload ⟨strBytes "abc", true⟩).body = ⟨strBytes "abc", true⟩ := by
  decide +kernel

end Martian.Props.C15
