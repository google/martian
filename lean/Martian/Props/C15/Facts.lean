import Martian.Generated.Har
import Martian.Model.Logging
/-!
C15 — structural facts of the loggers' skip-logging guards and of the context's flag setters,
regenerated from the source on every check (`go/cmd/vextract/facts_har.go` → `Generated/Har.lean`),
that `Model/MessageView.lean` (`logMsg`: `if skipLogging then (m, none)`) and `Model/Logging.lean`
(`Flags.apply` only sets) transcribe.
-/
namespace Martian.Props.C15
open Martian

/-- Each of the six logger entry points (`har.Logger`, `martianlog.Logger`, `marbl.Modifier` ×
`ModifyRequest` / `ModifyResponse`) starts with `if ctx.SkippingLogging() { return nil }` — nothing
but the context lookup precedes it — and only after it records / snapshots / logs. -/
theorem facts_loggers_ask_skip_logging_first :
    Generated.Har.skipGuards.map (·.1) =
      ["har.ModifyRequest", "har.ModifyResponse", "martianlog.ModifyRequest", "martianlog.ModifyResponse",
       "marbl.ModifyRequest", "marbl.ModifyResponse"] ∧
    (Generated.Har.skipGuards.all fun g => g.2.1 && !g.2.2.isEmpty) = true := ⟨rfl, rfl⟩

/-- `SkipRoundTrip`, `SkipLogging`, `APIRequest` (and the helpers of `context.go` they call) contain
no toggling or clearing operator (`^`, `&^`, `!`, `&=`) and no `= false`: a flag, once set, stays
set — `Flags.apply`, `flags_accumulate`. -/
theorem facts_flag_setters_only_set :
    Generated.Har.flagSettersFound = 3 ∧ Generated.Har.flagSettersOnlySet = true := ⟨rfl, rfl⟩

end Martian.Props.C15
