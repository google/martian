import Martian.Lemmas.Marbl
/-!
C19 — "reading through the logging wrapper returns the same bytes and errors as the underlying body", for EVERY
sequence of `Read` / `Close` calls a consumer makes (not only read-to-EOF-then-close): `Close` before end-of-file
followed by more reads, `Close` twice, reads after EOF, zero-length reads, `Close` without any read. A call is
given with what the wrapped body returns for it (`Call`), so the quantifier covers every body behaviour as well.
-/
namespace Martian.Props.C19
open Martian Martian.Marbl

/-- For every list of calls (any mix of reads and closes, any results of the wrapped body), any counter value and
whatever was called before: the wrapper returns, call for call, exactly what the wrapped body returns. -/
theorem wrapper_transparent_calls (mt : UInt8) (id : Bytes) (cs : List Call) (ctr : Nat) (closed : Bool) :
    (callRun false mt id ctr closed cs).1 = cs :=
  (callRun_spec mt id cs ctr closed).1

/-- …and the frames account for every read, wherever `Close` calls fall among them: one data frame per `Read`
(also after a `Close`, also after EOF), indices 0,1,2,…, payloads concatenating to all bytes the consumer read,
frame k terminal exactly when read k returned `io.EOF`. `Close` sends nothing. -/
theorem frames_account_for_every_read (mt : UInt8) (id : Bytes) (cs : List Call) (h : (Call.reads cs).length ≤ two32) :
    let fs := (callRun false mt id 0 false cs).2
    fs = (bodyRun mt id 0 (Call.reads cs)).2 ∧
    fs.map Frame.index = List.range (Call.reads cs).length ∧
    (fs.map Frame.payload).flatten = ((Call.reads cs).map ReadRes.data).flatten ∧
    fs.map Frame.terminal = (Call.reads cs).map (fun r => r.err == .eof) := by
  intro fs
  have hfs : fs = (bodyRun mt id 0 (Call.reads cs)).2 := (callRun_spec mt id cs 0 false).2
  rw [hfs]
  exact ⟨rfl, by rw [bodyRun_index mt id _ 0 (by omega), List.range_eq_range'], by rw [bodyRun_payload],
    bodyRun_terminal mt id _ 0⟩

/-- What a "closed" flag in the wrapper does (concrete witness, `decide`; the wrapped body stays readable after
`Close`, like an `ioutil.NopCloser`): the read after `Close` returns an error instead of the body's bytes, those
bytes are never logged and no frame is terminal although the body was at end-of-file. -/
theorem close_flag_counterexample :
    let cs : List Call := [.read ⟨strBytes "ab", .none⟩, .close .none, .read ⟨strBytes "cd", .eof⟩]
    let id := strBytes "aaaaaaaa"
    (callRun true 1 id 0 false cs).1 ≠ cs ∧
    ((callRun true 1 id 0 false cs).2.map Frame.payload).flatten ≠ ((Call.reads cs).map ReadRes.data).flatten ∧
    (callRun true 1 id 0 false cs).2.all (fun f => !f.terminal) = true ∧
    (callRun false 1 id 0 false cs).1 = cs ∧
    (callRun false 1 id 0 false cs).2 = [.data 1 id 0 false (strBytes "ab"), .data 1 id 1 true (strBytes "cd")] := by
  decide +kernel

/-- non-vacuity: Close first, Close twice, zero-length read, read after EOF -/
example : (callRun false 2 (strBytes "bbbbbbbb") 0 false
    [.close .none, .close .other, .read ⟨[], .none⟩, .read ⟨strBytes "x", .eof⟩, .read ⟨[], .eof⟩]).2.map Frame.index = [0, 1, 2] := by
  decide +kernel

end Martian.Props.C19
