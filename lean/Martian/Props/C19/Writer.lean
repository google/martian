import Martian.Lemmas.Marbl
import Martian.Lemmas.Strings
import Martian.Generated.Marbl
/-!
C19 — "Frames from concurrently logged messages are never torn or interleaved within a frame", from the
goroutine system itself instead of an assumed `Shuffle`.

`Marbl.Sys` is the stream's concurrency as it is in `marbl.go`: any number of logging goroutines, each with its
program-ordered sequence of sends on the unbuffered `framec`; one writer goroutine that alternates between `select`
and `w.Write` of the slice it received; `Close` taken only in `select`. The theorems quantify over EVERY run of that
system (every list of enabled steps: every choice of which blocked sender the writer meets next, every point at
which `Write` returns).

What they rest on is regenerated from the source on every check (`facts_marbl_single_send`): each sender function
hands the channel ONE slice per call — the buffer it obtained from its constructor call and filled, untouched
afterwards, by a plain blocking send statement (never a case of a `select`, which could give the frame up after a
timeout or at once: in `Sys` a pending send stays pending until the writer takes it, however long `Write` takes);
one receive on the channel, in a function started by one `go` statement; that function passes the
received slice once to the stream's `Write` and does nothing else with it; the channel has no buffer.
-/
namespace Martian.Props.C19
open Martian Martian.Marbl

/-- The structural facts of `marbl.go` that make `Marbl.Sys` with whole-frame sends (`chunksOf true`) the model of the
stream: regenerated by `vextract` from the tree under test. A change that hands a frame to
the writer goroutine in pieces, lets a sender give up (send inside a `select`), adds a second receiver or a second writer, lets the writer keep using the slice,
or buffers the channel breaks this theorem. -/
theorem facts_marbl_single_send :
    (Generated.Marbl.framecSendsWhole, Generated.Marbl.framecSendsBlocking, decide (0 < Generated.Marbl.framecSenders),
      Generated.Marbl.framecUnbuffered) = (true, true, true, true) ∧
    (Generated.Marbl.framecReceivers, Generated.Marbl.writerWritesReceived, Generated.Marbl.streamWriteCalls,
      Generated.Marbl.writerGoroutines) = (1, true, 1, 1) := ⟨rfl, rfl⟩

/-- Any run of the goroutine system to quiescence has written exactly an interleaving of the senders' sends:
each sender's in its program order, nothing lost at `Close`, nothing duplicated, nothing else. (`α` = whatever one
channel send carries.) `Shuffle` is not an assumption: it is what the single writer goroutine gives. -/
theorem writer_output_is_interleaving {α : Type} (senders : List (List α)) (steps : List Step) (s' : Sys α)
    (hrun : (Sys.init senders).exec steps = some s') (hq : s'.quiescent = true) :
    Shuffle senders s'.out := by
  obtain ⟨l, hl, hout⟩ := Sys.exec_shuffle steps (Sys.init senders) s' hrun hq
  simp only [Sys.init, WPc.inflight, List.nil_append] at hout hl
  rw [hout]; exact hl

/-- …and conversely every interleaving is written by some run: the model excludes no schedule. -/
theorem every_interleaving_is_a_run {α : Type} (senders : List (List α)) (l : List α) (h : Shuffle senders l) :
    ∃ steps s', (Sys.init senders).exec steps = some s' ∧ s'.quiescent = true ∧ s'.out = l := by
  obtain ⟨steps, s', he, hq, ho⟩ := Sys.shuffle_reachable h []
  exact ⟨steps, s', he, hq, by simpa using ho⟩

/-- After `Close()` nothing is written any more, whatever the logging goroutines still try (their sends block for
ever: no step but none is enabled for the writer), and `Close()` itself loses nothing: it is only taken in `select`,
when no slice is in flight. -/
theorem closed_stream_writes_nothing {α : Type} (steps : List Step) (s s' : Sys α)
    (hx : s.writer = .exited) (hrun : s.exec steps = some s') : s' = s := by
  induction steps generalizing s with
  | nil => simp only [Sys.exec, Option.some.injEq] at hrun; exact hrun.symm
  | cons st rest _ =>
    simp only [Sys.exec] at hrun
    cases st <;> simp [Sys.step, Sys.take, Sys.write, Sys.close, hx] at hrun

/-- Frame granularity, depending on the fact: IF every `send*` call makes one channel send carrying the complete frame
(`whole = true`), THEN in every run, with any number of logging goroutines sending any frame sequences `ms`, the bytes
written are the concatenation of whole frames, in an order `l` that is an interleaving of the messages' frame
sequences — no frame torn, none interleaved within another. -/
theorem frame_granular_of_single_send (whole : Bool) (hfact : whole = true) (ms : List (List Frame)) (steps : List Step)
    (s' : Sys Bytes) (hrun : (Sys.init (ms.map (senderChunks whole))).exec steps = some s') (hq : s'.quiescent = true) :
    ∃ l, Shuffle ms l ∧ s'.out.flatten = encodeAll l := by
  subst hfact
  have hsh := writer_output_is_interleaving _ steps s' hrun hq
  have hmap : ms.map (senderChunks true) = ms.map (List.map encode) :=
    List.map_congr_left fun m _ => senderChunks_whole m
  obtain ⟨fl, hfl, hout⟩ := Shuffle.of_map encode hsh ms hmap
  exact ⟨fl, hfl, by rw [hout]; rfl⟩

/-- The same for the code as it is in the tree under test: the hypothesis is discharged by the regenerated fact. -/
theorem stream_is_frame_granular (ms : List (List Frame)) (steps : List Step) (s' : Sys Bytes)
    (hrun : (Sys.init (ms.map (senderChunks Generated.Marbl.framecSendsWhole))).exec steps = some s')
    (hq : s'.quiescent = true) :
    ∃ l, Shuffle ms l ∧ s'.out.flatten = encodeAll l :=
  frame_granular_of_single_send Generated.Marbl.framecSendsWhole (by decide) ms steps s' hrun hq

/-- Why the fact is needed (concrete witness, `decide`): if a data frame is handed over as two sends — descriptor, then
payload — there is a run in which another message's header frame is written between the two; the stream then does
not parse back to the frames (here: the reader takes the foreign header frame for the payload and fails). -/
theorem split_send_tears_counterexample :
    let a : Frame := .data 1 (strBytes "aaaaaaaa") 0 true (strBytes "0123456789012345678901")
    let b : Frame := .header 2 (strBytes "bbbbbbbb") (strBytes ":s") (strBytes "200")
    ∃ out, replayWrites [senderChunks false [a], senderChunks false [b]] [0, 1, 0] = some out ∧
      (readAll out.flatten).1 ≠ [a, b] ∧ (readAll out.flatten).1 ≠ [b, a] ∧
      -- the same schedule with whole-frame sends is not a run at all: sender 0 has one send only
      replayWrites [senderChunks true [a], senderChunks true [b]] [0, 1, 0] = none ∧
      (∃ out', replayWrites [senderChunks true [a], senderChunks true [b]] [0, 1] = some out' ∧
        (readAll out'.flatten).1 = [a, b]) := by
  repeat rw [strBytes_ofList]
  refine ⟨_, rfl, ?_, ?_, ?_, _, rfl, ?_⟩ <;> decide +kernel

end Martian.Props.C19
