import Martian.Lemmas.Grpc
/-!
C11 — the 32-bit arithmetic of the length prefix (`adapter.length uint32`,
`uint32(len(data))`), modelled as it is in the code.

* the `length` field always fits a `uint32`;
* the payload test `uint64(a.buffer.Len()) < uint64(a.length)` (fix ba75971) is a comparison of
  naturals: a complete message is always delivered, whatever the buffer size
  (`complete_message_is_delivered`; with `uint32(a.buffer.Len())` a buffer of 2^32 bytes or more wraps);
* the emitter's prefix announces the payload length modulo 2^32 (`emit_prefix_reads_back`):
  the hypothesis "recompressed payload < 2^32" of `passthrough_wire_roundtrip` is exact. That is
  the format's own limit, not a defect.
-/
namespace Martian.Props.C11
open Martian Martian.Grpc

/-- Whatever bytes arrive, the `length` the loop stores fits the Go `uint32` field (so `Nat` in
the model loses nothing). -/
theorem length_stays_uint32 (cd : Codec) (es : Bool) (a a' : Adapter) (h : (loop cd es a).next = some a')
    (hl : a.length < 4294967296) : a'.length < 4294967296 :=
  (loop_next cd es a a' h).length hl

theorem data_length_stays_uint32 (cd : Codec) (es : Bool) (a a' : Adapter) (d : Bytes)
    (h : (data cd a d es).next = some a') (hl : a.length < 4294967296) : a'.length < 4294967296 :=
  length_stays_uint32 cd es (a.app d) a' h (by simpa [Adapter.app] using hl)

/-- Once the whole payload is in the buffer the message is delivered (or its decompression
fails) — for every buffer size, 2^32 bytes and beyond included. (The inverse of fix ba75971 makes
this false: `uint32(a.buffer.Len())` wraps below `a.length`.) -/
theorem complete_message_is_delivered (cd : Codec) (es : Bool) (a : Adapter)
    (hr : a.reading = true) (h : a.length ≤ a.buf.length) :
    (loop cd es a).next = none ∨ ∃ d e rest, (loop cd es a).calls = ⟨a.compressed, d, e⟩ :: rest
        ∧ decode cd a.enc a.compressed (a.buf.take a.length) = some d := by
  cases hd : decode cd a.enc a.compressed (a.buf.take a.length) with
  | none => left; rw [loop_reading_err cd es a hr h hd]
  | some d =>
    right
    rw [loop_reading_some cd es a hr h d hd]
    split
    · exact ⟨d, es, [], rfl, rfl⟩
    · exact ⟨d, false, _, rfl, rfl⟩

/-- instance at the least size whose `uint32` wraps (2^32 bytes pending): a 1-byte message followed
in the same buffer by 2^32 - 1 further bytes is shown -/
example (cd : Codec) (y : Bytes) (hy : y.length = 4294967295) :
    (loop cd false { reading := true, length := 1, buf := 7 :: y }).calls.head? = some ⟨false, [7], false⟩ := by
  have hne : y ≠ [] := by intro h0; rw [h0] at hy; simp at hy
  rw [loop_reading_some cd false _ rfl (by simp) [7] (by simp [decode]), if_neg (by simpa using hne)]
  simp [Res.cons]

/-- `binary.Write(&buf, binary.BigEndian, uint32(len(data)))`: a reader of the sink's DATA finds
the payload length modulo 2^32 in the prefix, and the flag byte in front of it. -/
theorem emit_prefix_reads_back (cd : Codec) (e : Enc) (c : Call) :
    be32 ((emit cd e c).1.drop 1) = u32 (encode cd e c.compressed c.data).length
    ∧ (emit cd e c).1.getD 0 0 = (if c.compressed then 1 else 0)
    ∧ (emit cd e c).1.drop 5 = encode cd e c.compressed c.data := by
  refine ⟨?_, by simp [emit], by simp [emit, putBe32]⟩
  simp only [emit, List.drop_succ_cons, List.drop_zero]
  exact be32_putBe32_u32 _ _

/-- Beyond 2^32 - 1 bytes the announced length is wrong (it wraps): the bound
`(encode …).length < 2^32` of `passthrough_wire_roundtrip` is exact. -/
theorem emit_prefix_wraps (cd : Codec) (e : Enc) (c : Call) (k : Nat)
    (h : (encode cd e c.compressed c.data).length = 4294967296 + k) :
    be32 ((emit cd e c).1.drop 1) = u32 k := by
  rw [(emit_prefix_reads_back cd e c).1, h, Nat.add_comm, u32_add_wrap]

/-- and up to it, it is right -/
theorem emit_prefix_exact (cd : Codec) (e : Enc) (c : Call)
    (h : (encode cd e c.compressed c.data).length < 4294967296) :
    be32 ((emit cd e c).1.drop 1) = (encode cd e c.compressed c.data).length := by
  rw [(emit_prefix_reads_back cd e c).1, u32_of_lt h]

end Martian.Props.C11
