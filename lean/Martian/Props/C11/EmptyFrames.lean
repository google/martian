import Martian.Props.C11.Batch
/-!
C11 — zero-length DATA frames that do not end the stream.

HTTP/2 allows them anywhere; a cut-set enumeration over the n-1 inner positions of a byte stream
never produces one. They must be invisible: no `Message` call, no state change — in every state
`adapter.Data` can leave the adapter in. Together with
`frames_eq_batch` (which already quantifies over frame lists containing empty frames) this puts
them inside the fragmentation theorems.
-/
namespace Martian.Props.C11
open Martian Martian.Grpc

/-- The states `adapter.Data` returns in: waiting for the rest of a prefix, or for the rest of a
payload. A new adapter is in such a state. -/
def Quiescent (a : Adapter) : Prop :=
  (a.reading = false → a.buf.length < 5) ∧ (a.reading = true → a.buf.length < a.length)

theorem fresh_quiescent (e : Enc) : Quiescent (fresh e) := by
  simp [Quiescent, fresh]

/-- every `adapter.Data` call that returns without error leaves the adapter quiescent -/
theorem data_leaves_quiescent (cd : Codec) (a a' : Adapter) (d : Bytes) (es : Bool)
    (h : (data cd a d es).next = some a') : Quiescent a' :=
  (loop_next cd es (a.app d) a' h).waits

/-- **An empty DATA frame without END_STREAM is a no-op**: no call to the processor, nothing to
the sink, the adapter unchanged — at a message boundary, inside a prefix, right after a prefix,
inside a payload. (The seeded defect C11-D turns it into `Message(nil, false)` at the boundaries.) -/
theorem empty_frame_is_noop (cd : Codec) (a : Adapter) (hq : Quiescent a) :
    data cd a [] false = ⟨[], some a⟩ := by
  unfold data
  rw [app_nil]
  exact loop_quiescent cd a hq

/-- **Empty frames are invisible in any frame sequence**: a DATA frame list, with END_STREAM on
its last frame or not, has the same effect as the list with its zero-length frames removed — from
every quiescent state, for every codec. The one exception is the one the
statement itself singles out (and the code gets wrong, F11b): an empty frame that carries the
END_STREAM. -/
theorem empty_frames_invisible (cd : Codec) (a : Adapter) (hq : Quiescent a) (fs : List Bytes) (es : Bool)
    (hl : es = false ∨ fs.getLast? ≠ some []) :
    runFrames cd a fs es = runFrames cd a (fs.filter (· ≠ [])) es := by
  by_cases hne : fs = []
  · subst hne; rfl
  rw [frames_eq_batch cd a fs es hne hl, ← List.flatten_filter_ne_nil]
  by_cases hg : fs.filter (· ≠ []) = []
  · -- every frame is empty, the last one too: so it does not end the stream
    have hes : es = false := hl.resolve_right fun h => h (by
      rw [List.getLast?_eq_some_getLast hne]
      simpa using List.filter_eq_nil_iff.mp hg _ (List.getLast_mem hne))
    subst hes
    rw [hg]; exact empty_frame_is_noop cd a hq
  · exact (frames_eq_batch cd a _ es hg (Or.inr fun h => by
      simpa using (List.mem_filter.mp (List.mem_of_getLast? h)).2)).symm

/-- Inserting a zero-length frame anywhere but at the very end of a sequence changes nothing. -/
theorem insert_empty_frame (cd : Codec) (a : Adapter) (hq : Quiescent a) (fs gs : List Bytes) (es : Bool)
    (hg : gs ≠ []) (hl : es = false ∨ gs.getLast? ≠ some []) :
    runFrames cd a (fs ++ [] :: gs) es = runFrames cd a (fs ++ gs) es := by
  -- the two lists have the same concatenation and the same last frame
  have hlast : ∀ pre : List Bytes, es = false ∨ (pre ++ gs).getLast? ≠ some [] := fun pre =>
    hl.imp_right (by rw [List.getLast?_append, List.getLast?_eq_some_getLast hg]; exact id)
  have h1 := hlast (fs ++ [[]])
  simp only [List.append_assoc, List.singleton_append] at h1
  rw [frames_eq_batch cd a _ es (by simp) h1, frames_eq_batch cd a _ es (by simp [hg]) (hlast fs)]
  simp

/-- Instance on the F11b-free placement, spelled out: any cut of a message stream, with any
number of zero-length frames sprinkled in (`gs` has the same non-empty frames as `fs`), END_STREAM
on a non-empty last frame — the processor is shown exactly what it is shown for `fs`. -/
theorem sprinkled_empty_frames_equivalent (cd : Codec) (e : Enc) (fs gs : List Bytes)
    (h : gs.filter (· ≠ []) = fs.filter (· ≠ [])) (hf : fs.getLast? ≠ some []) (hg : gs.getLast? ≠ some []) :
    runFrames cd (fresh e) gs true = runFrames cd (fresh e) fs true := by
  rw [empty_frames_invisible cd _ (fresh_quiescent e) gs true (Or.inr hg),
    empty_frames_invisible cd _ (fresh_quiescent e) fs true (Or.inr hf), h]

/-- non-vacuity / test: one message, an empty frame at the boundary before it, one right after
its prefix, one inside the payload -/
example (cd : Codec) :
    (runFrames cd (fresh .identity) [[], [0, 0, 0, 0, 2], [], [0x41], [], [0x42]] true).calls
      = [⟨false, [0x41, 0x42], true⟩] := by
  obtain ⟨a', h, _⟩ := data_stream cd true [⟨false, [0x41, 0x42], [0x41, 0x42]⟩] (Or.inl (by simp)) (fresh .identity) ⟨rfl, rfl⟩
    (by simp [GMsg.ok, decode])
  have hs : ([[], [0, 0, 0, 0, 2], [], [0x41], [], [0x42]].filter (· ≠ [])).flatten
      = stream [⟨false, [0x41, 0x42], [0x41, 0x42]⟩] := by decide
  rw [empty_frames_invisible cd _ (fresh_quiescent _) _ true (Or.inr (by simp)),
    frames_eq_batch cd _ _ true (by simp) (Or.inr (by simp)), hs, h]
  rfl

end Martian.Props.C11
