import Martian.Lemmas.Grpc
import Martian.Lemmas.Strings
/-!
C11 — `adapter.Header` as a function of the ORDERED header field list.

What the code does (and the model transcribes): a stream becomes gRPC when some field named
`content-type` has a value `isGRPCContentType` accepts — `application/grpc`, alone or followed by
`+subtype` or `;parameter` (fix 1b6fe6f; a comparison for equality is finding F11d);
then ALL `grpc-encoding` fields of the block are visited in order, each recognised value
overwrites the encoding (the last one wins), an unrecognised value is an error. The two scans are
independent, so the position of `content-type` relative to `grpc-encoding` is irrelevant (the
seeded defect C11-C merged the scans and lost that).
-/
namespace Martian.Props.C11
open Martian Martian.Grpc

/-- the `grpc-encoding` fields of a block (what the second loop of `adapter.Header` looks at) -/
def encFields (hs : List Header) : List Header := hs.filter (fun h => h.1 = geName)

/-- the announcing field in its bare form -/
def grpcCT : Header := (ctName, ctGrpc)

theorem header_literals : ctName = strBytes "content-type" ∧ ctGrpc = strBytes "application/grpc"
    ∧ geName = strBytes "grpc-encoding" := ⟨rfl, rfl, rfl⟩

theorem encoding_value_table :
    encOfName (strBytes "identity") = some .identity ∧ encOfName (strBytes "gzip") = some .gzip
    ∧ encOfName (strBytes "deflate") = some .deflate ∧ encOfName (strBytes "snappy") = some .snappy
    ∧ encOfName (strBytes "GZIP") = none ∧ encOfName (strBytes "gzip ") = none ∧ encOfName [] = none
    ∧ encOfName (strBytes "br") = none := by
  repeat rw [strBytes_ofList]
  decide +kernel

theorem ctName_ne_geName : ctName ≠ geName := by decide +kernel

/-- A content-type that announces gRPC according to the gRPC-over-HTTP/2 specification
(`"application/grpc" [("+proto" / "+json" / {custom})]`, and — as grpc-go reads it — a `;`
parameter); 0x2B is `+`, 0x3B is `;`. -/
def SpecGrpcContentType (v : Bytes) : Prop :=
  v = ctGrpc ∨ ∃ t, v = ctGrpc ++ 0x2B :: t ∨ v = ctGrpc ++ 0x3B :: t

theorem grpcCT_spec : SpecGrpcContentType grpcCT.2 := Or.inl rfl

theorem ctSeps_eq : ctSeps = [0x2B, 0x3B] := by decide

/-- **`isGRPCContentType` accepts exactly the content-types of the specification.** -/
theorem isGrpcCT_iff (v : Bytes) : isGrpcCT v = true ↔ SpecGrpcContentType v := by
  simp only [isGrpcCT, ctSeps_eq, SpecGrpcContentType, Bool.and_eq_true, Bool.or_eq_true, beq_iff_eq,
    List.isPrefixOf_iff_prefix]
  constructor
  · rintro ⟨⟨t, rfl⟩, h⟩
    cases t with
    | nil => exact Or.inl (List.append_nil _)
    | cons x t =>
      have hx : x = 0x2B ∨ x = 0x3B := by simpa [List.getD_eq_getElem?_getD] using h
      exact Or.inr ⟨t, hx.imp (fun h => by rw [h]) (fun h => by rw [h])⟩
  · rintro (rfl | ⟨t, rfl | rfl⟩) <;> simp [List.getD_eq_getElem?_getD]

/-- detection: some field named `content-type` carries such a value — position and multiplicity
are irrelevant -/
theorem grpc_detected_iff (hs : List Header) :
    isGrpcHeaders hs = true ↔ ∃ v, (ctName, v) ∈ hs ∧ SpecGrpcContentType v := by
  simp only [isGrpcHeaders, List.any_eq_true]
  constructor
  · rintro ⟨⟨n, v⟩, hm, hc⟩
    simp at hc
    exact ⟨v, by rw [← hc.1]; exact hm, (isGrpcCT_iff v).mp hc.2⟩
  · rintro ⟨v, hm, hv⟩
    exact ⟨_, hm, by simp [(isGrpcCT_iff v).mpr hv]⟩

theorem grpc_detected_anywhere (pre post : List Header) (v : Bytes) (hv : SpecGrpcContentType v) :
    isGrpcHeaders (pre ++ (ctName, v) :: post) = true :=
  (grpc_detected_iff _).mpr ⟨v, by simp, hv⟩

/-- Full statement (false of a test that compares for equality, F11d; fix 1b6fe6f): every
stream the specification calls gRPC is treated as gRPC. -/
def DetectsEveryGrpcContentType : Prop :=
  ∀ (v : Bytes) (pre post : List Header), SpecGrpcContentType v → isGrpcHeaders (pre ++ (ctName, v) :: post) = true

theorem detects_every_grpc_content_type : DetectsEveryGrpcContentType :=
  fun v pre post hv => grpc_detected_anywhere pre post v hv

/-- … and nothing else: a block without such a field does not switch the stream to gRPC (another
name, another media type, `application/grpc-web`, `application/grpcx`, another case, surrounding
blanks). -/
theorem detects_only_grpc_content_types (hs : List Header)
    (h : ∀ x ∈ hs, x.1 = ctName → ¬ SpecGrpcContentType x.2) : isGrpcHeaders hs = false :=
  Bool.eq_false_iff.mpr fun hg =>
    let ⟨_, hm, hv⟩ := (grpc_detected_iff hs).mp hg
    h _ hm rfl hv

/-- look-alikes, decided on the model's test (the oracle's `headers:not-grpc` inputs) -/
theorem lookalike_content_types_not_grpc :
    ([strBytes "application/grpc-web", strBytes "application/grpc-web+proto", strBytes "application/grpcx",
      strBytes "application/grp", strBytes "Application/grpc", strBytes "application/grpc ",
      strBytes " application/grpc", strBytes "application/GRPC", strBytes "application/json", []].map isGrpcCT).all (· == false)
    ∧ ([strBytes "application/grpc", strBytes "application/grpc+proto", strBytes "application/grpc+json",
        strBytes "application/grpc;charset=utf-8", strBytes "application/grpc+", strBytes "application/grpc;"].map isGrpcCT).all (· == true) := by
  repeat rw [strBytes_ofList]
  decide +kernel

/-- fields with another name are skipped (also `grpc-accept-encoding`, `content-encoding`) -/
theorem scan_skips_other_fields (e : Enc) (hs : List Header) (h : ∀ x ∈ hs, x.1 ≠ geName) :
    scanEncoding e hs = (e, true) := by
  fun_induction scanEncoding e hs with
  | case1 => rfl
  | case2 e v hs => exact absurd rfl (h _ (List.mem_cons_self ..))
  | case3 e v hs => exact absurd rfl (h _ (List.mem_cons_self ..))
  | case4 e n v hs hn ih => exact ih fun x hx => h x (List.mem_cons_of_mem _ hx)

/-- the scan sees only the `grpc-encoding` fields, in their order -/
theorem scan_depends_on_encoding_fields_only (e : Enc) (hs : List Header) :
    scanEncoding e hs = scanEncoding e (encFields hs) := by
  fun_induction scanEncoding e hs with
  | case1 => rfl
  | case2 e v hs e' hv ih => simpa [encFields, scanEncoding, hv] using ih
  | case3 e v hs hv => simp [encFields, scanEncoding, hv]
  | case4 e n v hs hn ih => simpa [encFields, hn] using ih

/-- no error iff every `grpc-encoding` value is one of the four names -/
theorem scan_ok_iff (e : Enc) (hs : List Header) :
    (scanEncoding e hs).2 = true ↔ ∀ x ∈ hs, x.1 = geName → (encOfName x.2).isSome = true := by
  fun_induction scanEncoding e hs with
  | case1 => simp
  | case2 e v hs e' hv ih => simp [ih, hv]
  | case3 e v hs hv => simp [hv]
  | case4 e n v hs hn ih => simp [ih, hn]

/-- **The encoding is the one named by the LAST `grpc-encoding` field of the block**, wherever it
stands and whatever precedes it (other recognised `grpc-encoding` fields included). -/
theorem encoding_is_last_grpc_encoding_field (e e' : Enc) (pre post : List Header) (v : Bytes)
    (hpre : ∀ x ∈ pre, x.1 = geName → (encOfName x.2).isSome = true)
    (hpost : ∀ x ∈ post, x.1 ≠ geName) (hv : encOfName v = some e') :
    scanEncoding e (pre ++ (geName, v) :: post) = (e', true) := by
  rw [scanEncoding_append]
  have h1 : (scanEncoding e pre).2 = true := (scan_ok_iff e pre).mpr hpre
  simp only [h1, if_true, scanEncoding, hv]
  exact scan_skips_other_fields e' post hpost

/-- without any `grpc-encoding` field the adapter keeps the encoding it had (a new one: identity) -/
theorem no_encoding_field_keeps_encoding (e : Enc) (hs : List Header) (h : ∀ x ∈ hs, x.1 ≠ geName) :
    scanEncoding e hs = (e, true) := scan_skips_other_fields e hs h

/-- an unrecognised value is an error; the encoding selected by the fields before it stays -/
theorem unrecognised_encoding_is_error (e : Enc) (pre post : List Header) (v : Bytes)
    (hpre : ∀ x ∈ pre, x.1 = geName → (encOfName x.2).isSome = true) (hv : encOfName v = none) :
    scanEncoding e (pre ++ (geName, v) :: post) = ((scanEncoding e pre).1, false) := by
  rw [scanEncoding_append]
  have h1 : (scanEncoding e pre).2 = true := (scan_ok_iff e pre).mpr hpre
  simp [h1, scanEncoding, hv]

/-- The state `adapter.Header` leaves (shared switch, both adapters) and whether it fails depend
only on (a) whether the block contains the announcing field and (b) the `grpc-encoding` fields in
their relative order. Every other reordering of the block — in particular moving `content-type`
before, between or after the `grpc-encoding` fields — is invisible. -/
theorem header_order_independent (s : Stream) (d : Dir) (hs hs' : List Header) (es es' : Bool)
    (hct : isGrpcHeaders hs = isGrpcHeaders hs') (hge : encFields hs = encFields hs') :
    (s.header d hs es).1 = (s.header d hs' es').1
    ∧ ((s.header d hs es).2 = [.error "encoding"] ↔ (s.header d hs' es').2 = [.error "encoding"]) := by
  rw [Stream.header_eq, Stream.header_eq, scan_depends_on_encoding_fields_only _ hs,
    scan_depends_on_encoding_fields_only _ hs', hct, hge]
  split
  · exact ⟨rfl, by split <;> simp⟩
  · exact ⟨rfl, by simp⟩

/-- **Order independence w.r.t. content-type**: the announcing field (`application/grpc`, with or
without subtype / parameter) anywhere in the block acts as if it came first. -/
theorem content_type_position_irrelevant (s : Stream) (d : Dir) (pre post : List Header) (v : Bytes)
    (hv : SpecGrpcContentType v) (es : Bool) :
    (s.header d (pre ++ (ctName, v) :: post) es).1 = (s.header d ((ctName, v) :: (pre ++ post)) es).1 :=
  (header_order_independent s d _ _ es es
    (by rw [grpc_detected_anywhere pre post v hv]; exact (grpc_detected_anywhere [] (pre ++ post) v hv).symm)
    (by simp [encFields, ctName_ne_geName])).1

/-- the shared switch is sticky and is exactly "was gRPC already, or this block announces it" -/
theorem header_enabled (s : Stream) (d : Dir) (hs : List Header) (es : Bool) :
    (s.header d hs es).1.enabled = (s.enabled || isGrpcHeaders hs) := by
  rw [Stream.header_eq]
  cases h : s.enabled || isGrpcHeaders hs with
  | false => simp only [Bool.false_eq_true, if_false]; exact (Bool.or_eq_false_iff.mp h).1
  | true => exact Stream.set_enabled ..

/-- `adapter.Header` on a block that announces gRPC (or on a stream already gRPC), with
well-formed encodings: the stream is gRPC afterwards, the adapter of this direction has the
encoding of the last `grpc-encoding` field, its reassembly state is untouched, the other
direction's adapter is untouched, and the block reaches the processor and then the sink unchanged. -/
theorem header_selects_last_encoding (s : Stream) (d : Dir) (hs pre post : List Header) (v : Bytes) (e' : Enc)
    (es : Bool) (hen : s.enabled = true ∨ ∃ ct, (ctName, ct) ∈ hs ∧ SpecGrpcContentType ct) (hsplit : hs = pre ++ (geName, v) :: post)
    (hpre : ∀ x ∈ pre, x.1 = geName → (encOfName x.2).isSome = true)
    (hpost : ∀ x ∈ post, x.1 ≠ geName) (hv : encOfName v = some e') :
    (s.header d hs es).1.enabled = true
    ∧ (s.header d hs es).1.get d = { s.get d with enc := e' }
    ∧ (∀ d', d' ≠ d → (s.header d hs es).1.get d' = s.get d')
    ∧ (s.header d hs es).2 = [.procHeader hs es, .sinkHeader hs es] := by
  have hen' : (s.enabled || isGrpcHeaders hs) = true := by
    rcases hen with h | h
    · simp [h]
    · simp [(grpc_detected_iff hs).mpr h]
  have hsc : scanEncoding (s.get d).enc hs = (e', true) := by
    rw [hsplit]; exact encoding_is_last_grpc_encoding_field _ e' pre post v hpre hpost hv
  refine ⟨by rw [header_enabled, hen'], by rw [Stream.header_get, if_pos ⟨hen', rfl⟩, hsc],
    fun d' hd => by rw [Stream.header_get, if_neg fun h => hd h.2], ?_⟩
  rw [Stream.header_eq, if_pos hen', hsc]
  rfl

/-- The input class of the seeded defect C11-C as an instance: `grpc-encoding` listed BEFORE the
announcing `content-type` field in the first header block of a new stream is honoured. -/
theorem encoding_before_content_type_honoured (d : Dir) (v ct : Bytes) (e' : Enc) (mid post : List Header)
    (hct : SpecGrpcContentType ct)
    (hmid : ∀ x ∈ mid, x.1 ≠ geName) (hpost : ∀ x ∈ post, x.1 ≠ geName) (hv : encOfName v = some e') (es : Bool) :
    ((({} : Stream).header d ((geName, v) :: (mid ++ (ctName, ct) :: post)) es).1.get d).enc = e' := by
  have hrest : ∀ x ∈ mid ++ (ctName, ct) :: post, x.1 ≠ geName := by
    intro x hx
    rcases List.mem_append.mp hx with hx | hx
    · exact hmid x hx
    · rcases List.mem_cons.mp hx with hx | hx
      · exact hx ▸ ctName_ne_geName
      · exact hpost x hx
  rw [(header_selects_last_encoding {} d ((geName, v) :: (mid ++ (ctName, ct) :: post)) [] (mid ++ (ctName, ct) :: post) v e' es
    (Or.inr ⟨ct, by simp, hct⟩) rfl nofun hrest hv).2.1]

/-- a header block (also trailers, also a Trailers-Only response) never disturbs the reassembly
state of either direction: only `enc` of its own direction can change -/
theorem header_keeps_reassembly_state (s : Stream) (d d' : Dir) (hs : List Header) (es : Bool) :
    ((s.header d hs es).1.get d').buf = (s.get d').buf
    ∧ ((s.header d hs es).1.get d').reading = (s.get d').reading
    ∧ ((s.header d hs es).1.get d').compressed = (s.get d').compressed
    ∧ ((s.header d hs es).1.get d').length = (s.get d').length
    ∧ (d' ≠ d → (s.header d hs es).1.get d' = s.get d') := by
  rw [Stream.header_get]
  split
  · next h => obtain ⟨_, rfl⟩ := h; exact ⟨rfl, rfl, rfl, rfl, fun hd => absurd rfl hd⟩
  · exact ⟨rfl, rfl, rfl, rfl, fun _ => rfl⟩

/-- The input of finding F11d: a block announcing `application/grpc+proto`
switches the stream to gRPC and reaches the processor, then the sink. -/
theorem grpc_subtype_is_processed (d : Dir) (es : Bool) :
    ({} : Stream).header d [(ctName, strBytes "application/grpc+proto")] es
      = ({ enabled := true }, [.procHeader [(ctName, strBytes "application/grpc+proto")] es,
                               .sinkHeader [(ctName, strBytes "application/grpc+proto")] es]) := by
  have hg : isGrpcHeaders [(ctName, strBytes "application/grpc+proto")] = true := by
    repeat rw [strBytes_ofList]
    decide +kernel
  rw [Stream.header_eq, if_pos (by rw [hg]; rfl),
    scan_skips_other_fields _ _ (by simpa using ctName_ne_geName)]
  cases d <;> rfl

/-- `adapter.Header` called for each block of a direction in turn (`es` = the block's END_STREAM) -/
def headerBlocks (s : Stream) (d : Dir) : List (List Header × Bool) → Stream
  | [] => s
  | (hs, es) :: bs => headerBlocks (s.header d hs es).1 d bs

private theorem headerBlocks_append (s : Stream) (d : Dir) (xs ys : List (List Header × Bool)) :
    headerBlocks s d (xs ++ ys) = headerBlocks (headerBlocks s d xs) d ys := by
  induction xs generalizing s with
  | nil => rfl
  | cons x xs ih => obtain ⟨hs, es⟩ := x; simp [headerBlocks, ih]

/-- a block without a `grpc-encoding` field leaves the encoding of its direction as it was —
whether or not the stream is (or becomes) gRPC -/
theorem block_without_encoding_keeps_it (s : Stream) (d : Dir) (hs : List Header) (es : Bool)
    (h : ∀ x ∈ hs, x.1 ≠ geName) : ((s.header d hs es).1.get d).enc = (s.get d).enc := by
  rw [Stream.header_get, scan_skips_other_fields _ hs h]
  split <;> rfl

theorem blocks_without_encoding_keep_it (s : Stream) (d : Dir) (bs : List (List Header × Bool))
    (h : ∀ b ∈ bs, ∀ x ∈ b.1, x.1 ≠ geName) : ((headerBlocks s d bs).get d).enc = (s.get d).enc := by
  induction bs generalizing s with
  | nil => rfl
  | cons b bs ih =>
    obtain ⟨hs, es⟩ := b
    simp only [headerBlocks]
    rw [ih _ (fun b hb => h b (by simp [hb])), block_without_encoding_keeps_it s d hs es (h (hs, es) (by simp))]

/-- **`encoding_is_last_grpc_encoding_field` lifted from fields to blocks**: after any number of
header blocks of a direction, the encoding is the one named by the last `grpc-encoding` field of
the LAST block that names one (provided the stream is gRPC by then: announced before, by the other
direction, or in that very block) — whatever the earlier blocks (1xx interim responses included)
said, and whatever follows without naming one (the final block, trailers). The seeded defect C11-L
scans the first block only. -/
theorem encoding_is_last_block_naming_one (s : Stream) (d : Dir) (pre post : List (List Header × Bool))
    (hs preF postF : List Header) (v : Bytes) (e' : Enc) (es : Bool)
    (hen : (headerBlocks s d pre).enabled = true ∨ ∃ ct, (ctName, ct) ∈ hs ∧ SpecGrpcContentType ct)
    (hsplit : hs = preF ++ (geName, v) :: postF)
    (hpreF : ∀ x ∈ preF, x.1 = geName → (encOfName x.2).isSome = true)
    (hpostF : ∀ x ∈ postF, x.1 ≠ geName) (hv : encOfName v = some e')
    (hpost : ∀ b ∈ post, ∀ x ∈ b.1, x.1 ≠ geName) :
    ((headerBlocks s d (pre ++ (hs, es) :: post)).get d).enc = e' := by
  rw [headerBlocks_append]
  simp only [headerBlocks]
  rw [blocks_without_encoding_keep_it _ d post hpost,
    (header_selects_last_encoding (headerBlocks s d pre) d hs preF postF v e' es hen hsplit hpreF hpostF hv).2.1]

/-- DATA never changes an encoding: the encoding in force for a DATA frame is the one the header
blocks before it left. -/
theorem data_keeps_encodings (cd : Codec) (s s' : Stream) (d d' : Dir) (b : Bytes) (es : Bool) (evs : List Ev)
    (h : Stream.data cd s d b es = (some s', evs)) : (s'.get d').enc = (s.get d').enc := by
  rcases Stream.data_some h with rfl | ⟨a', hn, rfl⟩
  · rfl
  · rw [Stream.get_set]
    split
    · next hd => subst hd; exact (loop_next cd es _ a' hn).enc
    · rfl

/-- test: 103 Early Hints, then 200 with `grpc-encoding: gzip`, on a stream the request announced -/
example : ((headerBlocks { enabled := true } .s2c
    [([(strBytes ":status", strBytes "103")], false),
     ([(strBytes ":status", strBytes "200"), grpcCT, (geName, strBytes "gzip")], false),
     ([(strBytes "grpc-status", strBytes "0")], true)]).get .s2c).enc = .gzip := by
  repeat rw [strBytes_ofList]
  decide +kernel

/-- `grpc-encoding: gzip` first, pseudo-headers and `grpc-accept-encoding` around, content-type last -/
example : ((({} : Stream).header .c2s
    [(geName, strBytes "gzip"), (strBytes ":method", strBytes "POST"),
     (strBytes "grpc-accept-encoding", strBytes "identity,deflate"), grpcCT] false).1.get .c2s).enc = .gzip := by
  repeat rw [strBytes_ofList]
  decide +kernel

/-- duplicated field: the last one wins -/
example : scanEncoding .identity [(geName, strBytes "gzip"), grpcCT, (geName, strBytes "snappy")] = (.snappy, true) := by
  repeat rw [strBytes_ofList]
  decide +kernel

example : SpecGrpcContentType (strBytes "application/grpc;charset=utf-8") :=
  Or.inr ⟨strBytes "charset=utf-8", Or.inr (by
    repeat rw [strBytes_ofList]
    decide +kernel)⟩

/-- `grpc-encoding` before a `+proto` content-type -/
example : ((({} : Stream).header .s2c
    [(geName, strBytes "snappy"), (ctName, strBytes "application/grpc+proto")] true).1.get .s2c).enc = .snappy := by
  repeat rw [strBytes_ofList]
  decide +kernel

end Martian.Props.C11
