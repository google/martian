import Martian.Lemmas.Grpc
import Martian.Lemmas.Strings
/-!
C11 — several HTTP/2 streams through ONE `AsStreamProcessorFactory` value.

`h2.Config` calls the factory once per stream; every call must build its own `enabled` flag, its
own adapters (buffers, parser state, encodings) and emitters. Then what the processors and sinks of
a stream see depends only on the frames of that stream: projecting a run of interleaved frames of
any number of streams onto one stream id gives exactly the single-stream run of that stream's
frames. All theorems of the other files (stated for one stream) therefore hold for every stream of
a connection, whatever the other streams carry — in particular a stream that is not gRPC passes
untouched while, before, after and between gRPC streams (the seeded defect C11-F shares `enabled`
between the streams of a factory and loses that).
-/
namespace Martian.Props.C11
open Martian Martian.Grpc

/-- the frames of stream `sid`, in order -/
def framesOf (sid : Nat) (fs : List (Nat × Frame)) : List Frame := (fs.filter (·.1 = sid)).map (·.2)

/-- the events on stream `sid`, in order -/
def eventsOf (sid : Nat) (evs : List (Nat × Dir × Ev)) : List (Dir × Ev) := (evs.filter (·.1 = sid)).map (·.2)

private theorem eventsOf_append (sid : Nat) (xs ys : List (Nat × Dir × Ev)) :
    eventsOf sid (xs ++ ys) = eventsOf sid xs ++ eventsOf sid ys := by
  simp [eventsOf]

private theorem eventsOf_tagged (sid sid' : Nat) (evs : List (Dir × Ev)) :
    eventsOf sid (evs.map (fun e => (sid', e))) = if sid' = sid then evs else [] := by
  by_cases h : sid' = sid <;> simp [eventsOf, List.filter_map, Function.comp_def, h]

/-- **Streams are independent**: for every table of stream states, every interleaving of frames
of any streams, every stream id — the per-stream projection commutes with the run. -/
theorem streams_are_independent_from (cd : Codec) (m : Multi) (fs : List (Nat × Frame)) (sid : Nat) :
    eventsOf sid (Multi.run cd m fs) = Stream.runO cd (m.get sid) (framesOf sid fs) := by
  fun_induction Multi.run cd m fs with
  | case1 m => cases h : m.get sid <;> rfl
  | case2 m sid' f fs hg ih =>
    rw [ih]
    by_cases h : sid' = sid
    · subst h; simp [framesOf, hg, runO_none]
    · simp [framesOf, h]
  | case3 m sid' f fs s hg ih =>
    rw [eventsOf_append, eventsOf_tagged, ih, multi_get_set]
    by_cases h : sid' = sid
    · subst h; simp [framesOf, hg, Stream.runO]
    · simp [framesOf, h, Ne.symm h]

/-- … from a new connection: the events on stream `sid` are the single-stream run
(`Stream.run`, the subject of all other theorems) of the frames of `sid`. -/
theorem streams_are_independent (cd : Codec) (fs : List (Nat × Frame)) (sid : Nat) :
    eventsOf sid (Multi.run cd [] fs) = Stream.run cd {} (framesOf sid fs) := by
  rw [streams_are_independent_from, run_eq_runO]; rfl

/-- Two interleavings with the same per-stream frame sequences are indistinguishable on every
stream (order permutations across streams, concurrent frames of two streams). -/
theorem interleaving_irrelevant (cd : Codec) (fs gs : List (Nat × Frame)) (sid : Nat)
    (h : framesOf sid fs = framesOf sid gs) :
    eventsOf sid (Multi.run cd [] fs) = eventsOf sid (Multi.run cd [] gs) := by
  rw [streams_are_independent, streams_are_independent, h]

/-- **A stream that is not gRPC passes untouched among gRPC streams**: whatever the other streams
of the connection announce and carry, before, after or in between. -/
theorem non_grpc_stream_untouched_among_others (cd : Codec) (fs : List (Nat × Frame)) (sid : Nat)
    (h : ∀ f ∈ framesOf sid fs, f.announcesGrpc = false) :
    eventsOf sid (Multi.run cd [] fs) = (framesOf sid fs).map Frame.forwarded := by
  rw [streams_are_independent]
  exact run_not_grpc cd {} _ rfl h

/-- nothing appears on a stream that received no frame -/
theorem silent_stream_stays_silent (cd : Codec) (fs : List (Nat × Frame)) (sid : Nat)
    (h : framesOf sid fs = []) : eventsOf sid (Multi.run cd [] fs) = [] := by
  rw [streams_are_independent, h]; rfl

/-- test (the input of seeded C11-F): a gRPC stream 1, then a non-gRPC stream 3 with a body -/
example (cd : Codec) :
    eventsOf 3 (Multi.run cd []
      [(1, .headers .c2s [(ctName, ctGrpc)] false), (1, .data .c2s [0, 0, 0, 0, 0] true),
       (3, .headers .c2s [(ctName, strBytes "text/plain")] false), (3, .data .c2s [0x68, 0x69] true)])
      = [(.c2s, .sinkHeader [(ctName, strBytes "text/plain")] false), (.c2s, .sinkData [0x68, 0x69] true)] := by
  rw [non_grpc_stream_untouched_among_others cd _ 3 (by
    intro f hf
    simp [framesOf] at hf
    rcases hf with h | h <;> subst h
    · rw [Frame.announcesGrpc, strBytes_ofList]; decide +kernel
    · rfl)]
  simp [framesOf, Frame.forwarded]

end Martian.Props.C11
