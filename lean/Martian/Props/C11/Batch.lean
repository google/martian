import Martian.Lemmas.Grpc
/-!
C11 — streaming = batch: what `adapter.Data` does with a DATA frame depends only on the bytes
received so far, not on how earlier frames cut them.
-/
namespace Martian.Props.C11
open Martian Martian.Grpc

/-- One DATA frame `x ++ y` has the same effect (calls, order, end-of-stream flags, final state,
error) as the frame `x` followed by the frame `y` carrying the END_STREAM flag of the whole —
for every adapter state, every codec, every split point. -/
theorem streaming_eq_batch (cd : Codec) (a : Adapter) (x y : Bytes) (es : Bool) (h : y ≠ [] ∨ es = false) :
    data cd a (x ++ y) es = (data cd a x false).andThen (fun a' => data cd a' y es) := by
  unfold data
  rw [← app_app, loop_app cd es (a.app x) y h]

/-- Any DATA frame sequence (any number of frames, empty frames allowed anywhere but at an
END_STREAM) is equivalent to the single frame carrying the concatenation. -/
theorem frames_eq_batch (cd : Codec) (a : Adapter) (fs : List Bytes) (es : Bool) (hne : fs ≠ [])
    (hl : es = false ∨ fs.getLast? ≠ some []) :
    runFrames cd a fs es = data cd a fs.flatten es := by
  fun_induction runFrames cd a fs es with
  | case1 => exact absurd rfl hne
  | case2 a f es => simp
  | case3 a f g fs es ih =>
    have hl' : es = false ∨ (g :: fs).getLast? ≠ some [] := hl.imp_right (by simpa using ·)
    rw [List.flatten_cons,
      streaming_eq_batch cd a f _ es (hl'.symm.imp_left (flatten_ne_nil_of_getLast _ (by simp)))]
    congr 1; funext a'; exact ih a' (by simp) hl'

end Martian.Props.C11
