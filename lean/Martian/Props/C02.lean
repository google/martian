import Martian.Props.C02.Facts
import Martian.Props.C02.SemFacts
import Martian.Props.C02.ErrorValues
import Martian.Props.C02.ContextFlags
import Martian.Lemmas.Proxy
import Martian.Lemmas.ProxyTrace
import Martian.Lemmas.ProxyState
/-!
C02 — Each exchange runs request then response modifiers exactly once with one context.
Theorems about the exchange machine `Martian.Proxy.runConn` (model of `handleLoop`/`handle`/
`handleConnectRequest`), for every connection script: any number of requests, any mix of plain,
blind-CONNECT and MITM requests, any assignment of modifier behaviours and origin outcomes,
shutdown flag on or off. `runConn sd base items` is the whole event trace of one client connection.
-/
namespace Martian.Props.C02
open Martian.Proxy

variable (sd : Bool) (base : Nat) (items : List Item)

/-- Every request the proxy reads gets exactly one request-modifier call (and no request is read twice). -/
theorem reqmod_exactly_once (k : Nat) :
    countP (isReqmod k) (runConn sd base items) = countP (isRead k) (runConn sd base items) ∧
      countP (isRead k) (runConn sd base items) ≤ 1 := by
  unfold runConn
  rw [count_run local_reqmod, count_run local_read]
  cases at? sd base {} 0 items k with
  | none => simp
  | some p => obtain ⟨s', it⟩ := p; simp [own_reqmod, own_read]

/-- The request modifier of an exchange runs before any upstream contact (round trip or dial) of it. -/
theorem reqmod_before_upstream : okUp [] (runConn sd base items) = true :=
  okUp_run sd base {} 0 [] items []

/-- Unless the connection was hijacked during the exchange, the response modifier runs exactly once
and exactly one response is written; it never runs twice. -/
theorem resmod_exactly_once_unless_hijacked (k : Nat)
    (hread : countP (isRead k) (runConn sd base items) = 1) :
    countP (isResmod k) (runConn sd base items) ≤ 1 ∧
    (countP (isHijacked k) (runConn sd base items) = 0 →
      countP (isResmod k) (runConn sd base items) = 1 ∧ countP (isWrite k) (runConn sd base items) = 1) := by
  unfold runConn at *
  rw [count_run local_read] at hread
  rw [count_run local_resmod, count_run local_hijacked, count_run local_write]
  cases h : at? sd base {} 0 items k with
  | none => simp [h] at hread
  | some p =>
    obtain ⟨s', it⟩ := p
    simp only [own_resmod, own_hijacked, own_write]
    by_cases hq : it.rq = .hijack <;> by_cases hs : it.rs = .hijack <;> simp [Item.hij, hq, hs]

/-- A request-side hijack means the response modifier never runs for that exchange. -/
theorem no_resmod_after_request_hijack (k : Nat) (s' : St) (it : Item)
    (h : at? sd base {} 0 items k = some (s', it)) (hq : it.rq = .hijack) :
    countP (isResmod k) (runConn sd base items) = 0 := by
  unfold runConn; rw [count_run local_resmod, h]; simp [own_resmod, hq]

/-- Request and response modifier of one exchange see the same context, and it is the exchange's own
(`base + k`): every `reqmod`/`resmod`/`link` event of exchange `k` carries context id `base + k`. -/
theorem same_context_for_request_and_response :
    ∀ e ∈ runConn sd base items,
      (∀ k c h s t tid, e = .reqmod k c h s t tid → c = base + k) ∧ (∀ k c st, e = .resmod k c st → c = base + k) := by
  refine forall_run _ sd base ?_ (fun c => ⟨nofun, nofun⟩) ⟨nofun, nofun⟩ {} 0 [] items
  intro s i it e he
  have := of_item he
  constructor
  · rintro k c h s t tid rfl; obtain ⟨rfl, rfl, _⟩ := this; rfl
  · rintro k c st rfl; obtain ⟨rfl, rfl⟩ := this; rfl

/-- Context ids are unique per exchange. -/
theorem ctx_ids_pairwise_distinct : (links (runConn sd base items)).Nodup :=
  (links_nodup sd base {} 0 [] items).2

/-- When the connection is over no context remains linked: every link has its unlink. -/
theorem ctx_table_empty_at_quiescence (c : Nat) :
    (unlinks (runConn sd base items)).count c = (links (runConn sd base items)).count c := by
  simpa [runConn] using unlinks_count sd base {} 0 [] items c

/-- A request-modifier error never aborts the exchange, whatever value the error is (`rqErr`
holds of `.err v` and `.errSkip v` for every `v : ErrVal`, the connection-level values `io.EOF`,
`io.ErrClosedPipe` and timeouts included): it is surfaced as a Warning on the request and (unless a
modifier hijacks) the exchange still gets its response-modifier call and its response. -/
theorem request_modifier_error_never_aborts (k : Nat) (s' : St) (it : Item)
    (h : at? sd base {} 0 items k = some (s', it)) (he : rqErr it.rq = true) :
    countP (isWarnReq k) (runConn sd base items) = 1 ∧
      (it.rs ≠ .hijack → countP (isResmod k) (runConn sd base items) = 1 ∧
        countP (isWrite k) (runConn sd base items) = 1) := by
  unfold runConn
  rw [count_run local_warnReq, count_run local_resmod, count_run local_write, h]
  have hq : it.rq ≠ .hijack := fun hq => by rw [hq] at he; cases he
  simp +contextual [own_warnReq, own_resmod, own_write, he, Item.hij, hq]

/-- A response-modifier error never aborts the exchange, whatever value the error is: Warning on the
response, response written. -/
theorem response_modifier_error_never_aborts (k : Nat) (s' : St) (it : Item) (v : ErrVal)
    (h : at? sd base {} 0 items k = some (s', it)) (hq : it.rq ≠ .hijack) (hs : it.rs = .err v) :
    countP (isWarnRes k) (runConn sd base items) = 1 ∧ countP (isWrite k) (runConn sd base items) = 1 := by
  unfold runConn
  rw [count_run local_warnRes, count_run local_write, h]
  simp [own_warnRes, own_write, Item.hij, hq, hs, rsErr]

/-- Skip-round-trip: zero upstream contact, and a 200 that still passes through the response modifier. -/
theorem skip_roundtrip_zero_upstream_and_200_through_resmod (k : Nat) (s' : St)
    (rc : Bool) (rq : ReqB) (rs : ResB) (org : Org)
    (h : at? sd base {} 0 items k = some (s', .x rc rq rs org)) (hskip : rqSkip rq = true) :
    countP (isUpstream k) (runConn sd base items) = 0 ∧
      Ev.resmod k (base + k) 200 ∈ runConn sd base items := by
  have hq : rq ≠ .hijack := by rintro rfl; cases hskip
  constructor
  · unfold runConn; rw [count_run local_upstream, h]
    simp [own_upstream, Item.up, hskip, countP_nil]
  · apply mem_run_of_at? [] h
    rw [handleItem_fst]
    simp [Item.rq, Item.status, post, hskip, hq]

/-- After a modifier hijacks the connection the proxy does nothing more on it: the only events after
`hijacked` are context bookkeeping and closing the connection. -/
theorem hijack_stops_io : quiet (runConn sd base items) = true :=
  quiet_run sd base {} 0 [] items

/-! Non-vacuity: a concrete connection in which the hypotheses above are met. -/
example : at? false 0 {} 0 [.x false .pass .pass (.ok 200 false), .x false (.errSkip .eof) (.err .timeout) (.ok 200 false),
    .x false .hijack .pass .fail] 1 = some ({ stored := 1 }, .x false (.errSkip .eof) (.err .timeout) (.ok 200 false)) := by decide +kernel
example : countP (isRead 2) (runConn false 0 [.x false .pass .pass (.ok 200 false), .x false (.errSkip .eof) (.err .timeout) (.ok 200 false),
    .x false .hijack .pass .fail]) = 1 := by decide +kernel
example : countP (isResmod 2) (runConn false 0 [.x false .pass .pass (.ok 200 false), .x false (.errSkip .eof) (.err .timeout) (.ok 200 false),
    .x false .hijack .pass .fail]) = 0 := by decide +kernel

end Martian.Props.C02
