import Martian.Lemmas.Http1Wire
import Martian.Lemmas.Http1Relay
/-!
C01 at the level of the bytes: the HTTP/1 codec is inside the model (`Model/Http1.lean`: a reader
transcribed from `http.ReadRequest` / `http.ReadResponse` + `io.ReadAll(Body)`, and the relay
functions `relayRequest` / `relayResponse` = what `martian.Proxy.handle` + `Request.write` /
`Response.Write` do to a message; all of them run against the real `net/http` and the real proxy
on every check, ops `h1.*`). The theorems hold for every message satisfying the decidable
predicates `WFReq` / `WFRes`, every body length, every chunking, every number of pipelined messages.
Open finding `c01:head-chunked-stray-crlf`: an answer to HEAD that carries
`Transfer-Encoding: chunked` is relayed as head + CRLF; `head_chunked_relay_leaves_stray_crlf` is the
witness, and the read-back theorem for responses is stated for non-HEAD requests.
-/
namespace Martian.Props.C01
open Martian Martian.Go Martian.MessageView Martian.Http1

/-- A well-formed request on the wire is read back as that request (header list: its end-to-end
fields plus the explicit `Content-Length`), whatever follows. -/
theorem read_wire_request (m : Msg) (h : WFReq m) (rest : Bytes) :
    readRequest (wire m ++ rest) = .complete (reqParsed m) rest := readRequest_wire m h rest

/-- Chunked request body in ANY chunking (`cs` = any list of non-empty chunks with
`cs.flatten = body`), trailers included. -/
theorem read_wire_request_any_chunking (m : Msg) (h : WFReq m) (hch : isChunked m.te = true)
    (cs : List Bytes) (hcs : cs.flatten = m.body.getD []) (hne : ∀ c ∈ cs, c ≠ []) (rest : Bytes) :
    readRequest (wireChunkedAs m cs ++ rest) = .complete (reqParsed m) rest := by
  have := readRequest_wire_framed m h cs hcs hne rest
  rwa [if_pos hch] at this

/-- A response with a body, however the origin framed it: `Content-Length`, chunked in any chunking,
or close-delimited (then it extends to the end of the stream). -/
theorem read_wire_response (meth : Bytes) (m : Msg) (h : WFRes meth m)
    (cs : List Bytes) (hcs : cs.flatten = m.body.getD []) (hne : ∀ c ∈ cs, c ≠ []) (rest : Bytes)
    (hrest : lengthDelimited m = false → rest = []) :
    readResponse meth ((if isChunked m.te then wireChunkedAs m cs else wire m) ++ rest) =
      .complete (resParsed m) rest :=
  readResponse_wire_framed meth m h cs hcs hne rest hrest

/-- The body the reader delivers does not depend on the framing: two responses that differ only in
how the body is framed and chunked deliver the same body bytes. -/
theorem body_is_framing_independent (meth : Bytes) (m m' : Msg) (h : WFRes meth m) (h' : WFRes meth m')
    (hb : m.body = m'.body) (cs cs' : List Bytes)
    (hcs : cs.flatten = m.body.getD []) (hcs' : cs'.flatten = m'.body.getD [])
    (hne : ∀ c ∈ cs, c ≠ []) (hne' : ∀ c ∈ cs', c ≠ []) :
    ∃ p p', readResponse meth (if isChunked m.te then wireChunkedAs m cs else wire m) = .complete p [] ∧
      readResponse meth (if isChunked m'.te then wireChunkedAs m' cs' else wire m') = .complete p' [] ∧
      p.msg.body = p'.msg.body := by
  have := readResponse_wire_framed meth m h cs hcs hne [] (fun _ => rfl)
  have := readResponse_wire_framed meth m' h' cs' hcs' hne' [] (fun _ => rfl)
  simp only [List.append_nil] at *
  exact ⟨_, _, ‹_›, ‹_›, by simp [resParsed, hb]⟩

/-- Any number of pipelined requests are recovered one by one, in order, with nothing left over. -/
theorem pipelined_requests_split_exactly (ms : List Msg) (h : ∀ m ∈ ms, WFReq m) :
    readAllRequests (ms.flatMap wire) = ⟨ms.map reqParsed, none⟩ :=
  readRequests_pipelined ms h _ (by have := flatMap_wire_length ms; omega)

/-- Responses on a kept-alive upstream connection (length-delimited, none announcing close), each
read with its own request's method: recovered one by one, in order, nothing left over. -/
theorem kept_alive_responses_split_exactly (xs : List (Bytes × Msg))
    (h : ∀ x ∈ xs, WFRes x.1 x.2 ∧ lengthDelimited x.2 = true ∧ (resParsed x.2).close = false) :
    readResponses (xs.map (·.1)) (xs.flatMap fun x => wire x.2) = ⟨xs.map fun x => resParsed x.2, none⟩ := by
  induction xs with
  | nil => simp [readResponses]
  | cons x r ih =>
    obtain ⟨hw, hl, hc⟩ := h x (by simp)
    simp only [List.map_cons, List.flatMap_cons]
    unfold readResponses
    rw [readResponse_wire_delimited x.1 x.2 hw hl]
    simp only [hc, Bool.false_eq_true, if_false]
    rw [ih (fun y hy => h y (by simp [hy]))]

/-- The request the origin reads from what the proxy writes is the client's request: same method,
same path and query (the target in origin form), same `Host`, byte-identical body, and for every
end-to-end field name (`Host`, `User-Agent`, framing and hop-by-hop fields excluded) the same
values, with multiplicity and in order — and not one byte more or less is consumed. -/
theorem relayed_request_is_the_request (p : Parsed) (x : Relayed) (hx : relayRequest p = some x)
    (hwf : WFReq x.msg) (rest : Bytes) :
    ∃ q, readRequest (x.wire ++ rest) = .complete q rest ∧
      q.msg.method = p.msg.method ∧ q.msg.url = originForm p.msg.url ∧ q.msg.host = p.msg.host ∧
      q.msg.body = p.msg.body ∧
      ∀ k, reqRewritten.contains k = false → vals q.msg.hdr k = vals p.msg.hdr k := by
  obtain ⟨h1, h2, h3, h4, _, h6⟩ := relayRequest_fields p x hx
  refine ⟨reqParsed x.msg, ?_, by simp [reqParsed, h1], by simp [reqParsed, h2], by simp [reqParsed, h4],
    by simp [reqParsed, h3], ?_⟩
  · simp only [Relayed.wire, h6, Bool.false_eq_true, if_false]
    exact readRequest_wire x.msg hwf rest
  · exact relayRequest_reread_vals p x hx hwf.1

/-- The response the client reads from what the proxy writes (request method other than HEAD) is
the origin's response: same status code, byte-identical body, and for every end-to-end field name
the same values with multiplicity and in order. For an answer to HEAD the statement fails when the
origin sent `Transfer-Encoding: chunked` — see `head_chunked_relay_leaves_stray_crlf`; the HEAD case
without that field is `relayed_head_response_is_the_response_partial`: together the two exclude
exactly the class of the open finding (HEAD ∧ chunked). -/
theorem relayed_response_is_the_response_partial (meth : Bytes) (closing : Bool) (p : Parsed) (x : Relayed)
    (hx : relayResponse meth closing p = some x) (hhead : (meth == headTok) = false)
    (hwf : WFRes meth x.msg) (rest : Bytes) (hrest : lengthDelimited x.msg = false → rest = []) :
    ∃ q, readResponse meth (x.wire ++ rest) = .complete q rest ∧
      q.msg.code = p.msg.code ∧ q.msg.body = p.msg.body ∧
      ∀ k, resRewritten.contains k = false → vals q.msg.hdr k = vals p.msg.hdr k := by
  obtain ⟨h1, _, _, h4, h5, _⟩ := relayResponse_fields meth closing p x hx
  have hnb : x.noBody = false := by rw [← h4]; exact hhead
  refine ⟨resParsed x.msg, ?_, by simp [resParsed, h1], by simp [resParsed, h5 hhead], ?_⟩
  · simp only [Relayed.wire, hnb, Bool.false_eq_true, if_false]
    exact readResponse_wire meth x.msg hwf rest hrest
  · exact relayResponse_reread_vals meth closing p x hx hwf.1

/-- Answer to HEAD, origin did not send `Transfer-Encoding: chunked`: the client reads the head the
proxy writes as a complete bodiless response with the origin's status code and end-to-end field
values, and what follows on the connection (the next response) is left untouched. -/
theorem relayed_head_response_is_the_response_partial (closing : Bool) (p : Parsed) (x : Relayed)
    (hx : relayResponse headTok closing p = some x) (hch : isChunked p.msg.te = false)
    (hwf : WFResHead x.msg) (rest : Bytes) :
    ∃ q, readResponse headTok (x.wire ++ rest) = .complete q rest ∧
      q.msg.code = p.msg.code ∧ q.msg.body = some [] ∧
      ∀ k, resRewritten.contains k = false → vals q.msg.hdr k = vals p.msg.hdr k := by
  obtain ⟨h1, _, _, h4, _, h6⟩ := relayResponse_fields headTok closing p x hx
  have hnb : x.noBody = true := by rw [← h4]; decide
  have hch' : isChunked x.msg.te = false := by rw [h6]; exact hch
  refine ⟨resParsedHead x.msg, ?_, by simp [resParsedHead, h1], by simp [resParsedHead, hwf.body], ?_⟩
  · simp only [Relayed.wire, hnb, if_true, hch', Bool.false_eq_true, if_false, List.append_nil]
    exact readResponse_head x.msg hwf rest
  · exact relayResponse_reread_vals headTok closing p x hx hwf.1

def headChunkedOrigin : Bytes := strBytes "HTTP/1.1 200 OK\r\nTransfer-Encoding: chunked\r\nX-A: 1\r\n\r\n"
def nextOnConnection : Bytes := strBytes "HTTP/1.1 404 Not Found\r\nContent-Length: 0\r\n\r\n"

/-- What the client connection carries after the proxy relayed an origin's answer to HEAD with
`Transfer-Encoding: chunked`: the head, then a stray CRLF, so that the next response on the
connection is preceded by an empty line (which `http.ReadResponse`, for one, rejects). -/
def strayAfterHeadChunked : Bool :=
  match readResponse headTok headChunkedOrigin with
  | .complete p _ =>
    match relayResponse headTok false p with
    | some x =>
      (match readResponse headTok (x.wire ++ nextOnConnection) with
       | .complete _ rest => rest == crlf ++ nextOnConnection
       | _ => false) &&
      !(readResponse (strBytes "GET") (crlf ++ nextOnConnection)).isComplete
    | none => false
  | _ => false

theorem head_chunked_relay_leaves_stray_crlf : strayAfterHeadChunked = true := by decide +kernel

/-! Non-vacuity (tests): a parsed request and its relayed form are well-formed; two pipelined
requests; a relayed chunked response. -/

def exClientReq : Parsed :=
  ⟨{ isReq := true, method := strBytes "POST", url := strBytes "http://h.example/p/./q?x=1&x=2", major := 1, minor := 1,
     code := 0, status := [], host := strBytes "h.example", te := [], cl := 3,
     hdr := [(strBytes "Accept", strBytes "*/*"), (strBytes "Content-Length", strBytes "3"),
             (strBytes "X-Repeat", strBytes "one"), (strBytes "X-Repeat", strBytes "two")],
     body := some (strBytes "abc"), trailer := none }, false, none⟩

example : WFReq exClientReq.msg := by decide +kernel
example : (match relayRequest exClientReq with | some x => decide (WFReq x.msg) && (x.msg.url == strBytes "/p/./q?x=1&x=2") | none => false) = true := by
  decide +kernel

/-- The usual bodiless GET: the proxy forwards it without any framing field. -/
def exClientGet : Parsed :=
  ⟨{ isReq := true, method := strBytes "GET", url := strBytes "http://h.example", major := 1, minor := 0,
     code := 0, status := [], host := strBytes "h.example", te := [], cl := 0,
     hdr := [(strBytes "Accept", strBytes "*/*"), (strBytes "User-Agent", strBytes "curl/8")],
     body := some [], trailer := none }, true, none⟩

example : (match relayRequest exClientGet with
    | some x => decide (WFReq x.msg) && (x.msg.url == strBytes "/") && (x.msg.cl == -1) &&
        (vals x.msg.hdr connKey == [closeTok]) && (x.msg.minor == 1)
    | none => false) = true := by decide +kernel

def exOriginRes : Parsed :=
  ⟨{ isReq := false, method := [], url := [], major := 1, minor := 1, code := 200, status := strBytes "200 OK",
     host := [], te := [chunkedTok], cl := -1,
     hdr := [(strBytes "Set-Cookie", strBytes "a=1"), (strBytes "Set-Cookie", strBytes "b=2")],
     body := some (strBytes "hello"), trailer := none }, false, none⟩

example : (match relayResponse (strBytes "GET") false exOriginRes with
    | some x => decide (WFRes (strBytes "GET") x.msg) && lengthDelimited x.msg | none => false) = true := by decide +kernel

example : ∀ m ∈ [exClientReq.msg, exClientReq.msg], WFReq m := by decide +kernel

def exHeadRes : Parsed :=
  ⟨{ isReq := false, method := [], url := [], major := 1, minor := 1, code := 200, status := strBytes "200 OK",
     host := [], te := [], cl := 1234, hdr := [(strBytes "Content-Length", strBytes "1234"), (strBytes "Etag", strBytes "x")],
     body := some [], trailer := none }, false, none⟩

example : (match relayResponse headTok false exHeadRes with
    | some x => decide (WFResHead x.msg) | none => false) = true := by decide +kernel

end Martian.Props.C01
