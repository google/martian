import Martian.Generated.ProxySem
/-!
C01 — semantic facts of `proxy.go` (regenerated from the source on every check by
`go/cmd/vextract/facts_proxy_sem.go`), independent of statement order and of the names of
temporaries: where values come from, which fields are written, whether a branch can be left.
-/
namespace Martian.Props.C01

/-- The response `handle` relays is the origin's own: the only fields it overwrites before writing
are `Request` (the proxy's request) and `Close` (the close decision) - in particular not the
protocol version, the framing fields or the header. `Wire.written` transcribes `Response.Write`
on exactly that basis (status line with the origin's version). -/
theorem facts_relayed_response_is_the_origins_own :
    Martian.Generated.ProxySem.responseFieldsSet.all (fun f => f == "Close" || f == "Request") = true := by
  decide +kernel

/-- The close decision has exactly the three inputs of the model: `req.Close` (`Wire.reqClose`),
`res.Close` (`Wire.resClose`), `p.Closing()` (the shutdown flag). -/
theorem facts_close_decision_inputs :
    Martian.Generated.ProxySem.closeDecisionInputs.length = 3 ∧
    (["req.Close", "res.Close", "p.Closing()"].all fun i => Martian.Generated.ProxySem.closeDecisionInputs.contains i) = true := by
  decide +kernel

/-- `handleLoop` sets the connection deadline on every iteration, unconditionally, before it calls
`handle` - the discipline `Wire.serveTimed` transcribes (`deadline_is_per_request`). -/
theorem facts_deadline_rearmed_before_every_handle :
    Martian.Generated.ProxySem.deadlineRearmedBeforeEveryHandle = true := by decide +kernel

/-- The default `http.Transport` of `NewProxy` - the transport every relayed exchange runs on when
the embedder installs none - is configured with exactly these fields: no HTTP/2 upgrade, the
environment's proxy, two timeouts that do not touch a healthy exchange, content codings relayed
untouched. In particular NO size limit of its own (`MaxResponseHeaderBytes`, `ReadBufferSize`, …), no
connection cap and keep-alives on: C01 quantifies over header sets and message sizes without bound,
and the model relays every complete origin response. A new field is a new decision about C01/C03 and
must be looked at. -/
theorem facts_default_transport_fields :
    Martian.Generated.ProxySem.defaultTransportFields =
      ["DisableCompression = true", "ExpectContinueTimeout = time.Second", "Proxy = http.ProxyFromEnvironment",
       "TLSHandshakeTimeout = 10 * time.Second",
       "TLSNextProto = make(map[string]func(string, *tls.Conn) http.RoundTripper)"] := rfl

end Martian.Props.C01
