import Martian.Skel
import Martian.Generated.Proxy
import Martian.Model.Proxy
/-!
C01 — structural facts of `proxy.go` (regenerated from the source on every check) behind the
relay theorems: one read, one round trip and one write per pass through `handle`; the request body
is closed (drained) only when `handle` returns, i.e. after the response was written; the close
decision is exactly "request asked ∨ response asked ∨ proxy closing", it marks the response, and
it is taken before the write; `handle` returns the decision, and the serving loop ends on it.
-/
namespace Martian.Props.C01
open Martian Skel Proxy
open Martian.Generated.Proxy (handle handleLoopServing closeable)

theorem facts_one_read_one_roundtrip_one_write :
    count "call p.readRequest" handle = 1 ∧ count "call p.roundTrip" handle = 1 ∧
    count "call res.Write" handle = 1 ∧ count "call brw.Flush" handle = 1 ∧
    hasSeq ["call p.readRequest", "call p.roundTrip", "call res.Write", "call brw.Flush", "return closing"] handle = true := by
  decide +kernel

/-- `defer req.Body.Close()` directly after the read: the unread rest of a request body is consumed
when `handle` returns (after the write), which keeps the client connection framed for the next
request; there is no earlier call that closes it. -/
theorem facts_request_body_drained_at_return :
    hasBlock ["call p.readRequest", "if err != nil {", "return err", "}", "defer req.Body.Close"] handle = true ∧
    count "call req.Body.Close" handle = 0 ∧ count "defer req.Body.Close" handle = 1 := by
  decide +kernel

/-- The close decision of the model (`reqClose || resClose || shutdown`, marks the response, makes
`handle` return `errClose`) is the source's, and it is taken after the response modifier and
before the write. -/
theorem facts_close_decision :
    hasBlock ["if req.Close || res.Close || p.Closing() {", "set res.Close = true", "set closing = errClose", "}"] handle = true ∧
    hasSeq ["call p.resmod.ModifyResponse", "if req.Close || res.Close || p.Closing() {", "call res.Write"] handle = true ∧
    count "set res.Close = true" handle = 1 := by
  decide +kernel

/-- The serving loop: one `handle` per iteration; it ends exactly on a closeable error (EOF, closed
pipe, `errClose`, timeout) or a hijack. -/
theorem facts_serving_loop :
    handleLoopServing = ["for {", "call conn.SetDeadline", "call p.handle",
      "if err := p.handle(ctx, conn, brw); isCloseable(err) {", "return", "}", "if s.Hijacked() {", "return", "}", "}"] ∧
    closeable = ["neterr.Timeout", "io.EOF", "io.ErrClosedPipe", "errClose"] :=
  ⟨rfl, rfl⟩

end Martian.Props.C01
