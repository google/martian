import Martian.Model.ProxyWire
import Martian.Lemmas.Proxy
import Martian.Lemmas.ProxyState
/-!
C01, last clause — "the connection stays usable for the next request unless either side asked to
close, in which case the proxy closes it after that response" — over protocol versions.
What "asked to close" means depends on the version each side speaks: HTTP/1.1 is persistent unless
the Connection header lists `close`; HTTP/1.0 is not persistent unless it lists `keep-alive`; an
origin also asks by sending a body that only the end of the connection delimits.
`Wire.reqClose` / `Wire.resClose` transcribe net/http's `shouldClose` and `readTransfer`,
`Wire.written` transcribes `Response.Write`; `Wire.toItem` hands the two flags to the exchange
machine.
-/
namespace Martian.Props.C01
open Martian Martian.Proxy Martian.Proxy.Wire

/-- Does a message of HTTP/1.`minor` with these Connection lines ask to close the connection? -/
def asks (minor : Nat) (conn : List Bytes) : Bool :=
  containsToken conn tokClose || (minor == 0 && !containsToken conn tokKeepAlive)

theorem shouldClose_eq_asks (minor : Nat) (conn : List Bytes) : shouldClose 1 minor conn = asks minor conn := by
  unfold shouldClose asks
  by_cases h : minor = 0
  · subst h; simp
  · have : (minor == 0) = false := by simpa using h
    simp [this]

/-- The client asked: by version and Connection tokens. -/
def clientAsked (x : XW) : Bool := asks x.reqMinor x.reqConn
/-- The origin asked: by version and Connection tokens, or by a body that runs to the end of the
connection (no Content-Length, no chunked coding - below HTTP/1.1 chunked does not count). -/
def originAsked (x : XW) : Bool :=
  asks x.resMinor x.resConn || (decide (effFraming x = .eof) && bodyAllowed x)

/-- Closed exactly when a side asked to close, over versions: with no-op modifiers and a complete
origin response the exchange ends the connection iff the client asked, the origin asked, or the
proxy is shutting down. -/
theorem closes_iff_asked_over_versions (sd : Bool) (x : XW) (st : Nat) (cl : Bool) :
    endsConn sd (toItem x .pass .pass (.ok st cl)) = (clientAsked x || originAsked x || sd) := by
  simp only [toItem, endsConn, rqSkip, reqClose, resClose, shouldClose_eq_asks, clientAsked, originAsked]
  cases asks x.reqMinor x.reqConn <;> cases asks x.resMinor x.resConn <;> cases sd <;> simp

/-- An HTTP/1.0 client that does not ask for keep-alive is never served a second request on the
connection, whatever the modifiers and the origin do. -/
theorem http10_without_keepalive_ends_the_connection (sd : Bool) (x : XW) (rq : ReqB) (rs : ResB) (org : Org)
    (hv : x.reqMinor = 0) (hk : containsToken x.reqConn tokKeepAlive = false) :
    endsConn sd (toItem x rq rs org) = true := by
  have : reqClose x = true := by simp [reqClose, shouldClose_eq_asks, asks, hv, hk]
  simp [toItem, endsConn, this]

/-- An HTTP/1.0 client that asks for keep-alive (and an origin that does not ask to close) keeps
the connection: the next request is served. -/
theorem http10_keepalive_keeps_the_connection (x : XW) (st : Nat) (cl : Bool)
    (hk : containsToken x.reqConn tokKeepAlive = true) (hc : containsToken x.reqConn tokClose = false)
    (ho : originAsked x = false) :
    endsConn false (toItem x .pass .pass (.ok st cl)) = false := by
  rw [closes_iff_asked_over_versions, ho]
  simp [clientAsked, asks, hk, hc]

/-- An HTTP/1.1 client keeps the connection unless it lists `close`. -/
theorem http11_keeps_the_connection_by_default (x : XW) (st : Nat) (cl : Bool)
    (hv : 1 ≤ x.reqMinor) (hc : containsToken x.reqConn tokClose = false) (ho : originAsked x = false) :
    endsConn false (toItem x .pass .pass (.ok st cl)) = false := by
  rw [closes_iff_asked_over_versions, ho]
  have : (x.reqMinor == 0) = false := by simp; omega
  simp [clientAsked, asks, hc, this]

theorem takeThrough_map_length {α β : Type} (f : α → β) (p : β → Bool) (l : List α) :
    (takeThrough p (l.map f)).length = (takeThrough (fun a => p (f a)) l).length := by
  induction l with
  | nil => rfl
  | cons a r ih => simp only [List.map_cons, takeThrough]; split <;> simp [ih]

/-- The connection is served exactly until the first exchange in which a side asks to close: for
any sequence of exchanges (each with its own versions, Connection headers, framing and status;
no-op modifiers, complete origin responses) the number of requests the proxy reads is the length of
the prefix up to and including the first exchange whose client or origin asked (or all of them). -/
theorem served_until_a_side_asks (sd : Bool) (base : Nat) (ws : List (XW × Nat)) :
    numReads (runConn sd base (ws.map fun w => toItem w.1 .pass .pass (.ok w.2 false))) =
      (takeThrough (fun w => clientAsked w.1 || originAsked w.1 || sd) ws).length := by
  have h := numReads_run sd base {} 0 [] (ws.map fun w => toItem w.1 .pass .pass (.ok w.2 false))
  rw [takeThrough_map_length] at h
  simpa [runConn, closes_iff_asked_over_versions] using h

/-! ### The close decision has no memory -/

/-- The close decision depends on the exchange only: whether the connection goes on after an
exchange is the same whatever its position on the connection (`i`), its context id (`c`) and the
session state (`s`) - `handle` has no counter and no budget. -/
theorem close_decision_ignores_history (sd : Bool) (s s' : St) (i i' c c' : Nat) (it : Item) :
    (handleItem sd s i c it).2.isAgain = (handleItem sd s' i' c' it).2.isAgain := by
  rw [again_iff_not_ends, again_iff_not_ends]

theorem takeThrough_none {α : Type} (p : α → Bool) (l : List α) (h : ∀ a ∈ l, p a = false) : takeThrough p l = l := by
  induction l with
  | nil => rfl
  | cons a r ih =>
    simp only [takeThrough, h a (by simp)]
    simp [ih (fun b hb => h b (by simp [hb]))]

/-- Keep-alive has no request budget: if no exchange of a connection asks to close (or hijacks),
every one of them is served; the number of requests read is the length of the script. -/
theorem keepalive_has_no_request_budget (sd : Bool) (base : Nat) (items : List Item)
    (h : ∀ it ∈ items, endsConn sd it = false) :
    numReads (runConn sd base items) = items.length := by
  have := numReads_run sd base {} 0 [] items
  rw [takeThrough_none _ _ h] at this
  simpa [runConn] using this

/-- Any number of exchanges in which neither side asks (any versions, Connection lines and framings
that do not ask) are all answered, one response each. -/
theorem long_history_of_non_asking_exchanges_is_served (base : Nat) (ws : List (XW × Nat))
    (h : ∀ w ∈ ws, clientAsked w.1 = false ∧ originAsked w.1 = false) :
    numReads (runConn false base (ws.map fun w => toItem w.1 .pass .pass (.ok w.2 false))) = ws.length := by
  rw [served_until_a_side_asks, takeThrough_none]
  intro w hw
  simp [(h w hw).1, (h w hw).2]

/-! ### The idle deadline is per request -/

/-- The idle timeout bounds each exchange, not the batch: with the deadline re-armed before every
`handle`, a batch of exchanges each of which takes no longer than the timeout is served completely,
however long the batch takes as a whole and whether or not its requests were already buffered. -/
theorem deadline_is_per_request (timeout now : Nat) (lats : List Nat) (h : ∀ l ∈ lats, l ≤ timeout) :
    serveTimed timeout now lats = lats.length := by
  induction lats generalizing now with
  | nil => rfl
  | cons l r ih =>
    have hl : l ≤ timeout := h l (by simp)
    have : now + l ≤ now + timeout := by omega
    simp only [serveTimed, this, if_true, List.length_cons]
    rw [ih _ (fun x hx => h x (by simp [hx]))]; omega

/-- What the property excludes (test): with the deadline armed once for the batch, five exchanges
of 550 ms under a 2 s timeout lose their tail although each one is far below the timeout. -/
theorem deadline_armed_once_loses_the_tail_counterexample :
    serveTimedOnce 2000 0 [550, 550, 550, 550, 550] = 3 ∧ serveTimed 2000 0 [550, 550, 550, 550, 550] = 5 := by
  decide +kernel

/-- A connection that never idles longer than the timeout is never cut, however old it is: with
both deadlines re-armed before every `handle`, if every gap + service time stays within the timeout
all exchanges are served - the deadline in force when a response is written was set after the
previous exchange ended, never at accept time. -/
theorem busy_connection_is_never_cut (timeout now : Nat) (xs : List (Nat × Nat))
    (h : ∀ x ∈ xs, x.1 + x.2 ≤ timeout) : serveBusy timeout now xs = xs.length := by
  induction xs generalizing now with
  | nil => rfl
  | cons x r ih =>
    obtain ⟨g, l⟩ := x
    have hx : g + l ≤ timeout := h (g, l) (by simp)
    have : now + g + l ≤ now + timeout := by omega
    simp only [serveBusy, this, if_true, List.length_cons]
    rw [ih _ (fun y hy => h y (by simp [hy]))]; omega

/-- The deadline under which exchange `k` is written was set when exchange `k` began to be waited
for: `serveBusy` re-arms from `now`, which only moves forward. -/
theorem write_deadline_is_set_after_the_previous_exchange (timeout now g l : Nat) (rest : List (Nat × Nat))
    (h : g + l ≤ timeout) :
    serveBusy timeout now ((g, l) :: rest) = 1 + serveBusy timeout (now + g + l) rest := by
  have : now + g + l ≤ now + timeout := by omega
  simp [serveBusy, this]

/-- What the property excludes (test): a write deadline left at accept time + timeout cuts a busy
tunnel once it is older than the timeout (0.8 s timeout, a request every 0.3 s). -/
theorem stale_write_deadline_cuts_a_busy_connection_counterexample :
    serveBusyReadOnly 800 800 0 [(300, 10), (300, 10), (300, 10), (300, 10), (300, 10)] = 2 ∧
    serveBusy 800 0 [(300, 10), (300, 10), (300, 10), (300, 10), (300, 10)] = 5 := by decide +kernel

/-! ### What is written -/

/-- A response on a connection that stays open is self-delimiting. `closing` is `handle`'s close
decision `req.Close || res.Close || p.Closing()` (for a synthetic response `res.Close = req.Close`).
If it is false the written response carries a Content-Length, is chunked, or has no body: the
client can always find its end. (`untilClose` framing only ever goes out on a connection that is
then closed.) -/
theorem kept_alive_response_is_self_delimiting (x : XW) (synth sd : Bool)
    (hkeep : (reqClose x || (!synth && resClose x) || sd) = false) :
    (written x synth false).framing ≠ .untilClose := by
  simp only [Bool.or_eq_false_iff] at hkeep
  obtain ⟨⟨_, hres⟩, _⟩ := hkeep
  show writtenFraming x synth ≠ .untilClose
  cases synth with
  | true => simp only [writtenFraming, if_true]; split <;> simp
  | false =>
    simp only [Bool.not_false, Bool.true_and] at hres
    simp only [resClose, Bool.or_eq_false_iff] at hres
    obtain ⟨_, hunb⟩ := hres
    simp only [writtenFraming, Bool.false_eq_true, if_false]
    cases hb : bodyAllowed x with
    | false => simp
    | true =>
      simp only [Bool.not_true, Bool.false_eq_true, if_false]
      cases hf : effFraming x with
      | cl => simp
      | eof => simp [hf, hb] at hunb
      | chunked =>
        have hm : x.resMinor ≥ 1 := by
          unfold effFraming at hf
          split at hf
          · cases hf
          · rename_i hne
            have : x.framing = .chunked := hf
            simp [this] at hne; omega
        simp [hm]

/-- The client is told whenever the proxy is going to close: if `handle` decided to close, the
written response reads as closing (`Connection: close` is on it). -/
theorem client_is_told_when_the_proxy_closes (x : XW) (synth : Bool) :
    (written x synth true).saysClose = true := by
  simp only [written, Bool.true_or, writtenConn, if_true]
  have h : valueContainsToken tokClose tokClose = true := by decide +kernel
  simp [shouldClose_eq_asks, asks, containsToken, h]

/-- A relayed origin response never says `close` when the proxy keeps the connection open (the
client is not made to give up a connection the proxy will go on serving). -/
theorem relayed_response_says_close_only_when_closing (x : XW) (sd : Bool)
    (hkeep : (reqClose x || resClose x || sd) = false) :
    (written x false false).saysClose = false := by
  have hfr : writtenFraming x false ≠ .untilClose :=
    kept_alive_response_is_self_delimiting x false sd (by simpa using hkeep)
  simp only [Bool.or_eq_false_iff] at hkeep
  obtain ⟨⟨_, hres⟩, _⟩ := hkeep
  simp only [resClose, Bool.or_eq_false_iff, shouldClose_eq_asks] at hres
  obtain ⟨hask, _⟩ := hres
  have hcl : containsToken x.resConn tokClose = false := by
    simp only [asks, Bool.or_eq_false_iff] at hask; exact hask.1
  have hd : decide (writtenFraming x false = .untilClose) = false := by simpa using hfr
  simp only [written, hd, Bool.false_and, Bool.or_false, writtenConn, Bool.false_eq_true, if_false, hcl,
    shouldClose_eq_asks, writtenMinor, hask]

/-- One of the proxy's own responses (skip round trip, 502) to an HTTP/1.1 client never says `close`
when the proxy keeps the connection open. -/
theorem synthetic_response_says_close_only_when_closing_partial (x : XW) (hv : 1 ≤ x.reqMinor) :
    (written x true false).saysClose = false := by
  have hm : (x.reqMinor == 0) = false := by simp; omega
  have hd : decide (writtenFraming x true = .untilClose) = false := by
    simp only [writtenFraming, if_true]; split <;> simp
  simp only [written, hd, Bool.false_and, Bool.or_false, writtenConn, Bool.false_eq_true, if_false, if_true,
    shouldClose_eq_asks, writtenMinor, asks, hm, containsToken, List.any_nil, Bool.false_and]

/-- One of the proxy's own responses to an HTTP/1.0 client that asked for keep-alive does say `close`:
`proxyutil.NewResponse` answers in the client's version and nothing adds `Connection: keep-alive`,
so the 502 / synthetic 200 reads as "will be closed" although the proxy keeps the connection open and
serves the next request. The connection *is* usable (C01's clause holds); a strict HTTP/1.0 client
just does not use it. -/
theorem synthetic_response_to_http10_keepalive_counterexample :
    let x : XW := { reqMinor := 0, reqConn := [tokKeepAlive] }
    reqClose x = false ∧ (written x true false).saysClose = true := by decide +kernel

/-! Tests of the token reader on concrete header lines (the same lines are in the generator). -/
example : containsToken [strBytes "Keep-Alive"] tokKeepAlive = true := by decide +kernel
example : containsToken [strBytes " close "] tokClose = true := by decide +kernel
example : containsToken [strBytes "x-verif-hop", strBytes "keep-alive"] tokKeepAlive = true := by decide +kernel
example : containsToken [strBytes "x-verif-hop,close"] tokClose = true := by decide +kernel
example : containsToken [strBytes "closed"] tokClose = false := by decide +kernel
example : containsToken [strBytes "close;q=1"] tokClose = false := by decide +kernel
example : containsToken [strBytes "keep-alivee"] tokKeepAlive = false := by decide +kernel
/-- Non-vacuity: an HTTP/1.0 keep-alive client and a chunked HTTP/1.1 origin - the connection is kept
and the response goes out chunked under the origin's version. -/
example : let x : XW := { reqMinor := 0, reqConn := [strBytes "Keep-Alive"], framing := .chunked }
    (reqClose x || resClose x) = false ∧ written x false false = { minor := 1, framing := .chunked, saysClose := false } := by
  decide +kernel

end Martian.Props.C01
