import Martian.Skel
import Martian.Generated.Proxy
import Martian.Model.Proxy
/-!
C02 — structural facts of `proxy.go` (regenerated from the source on every check) that the
exchange-machine model transcribes: the order of the modelled actions in `handle`, the hijack
guard after each modifier call, "a modifier error only adds a Warning" (no return in that branch),
and the same shape on both CONNECT paths.
-/
namespace Martian.Props.C02
open Martian Skel Proxy
open Martian.Generated.Proxy (handle connectHead connectMitm connectBlind roundTrip handleLoopServing)

/-- The modelled actions of `handle`, and the event each one is in the model. -/
def actionTable : List (String × String) :=
  [("call p.readRequest", "read"), ("call link", "link"), ("defer unlink", "unlink"),
   ("call p.reqmod.ModifyRequest", "reqmod"), ("call p.roundTrip", "upstream"),
   ("call p.resmod.ModifyResponse", "resmod"), ("call res.Write", "write")]

def kind : Ev → String
  | .read _ => "read" | .link _ => "link" | .unlink _ => "unlink" | .reqmod .. => "reqmod"
  | .warnReq _ => "warnReq" | .dial .. => "dial" | .upstream .. => "upstream" | .warnRt _ => "warnRt"
  | .resmod .. => "resmod" | .warnRes _ => "warnRes" | .write .. => "write" | .tunnel _ => "tunnel"
  | .hijacked .. => "hijacked" | .closeConn => "closeConn"

/-- The source order of the modelled actions of `handle` (deferred `unlink` runs at return) is the
model's event order on the plain path: read, link, request modifier, round trip, response
modifier, write, unlink — for every state, index, close flag and origin status. -/
theorem facts_handle_action_order_is_the_models (sd : Bool) (s : St) (i c : Nat) (rc : Bool) (st : Nat) (cl : Bool) :
    (handleX sd s i c rc .pass .pass (.ok st cl)).1.map kind = linearise ["unlink"] (project actionTable handle) := by
  have h : linearise ["unlink"] (project actionTable handle) = ["read", "link", "reqmod", "upstream", "resmod", "write", "unlink"] := by decide +kernel
  rw [h]; simp [handleX, pre, rqErr, rqSkip, rsErr, kind]

/-- After the request modifier: an error only adds a Warning (no return in that branch), then the
hijack check returns without touching the connection, and only then the round trip starts. The
same after the response modifier, before the close decision. -/
theorem facts_handle_modifier_error_warns_then_hijack_check :
    hasBlock ["call p.reqmod.ModifyRequest", "if err := p.reqmod.ModifyRequest(req); err != nil {", "call proxyutil.Warning", "}",
              "if session.Hijacked() {", "return nil", "}", "call p.roundTrip"] handle = true ∧
    hasBlock ["call p.resmod.ModifyResponse", "if err := p.resmod.ModifyResponse(res); err != nil {", "call proxyutil.Warning", "}",
              "if session.Hijacked() {", "return nil", "}", "if req.Close || res.Close || p.Closing() {"] handle = true ∧
    count "call p.reqmod.ModifyRequest" handle = 1 ∧ count "call p.resmod.ModifyResponse" handle = 1 ∧
    count "call link" handle = 1 ∧ count "defer unlink" handle = 1 ∧
    hasSeq ["call link", "defer unlink", "call p.handleConnectRequest", "call p.reqmod.ModifyRequest"] handle = true := by
  decide +kernel

/-- The response modifier is handed the proxy's own request (`res.Request = req` precedes it). -/
theorem facts_resmod_sees_own_request :
    hasSeq ["call p.roundTrip", "set res.Request = req", "call p.resmod.ModifyResponse"] handle = true := by decide +kernel

/-- Skipping the round trip synthesises a 200 without calling the round tripper. -/
theorem facts_skip_roundtrip_is_synthetic_200 :
    roundTrip = ["if ctx.SkippingRoundTrip() {", "call proxyutil.NewResponse(200)", "return proxyutil.NewResponse(200, nil, req), nil", "}",
                 "call p.roundTripper.RoundTrip", "return p.roundTripper.RoundTrip(req)"] := rfl

/-- CONNECT: one request-modifier call with the same Warning/hijack shape; on every path (MITM,
failed dial, established tunnel) exactly one response-modifier call followed by the hijack check
and only then the write. -/
theorem facts_connect_paths_same_shape :
    connectHead = ["call p.reqmod.ModifyRequest", "if err := p.reqmod.ModifyRequest(req); err != nil {", "call proxyutil.Warning", "}",
                   "if session.Hijacked() {", "return nil", "}"] ∧
    hasBlock ["call proxyutil.NewResponse(200)", "call p.resmod.ModifyResponse", "if err := p.resmod.ModifyResponse(res); err != nil {",
              "call proxyutil.Warning", "}", "if session.Hijacked() {", "return nil", "}", "call res.Write", "call brw.Flush"] connectMitm = true ∧
    count "call p.resmod.ModifyResponse" connectMitm = 1 ∧
    hasBlock ["if cerr != nil {", "call proxyutil.NewResponse(502)", "call proxyutil.Warning", "call p.resmod.ModifyResponse",
              "if err := p.resmod.ModifyResponse(res); err != nil {", "call proxyutil.Warning", "}", "if session.Hijacked() {", "return nil", "}",
              "call res.Write", "call brw.Flush", "return err", "}"] connectBlind = true ∧
    hasBlock ["defer cconn.Close", "call p.resmod.ModifyResponse", "if err := p.resmod.ModifyResponse(res); err != nil {",
              "call proxyutil.Warning", "}", "if session.Hijacked() {", "return nil", "}", "set res.ContentLength = -1", "call res.Write"] connectBlind = true ∧
    count "call p.resmod.ModifyResponse" connectBlind = 2 :=
  ⟨rfl, by decide +kernel⟩

/-- The serving loop stops iterating as soon as the session is hijacked (F02 repair), on the
listener connection and inside a decrypted tunnel alike. -/
theorem facts_loops_stop_on_hijack :
    hasBlock ["call p.handle", "if err := p.handle(ctx, conn, brw); isCloseable(err) {", "return", "}", "if s.Hijacked() {", "return", "}"]
      handleLoopServing = true ∧
    hasBlock ["for {", "call nconn.SetDeadline", "call p.handle", "if isCloseable(err) {", "return err", "}",
              "if session.Hijacked() {", "return nil", "}", "}"] connectMitm = true := by
  decide +kernel

end Martian.Props.C02
