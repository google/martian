import Martian.Generated.ProxySem
/-!
C02 — semantic facts of `proxy.go` (regenerated from the source on every check by
`go/cmd/vextract/facts_proxy_sem.go`), independent of statement order and of the names of
temporaries: where values come from, which fields are written, whether a branch can be left.
-/
namespace Martian.Props.C02

/-- "Warning + continue", semantically: no branch that handles a modifier's error - in `handle` and on
every CONNECT path - contains a statement that leaves it (return, break, continue, goto, panic),
whatever else it does; so no error value of a modifier can reach `handle`'s return value and with
it `isCloseable`. Both modifier calls of `handle` and of `handleConnectRequest` are covered. -/
theorem facts_modifier_error_never_leaves_its_branch :
    Martian.Generated.ProxySem.modifierErrorExits.all (fun p => p.2 == 0) = true ∧
    (["handle:ModifyRequest", "handle:ModifyResponse", "handleConnectRequest:ModifyRequest",
      "handleConnectRequest:ModifyResponse"].all fun n =>
        (Martian.Generated.ProxySem.modifierErrorExits.map (·.1)).contains n) = true := by
  decide +kernel

/-- The response modifier is handed the proxy's own request: `Request` is among the response fields
`handle` sets (order with respect to the modifier call: `facts_resmod_sees_own_request`). -/
theorem facts_handle_sets_response_request :
    Martian.Generated.ProxySem.responseFieldsSet.contains "Request" = true := by decide +kernel

end Martian.Props.C02
