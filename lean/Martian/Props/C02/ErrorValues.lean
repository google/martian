import Martian.Lemmas.Proxy
import Martian.Lemmas.ProxyTrace
import Martian.Lemmas.ProxyState
import Martian.Model.ProxyWire
import Martian.Lemmas.HttpSpec
/-!
C02 — "a modifier error never aborts the exchange - it is surfaced as a Warning header on the
message and processing continues": for every error value. `ErrVal` lists the kinds of values a
modifier can return, among them the ones `isCloseable` accepts when they come from the connection
(`io.EOF`, `io.ErrClosedPipe`, timeouts). Proved for every connection script: which value a
modifier returns makes no difference at all to the trace, and an erroring modifier changes the
trace of the connection by exactly the Warning events - everything else (round trips, response
modifier calls, writes, close decisions, which later requests are served) is what it would have
been had the modifier returned nil.
-/
namespace Martian.Props.C02
open Martian.Proxy

/-- Replace every modifier error value of an item by `v`. -/
def setErr (v : ErrVal) : Item → Item
  | .x rc rq rs org => .x rc (match rq with | .err _ => .err v | .errSkip _ => .errSkip v | q => q)
      (match rs with | .err _ => .err v | r => r) org
  | .connectMitm t rq rs => .connectMitm t (match rq with | .err _ => .err v | .errSkip _ => .errSkip v | q => q)
      (match rs with | .err _ => .err v | r => r)
  | .connectBlind d rq rs => .connectBlind d (match rq with | .err _ => .err v | .errSkip _ => .errSkip v | q => q)
      (match rs with | .err _ => .err v | r => r)
  | .connectMitmFail rq rs => .connectMitmFail (match rq with | .err _ => .err v | .errSkip _ => .errSkip v | q => q)
      (match rs with | .err _ => .err v | r => r)

/-- The same item with modifiers that return nil instead of an error. -/
def noErr : Item → Item
  | .x rc rq rs org => .x rc (match rq with | .err _ => .pass | .errSkip _ => .skip | q => q)
      (match rs with | .err _ => .pass | r => r) org
  | .connectMitm t rq rs => .connectMitm t (match rq with | .err _ => .pass | .errSkip _ => .skip | q => q)
      (match rs with | .err _ => .pass | r => r)
  | .connectBlind d rq rs => .connectBlind d (match rq with | .err _ => .pass | .errSkip _ => .skip | q => q)
      (match rs with | .err _ => .pass | r => r)
  | .connectMitmFail rq rs => .connectMitmFail (match rq with | .err _ => .pass | .errSkip _ => .skip | q => q)
      (match rs with | .err _ => .pass | r => r)

/-- Drop the Warning events of the two modifier sides. -/
def stripWarn (l : List Ev) : List Ev :=
  l.filter fun | .warnReq _ => false | .warnRes _ => false | _ => true

theorem stripWarn_append (a b : List Ev) : stripWarn (a ++ b) = stripWarn a ++ stripWarn b := by
  simp [stripWarn]

theorem stripWarn_tail (opn : List Nat) :
    stripWarn (opn.map Ev.unlink ++ [Ev.closeConn]) = opn.map Ev.unlink ++ [Ev.closeConn] := by
  refine List.filter_eq_self.mpr (forall_mem_closing (fun _ => ?_) ?_ opn) <;> rfl

theorem nextOpen_setErr (v : ErrVal) (c : Nat) (opn : List Nat) (it : Item) :
    nextOpen c opn (setErr v it) = nextOpen c opn it := by cases it <;> rfl
theorem nextOpen_noErr (c : Nat) (opn : List Nat) (it : Item) :
    nextOpen c opn (noErr it) = nextOpen c opn it := by cases it <;> rfl

def setErrRq (v : ErrVal) : ReqB → ReqB | .err _ => .err v | .errSkip _ => .errSkip v | q => q
def setErrRs (v : ErrVal) : ResB → ResB | .err _ => .err v | r => r
def noErrRq : ReqB → ReqB | .err _ => .pass | .errSkip _ => .skip | q => q
def noErrRs : ResB → ResB | .err _ => .pass | r => r

private theorem setErr_eq (v : ErrVal) (it : Item) : setErr v it = it.withMods (setErrRq v it.rq) (setErrRs v it.rs) := by
  cases it <;> rfl
private theorem noErr_eq (it : Item) : noErr it = it.withMods (noErrRq it.rq) (noErrRs it.rs) := by
  cases it <;> rfl

/-- One call of `handle`: the error value is never looked at. -/
theorem handle_ignores_error_value (sd : Bool) (s : St) (i c : Nat) (v : ErrVal) (it : Item) :
    handleItem sd s i c (setErr v it) = handleItem sd s i c it := by
  obtain ⟨h2, h1⟩ := handleItem_withMods sd s i c it (setErrRq v it.rq) (setErrRs v it.rs)
    (hskip := by cases it.rq <;> rfl) (hhij := by cases it.rq <;> simp [setErrRq])
    (hins := by cases it.rq <;> simp [setErrRq]) (hrs := by cases it.rs <;> simp [setErrRs])
  rw [setErr_eq, Prod.ext_iff, h2, h1, handleItem_fst,
    pre_congr s i c (rq := it.rq) (by cases it.rq <;> rfl), post_congr i c _ (rs := it.rs) (by cases it.rs <;> rfl)]
  exact ⟨rfl, rfl⟩

/-- Whatever value a modifier's error is, the connection behaves the same: replacing every
modifier error of a script by any one value `v` - `io.EOF`, a timeout, … - leaves the whole trace
unchanged. In particular a closeable value is never taken for a connection error. -/
theorem modifier_error_value_is_irrelevant (sd : Bool) (base : Nat) (v : ErrVal) (s : St) (i : Nat)
    (opn : List Nat) (items : List Item) :
    run sd base s i opn (items.map (setErr v)) = run sd base s i opn items := by
  induction items generalizing s i opn with
  | nil => rfl
  | cons it rest ih =>
    simp only [List.map_cons, run, handle_ignores_error_value, nextOpen_setErr]
    cases (handleItem sd s i (base + i) it).2 <;> simp [ih]

/-- One call of `handle` with an erroring modifier: the same next step of the loop, and the same
events except for the Warnings. -/
theorem handle_error_only_adds_warning (sd : Bool) (s : St) (i c : Nat) (it : Item) :
    (handleItem sd s i c it).2 = (handleItem sd s i c (noErr it)).2 ∧
      stripWarn (handleItem sd s i c it).1 = (handleItem sd s i c (noErr it)).1 := by
  obtain ⟨h2, h1⟩ := handleItem_withMods sd s i c it (noErrRq it.rq) (noErrRs it.rs)
    (hskip := by cases it.rq <;> rfl) (hhij := by cases it.rq <;> simp [noErrRq])
    (hins := by cases it.rq <;> simp [noErrRq]) (hrs := by cases it.rs <;> simp [noErrRs])
  have hq : rqErr (noErrRq it.rq) = rqErr .pass := by cases it.rq <;> rfl
  have hs : rsErr (noErrRs it.rs) = rsErr .pass := by cases it.rs <;> rfl
  have hpre : ∀ rq, stripWarn (pre s i c rq) = pre s i c .pass := by
    intro rq; unfold pre; cases rqErr rq <;> rfl
  have hpost : ∀ st rs, stripWarn (post i c st rs) = post i c st .pass := by
    intro st rs; unfold post; cases rsErr rs <;> rfl
  have hup : stripWarn (it.up s i) = it.up s i :=
    List.filter_eq_self.mpr fun e he => by rcases Item.mem_up he with rfl | ⟨_, rfl⟩ | rfl <;> rfl
  have hfin : stripWarn (it.fin sd i c) = it.fin sd i c :=
    List.filter_eq_self.mpr fun e he => by rcases Item.mem_fin he with ⟨_, _, _, rfl⟩ | rfl | rfl <;> rfl
  rw [noErr_eq, h2, h1, handleItem_fst, pre_congr s i c hq, post_congr i c _ hs]
  simp only [stripWarn_append, apply_ite stripWarn, hpre, hpost, hup, hfin]
  exact ⟨trivial, rfl⟩

/-- A modifier error only adds the Warning; processing continues: the trace of a connection whose
modifiers return errors is, Warning events aside, the trace of the same connection with modifiers
that return nil - same upstream contacts, same response-modifier calls, same responses, same
close decisions, same requests served afterwards. -/
theorem modifier_errors_only_add_warnings (sd : Bool) (base : Nat) (s : St) (i : Nat) (opn : List Nat)
    (items : List Item) :
    stripWarn (run sd base s i opn items) = run sd base s i opn (items.map noErr) := by
  induction items generalizing s i opn with
  | nil => simpa [run] using stripWarn_tail opn
  | cons it rest ih =>
    obtain ⟨h2, h1⟩ := handle_error_only_adds_warning sd s i (base + i) it
    simp only [List.map_cons, run, nextOpen_noErr]
    rw [← h2]
    cases (handleItem sd s i (base + i) it).2 with
    | again s' => simp only [stripWarn_append, h1, ih]
    | close => rw [List.append_assoc, stripWarn_append, h1, stripWarn_tail, List.append_assoc]
    | hijack => rw [List.append_assoc, stripWarn_append, h1, stripWarn_tail, List.append_assoc]

/-! ### The Warning itself: `proxyutil.Warning` on any header -/

open Martian.Go Martian.Go.Header Martian.Proxy.Wire in
/-- Every modifier error becomes a Warning header, whatever the message looks like: for every
header - any Date (valid, invalid, empty, absent, repeated), Warnings of others already present,
anything else - `proxyutil.Warning` adds exactly one value to `Warning`, after the existing ones. -/
theorem warning_is_added_whatever_the_headers (value : Bytes → Bytes → Bytes) (h : Go.Header) (msg now : Bytes) :
    ∃ v, values (puWarning value h msg now) kWarning = values h kWarning ++ [v] := by
  refine ⟨value msg (if get h kDate == [] then now else get h kDate), ?_⟩
  simp only [puWarning, values, add, Martian.HttpSpec.index_assign, if_true]

open Martian.Go Martian.Go.Header Martian.Proxy.Wire in
/-- `proxyutil.Warning` touches no other header. -/
theorem warning_leaves_other_headers_alone (value : Bytes → Bytes → Bytes) (h : Go.Header) (msg now k : Bytes)
    (hk : canonKey k ≠ canonKey kWarning) :
    values (puWarning value h msg now) k = values h k := by
  simp only [puWarning, values, add, Martian.HttpSpec.index_assign, hk, if_false]

/-! Non-vacuity (tests): the quantification over values includes closeable ones, and the script
below has an `io.EOF` from the request modifier followed by a served request. -/
example : ErrVal.eof.closeable = true ∧ ErrVal.closedPipe.closeable = true ∧ ErrVal.ctxDeadline.closeable = true := by decide +kernel
example : countP (isRead 1) (runConn false 0 [.x false (.err .eof) (.err .timeout) (.ok 200 false),
    .x false .pass .pass (.ok 200 false)]) = 1 := by decide +kernel
example : stripWarn (runConn false 0 [.x false (.err .eof) (.err .timeout) (.ok 200 false)])
    = runConn false 0 [.x false .pass .pass (.ok 200 false)] := by decide +kernel

end Martian.Props.C02
