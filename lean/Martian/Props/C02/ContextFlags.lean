import Martian.Model.ProxyWire
/-!
C02 — "both see the same per-exchange context … a modifier that asks to skip the round trip causes
zero upstream contact": the three flags of a context (`SkipRoundTrip`, `SkipLogging`, `APIRequest`)
are independent monotone bits. Whatever public calls the modifiers of one exchange make, in whatever
order, a flag that was set stays set, and after any sequence of calls a flag is set exactly when it
was set before or one of the calls is its own. (The model `Wire.Flags` is tied to `context.go` by the
`fl=` field of every exchange: the getters' answers after scripted, ordered call sequences.)
-/
namespace Martian.Props.C02
open Martian.Proxy.Wire

/-- Every flag set in `a` is set in `b`. -/
def Flags.le (a b : Flags) : Prop :=
  (a.skipRoundTrip = true → b.skipRoundTrip = true) ∧ (a.skipLogging = true → b.skipLogging = true) ∧
    (a.apiRequest = true → b.apiRequest = true)

/-- No call clears another flag (nor its own): every public call only adds. -/
theorem set_is_monotone (f : Flags) (c : CtxCall) : Flags.le f (f.call c) := by
  cases c <;> simp [Flags.le, Flags.call]

/-- After any sequence of calls, in any order, each flag is the union of the calls: set iff it was
set before or its own call is in the sequence. In particular `SkipRoundTrip()` followed by
`APIRequest()` still skips the round trip. -/
theorem flags_after_calls (f : Flags) (cs : List CtxCall) :
    (f.calls cs).skipRoundTrip = (f.skipRoundTrip || cs.contains .skipRoundTrip) ∧
    (f.calls cs).skipLogging = (f.skipLogging || cs.contains .skipLogging) ∧
    (f.calls cs).apiRequest = (f.apiRequest || cs.contains .apiRequest) := by
  induction cs generalizing f with
  | nil => simp [Flags.calls]
  | cons c r ih =>
    have := ih (f.call c)
    simp only [Flags.calls, List.foldl_cons] at this ⊢
    obtain ⟨h1, h2, h3⟩ := this
    rw [h1, h2, h3]
    cases c <;> simp [Flags.call, Bool.or_comm]

theorem calls_are_monotone (f : Flags) (cs : List CtxCall) : Flags.le f (f.calls cs) := by
  obtain ⟨h1, h2, h3⟩ := flags_after_calls f cs
  simp only [Flags.le, h1, h2, h3, Bool.or_eq_true]
  exact ⟨.inl, .inl, .inl⟩

/-- The order of the calls does not matter. -/
theorem call_order_is_irrelevant (f : Flags) (cs cs' : List CtxCall) (h : ∀ c, cs.contains c = cs'.contains c) :
    f.calls cs = f.calls cs' := by
  have a := flags_after_calls f cs
  have b := flags_after_calls f cs'
  rw [h, h, h] at a
  cases hx : f.calls cs; cases hy : f.calls cs'
  simp only [hx, hy] at a b
  simp [a.1, a.2.1, a.2.2, b.1, b.2.1, b.2.2]

example : (({} : Flags).calls [.skipRoundTrip, .apiRequest]).skipRoundTrip = true := by decide +kernel

end Martian.Props.C02
