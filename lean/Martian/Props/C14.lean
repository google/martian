import Martian.Lemmas.HttpSpec
import Martian.Props.C14.AnyCase
import Martian.Props.C14.Exchange
import Martian.Props.C14.Elements
/-!
C14 — The spec-compliance stack strips hop-by-hop headers, stamps Via and stops loops.

The stack is `httpspec.NewStack` after the two C14 repairs: request side framing, hop-by-hop,
forwarded, via, user group; response side user group, via, hop-by-hop; every member runs and
the errors are collected (`aggregateErrors = true`).

Quantifiers: every header `h : Header` (any number of keys, lines per key, bytes per line —
"all header multisets"), every request environment `env` (protocol version, proxy name and
boundary, scheme, host, URL, remote address). Headers are association lists standing for Go's
`map[string][]string`; `index h k` is `h[k]`, `keys h` the set of keys.

The hop-by-hop list and the order of the stack are the regenerated facts
`Generated.HttpSpec.hopByHop / requestOrder / responseOrder` (see Model/HttpSpec.lean).
-/
namespace Martian.Props.C14
open Martian Martian.Go Martian.Go.Header Martian.HttpSpec

/-- Finite table check: every RFC hop-by-hop field is in the list literal of the source
(`Generated.HttpSpec.hopByHop`, regenerated on every run). Deleting one breaks this theorem. -/
theorem rfc_hop_by_hop_listed : ∀ k ∈ rfcHopByHop, canonKey k ∈ fixedList.map canonKey :=
  rfcHopByHop_fixed

/-- No header the modifier is to remove survives (fixed list or Connection-listed). -/
theorem hbh_removed (h : Header) (k : Bytes) (hk : k ∈ removedKeys h) : k ∉ keys (removeHopByHop h) :=
  removed_not_in_keys hk

/-- No header fixed by the HTTP specification survives, whatever else is in the header. -/
theorem hbh_fixed_removed (h : Header) : ∀ k ∈ rfcHopByHop, canonKey k ∉ keys (removeHopByHop h) :=
  fun k hk => removed_not_in_keys (fixed_mem_removedKeys h (rfc_hop_by_hop_listed k hk))

/-- No header named in any `Connection` line survives: every comma-separated piece of every
line, with any white space around it, under its canonical key. -/
theorem hbh_connection_listed_removed (h : Header) :
    ∀ line ∈ index h kConnection, ∀ tok ∈ split line comma, canonKey (trimSpace tok) ∉ keys (removeHopByHop h) :=
  fun _ hl _ ht => removed_not_in_keys (connToken_mem_removedKeys hl ht)

/-- "In any case": a token that differs from a header name only in letter case denotes the same
canonical key, i.e. the key under which net/http stores that header. -/
theorem connection_token_any_case (name tok : Bytes) (hn : name.all validHeaderFieldByte = true)
    (hc : toLower tok = toLower name) : canonKey tok = canonKey name :=
  canonKey_eq_of_toLower_eq name tok hn hc

/-- Every other header is untouched: the result is exactly the input with the removed keys
filtered out — nothing added, no value changed, order of values (and of keys) kept. -/
theorem hbh_others_untouched (h : Header) :
    removeHopByHop h = h.filter (fun e => !(removedKeys h).contains e.1) ∧
    ∀ k, k ∉ removedKeys h → index (removeHopByHop h) k = index h k :=
  ⟨removeHopByHop_eq_filter h, fun k hk => by rw [index_removeHopByHop, if_neg hk]⟩

/-- Request side of the stack: no hop-by-hop header survives, on every outcome (forwarded,
flagged or loop). For the headers the stack itself stamps see
`stack_via_exactly_one_appended_last`, `stack_xff`, `stack_proto_host_url`. -/
theorem stack_request_no_hop_by_hop (env : Env) (h : Header) (k : Bytes)
    (hk : k ∈ removedKeys h) (hs : k ∉ stampedKeys) : k ∉ keys (stackReq env h).1.hdr :=
  fun hm => (stackReq_keys hm).elim hs (removed_not_in_keys hk)

/-- Request side of the stack: every header that is neither hop-by-hop nor one the stack
writes (Via, X-Forwarded-*, Content-Length normalisation) has exactly its original lines. -/
theorem stack_request_others_untouched (env : Env) (h : Header) (k : Bytes)
    (hk : k ∉ removedKeys h) (hs : k ∉ stampedKeys) (hcl : k ≠ kCL) :
    index (stackReq env h).1.hdr k = index h k := by
  have hst := not_mem_stampedKeys hs
  rw [stackReq_index hst.1, preVia_index_other hst.2, if_neg hk, (framing_other h).1 k hcl]

/-- Request side of the stack, `Content-Length`: gone when Connection-listed, else exactly what
the framing modifier alone leaves (`framing_content_length` below says what that is). -/
theorem stack_content_length (env : Env) (h : Header) :
    index (stackReq env h).1.hdr kCL = if kCL ∈ removedKeys h then [] else index (framingHeader h).1 kCL := by
  rw [stackReq_index (Ne.symm kVia_ne_kCL), preVia_index_other kCL_notin_fwdKeys]

/-- Response side of the stack without a loop: status and error-free, hop-by-hop headers gone,
everything else exactly as it was (by `hbh_others_untouched`). -/
theorem stack_response_no_loop (s : ResS) :
    stackRes false s = ({ s with hdr := removeHopByHop s.hdr }, []) ∧
    (∀ k ∈ removedKeys s.hdr, k ∉ keys (stackRes false s).1.hdr) ∧
    (∀ k, k ∉ removedKeys s.hdr → index (stackRes false s).1.hdr k = index s.hdr k) ∧
    (stackRes false s).1.status = s.status := by
  have hu : stackRes false s = ({ s with hdr := removeHopByHop s.hdr }, []) := by
    rw [stackRes_unfold]; simp
  refine ⟨hu, fun k hk => ?_, fun k hk => ?_, by rw [hu]⟩
  · rw [stackRes_hdr]; exact removed_not_in_keys hk
  · rw [stackRes_hdr, index_removeHopByHop, if_neg hk]

/-- The loop test is "some comma-separated element of the Via chain has this instance's
pseudonym (`name-boundary`) as its second white-space-separated field". -/
theorem loop_detected_iff_instance_named (via tag : Bytes) :
    hasLoop via tag = true ↔ ∃ e ∈ split via comma, field2 (trimSpace e) = some tag := by
  simp [hasLoop, List.any_eq_true]

/-- The via modifier alone: a loop is reported (error, round trip skipped, context key set,
header untouched) exactly when the joined Via lines name this instance. -/
theorem via_loop_iff (env : Env) (s : RS) :
    ((viaReq env s).2 = some .loop ↔ hasLoop (join (index s.hdr kVia) commaSp) (tag env) = true) ∧
    (hasLoop (join (index s.hdr kVia) commaSp) (tag env) = true →
      (viaReq env s).1.skip = true ∧ (viaReq env s).1.loopKey = true ∧ (viaReq env s).1.hdr = s.hdr) := by
  rw [viaReq_eq]
  cases hasLoop (join (index s.hdr kVia) commaSp) (tag env) <;> simp

/-- The via modifier alone, no loop: the header gets exactly ONE `Via` line, which is all the
existing lines joined by ", " followed by ", " and this proxy's entry (or just the entry when
there was none); no other header changes, no error, no skipping. -/
theorem via_exactly_one_appended_last (env : Env) (s : RS)
    (hl : hasLoop (join (index s.hdr kVia) commaSp) (tag env) = false) :
    (viaReq env s).2 = none ∧ (viaReq env s).1.skip = s.skip ∧
    index (viaReq env s).1.hdr kVia = [viaLine env (index s.hdr kVia)] ∧
    (∀ k, k ≠ kVia → index (viaReq env s).1.hdr k = index s.hdr k) := by
  rw [viaReq_eq, hl, if_neg Bool.false_ne_true]
  refine ⟨rfl, rfl, ?_, ?_⟩
  · show index (set _ kVia _) kVia = _
    rw [index_set, canon_kVia, if_pos rfl]
  · intro k hk
    dsimp only
    rw [index_set, canon_kVia, if_neg hk]

/-- Shape of the line: existing chain first, this proxy's entry last. -/
theorem via_line_shape (env : Env) (old : List Bytes) :
    (join old commaSp = [] → viaLine env old = viaEntry env) ∧
    (join old commaSp ≠ [] → viaLine env old = join old commaSp ++ commaSp ++ viaEntry env) := by
  constructor <;> intro h <;> simp [viaLine, h]

/-- The Via chain the via modifier sees inside the stack: the original one unless `Via` itself
was named in `Connection` (then hop-by-hop removal has deleted it). -/
def effectiveVia (h : Header) : List Bytes := if kVia ∈ removedKeys h then [] else index h kVia

theorem stack_via_seen (env : Env) (h : Header) : index (preVia env h) kVia = effectiveVia h :=
  preVia_index_kVia env h

/-- Whether the stack reports a loop: exactly when the chain it sees names this instance. -/
def stackLoop (env : Env) (h : Header) : Bool := hasLoop (join (effectiveVia h) commaSp) (tag env)

/-- The errors of the request side, exactly: the framing modifier's verdict on the header as
received, then the loop error iff the surviving Via chain names this instance. Nothing else, no
member pre-empts another. -/
theorem stack_errors_exact (env : Env) (h : Header) :
    (stackReq env h).2 = framingErrs h ++ (if stackLoop env h then [.loop] else []) ∧
    (stackReq env h).1.skip = stackLoop env h ∧ (stackReq env h).1.loopKey = stackLoop env h := by
  unfold stackLoop
  rw [← stack_via_seen env h]
  rcases stackReq_cases env h with ⟨hl, hr⟩ | ⟨hl, hr⟩
  · rw [hr, hl]; exact ⟨rfl, rfl, rfl⟩
  · rw [hr, hl]; exact ⟨by simp, rfl, rfl⟩

/-- Stack: every request in which no loop is seen — flagged by the framing modifier or not — is
not skipped and carries exactly one `Via` line: the existing chain followed by this proxy's entry. -/
theorem stack_via_exactly_one_appended_last (env : Env) (h : Header) (hok : Err.loop ∉ (stackReq env h).2) :
    index (stackReq env h).1.hdr kVia = [viaLine env (effectiveVia h)] ∧ (stackReq env h).1.skip = false := by
  rcases stackReq_cases env h with ⟨_, hr⟩ | ⟨_, hr⟩
  · rw [hr] at hok; simp at hok
  · rw [hr]
    refine ⟨?_, rfl⟩
    show index (set _ kVia _) kVia = _
    rw [index_set, canon_kVia, if_pos rfl, stack_via_seen]

/-- Stack: a loop is never reported for a request whose Via chain does not name this instance. -/
theorem stack_no_false_loop (env : Env) (h : Header)
    (hn : hasLoop (join (index h kVia) commaSp) (tag env) = false) :
    Err.loop ∉ (stackReq env h).2 ∧ (stackReq env h).1.skip = false := by
  have hl : stackLoop env h = false := by
    unfold stackLoop effectiveVia
    split
    · exact hasLoop_nil _
    · exact hn
  have he := stack_errors_exact env h
  rw [hl] at he
  refine ⟨?_, he.2.1⟩
  rw [he.1]
  unfold framingErrs
  rcases framingHeader_err h with h0 | h0 | h0 <;> simp [h0]

/-- Response side of the stack for a request on which the loop was detected (context key
set): the response is turned into a 400, the loop error is reported, and (every member runs)
the hop-by-hop headers are removed as well. -/
theorem stack_response_loop_400 (s : ResS) :
    (stackRes true s).1.status = 400 ∧ (stackRes true s).2 = [.loop] ∧
    (stackRes true s).1.hdr = removeHopByHop s.hdr := by
  rw [stackRes_unfold]; simp

/-- The full loop clause for one header: a Via chain naming this instance ⇒ loop error, round
trip skipped (never sent upstream), context key set, and hence 400. -/
def LoopStopped (env : Env) (h : Header) : Prop :=
  hasLoop (join (index h kVia) commaSp) (tag env) = true →
    Err.loop ∈ (stackReq env h).2 ∧ sentUpstream (stackReq env h).1 = false ∧
    (stackReq env h).1.loopKey = true ∧ ∀ res, (stackRes (stackReq env h).1.loopKey res).1.status = 400

/-- PARTIAL (open finding F14b, Connection-listed Via): the loop clause holds for every header
in which `Via` is not itself Connection-listed — whatever the framing modifier says about it
(F14c is repaired). Missing: the excluded class, for which `loop_counterexample_via_listed`
shows the clause is false. -/
theorem loop_stopped_partial (env : Env) (h : Header) (hv : kVia ∉ removedKeys h) : LoopStopped env h := by
  intro hn
  have hl : stackLoop env h = true := by
    unfold stackLoop effectiveVia; rw [if_neg hv]; exact hn
  have he := stack_errors_exact env h
  rw [hl] at he
  refine ⟨?_, ?_, he.2.2, ?_⟩
  · rw [he.1]; simp
  · simp [sentUpstream, he.2.1]
  · intro res
    rw [he.2.2]
    exact (stack_response_loop_400 res).1

/-- The forwarded modifier: `X-Forwarded-For` becomes one line, all existing lines joined by
", " followed by the client address (the host part of RemoteAddr). -/
theorem xff_appends (env : Env) (h : Header) :
    index (fwdHeader env h) kXFF = [xffLine env (index h kXFF)] ∧
    (join (index h kXFF) commaSp = [] → xffLine env (index h kXFF) = clientOf env.remote) ∧
    (join (index h kXFF) commaSp ≠ [] →
      xffLine env (index h kXFF) = join (index h kXFF) commaSp ++ commaSp ++ clientOf env.remote) := by
  refine ⟨by rw [fwd_index, if_pos rfl], ?_, ?_⟩ <;> intro hv <;> simp [xffLine, hv]

/-- `X-Forwarded-Proto`, `-Host`, `-Url`: preserved (all lines) when a first value exists, else set
to the request's scheme / Host / URL. -/
theorem proto_host_url_preserved_or_set (env : Env) (h : Header) :
    (index (fwdHeader env h) kXFProto = if get h kXFProto = [] then [env.scheme] else index h kXFProto) ∧
    (index (fwdHeader env h) kXFHost = if get h kXFHost = [] then [env.host] else index h kXFHost) ∧
    (index (fwdHeader env h) kXFUrl = if get h kXFUrl = [] then [env.url] else index h kXFUrl) := by
  obtain ⟨hFP, hFH, hFU, hPH, hPU, hHU⟩ := fwdKeys_ne
  simp only [fwd_index, Ne.symm hFP, Ne.symm hFH, Ne.symm hFU, hPH, hPU, hHU, Ne.symm hPH, Ne.symm hPU, Ne.symm hHU,
    false_and, true_and, if_false, and_self]

/-- The forwarded modifier touches nothing else. -/
theorem fwd_others_untouched (env : Env) (h : Header) (k : Bytes) (hk : k ∉ fwdKeys) :
    index (fwdHeader env h) k = index h k := fwd_index_other hk

/-- Stack, every outcome: `X-Forwarded-For` is the surviving existing chain followed by the
client address (existing = the original lines unless the header was Connection-listed). -/
theorem stack_xff (env : Env) (h : Header) :
    index (stackReq env h).1.hdr kXFF =
      [xffLine env (if kXFF ∈ removedKeys h then [] else index h kXFF)] := by
  have hx : kXFF ∈ fwdKeys := by simp [fwdKeys]
  rw [stackReq_index (ne_of_mem_of_not_mem hx kVia_notin_fwdKeys), preVia, fwd_index, if_pos rfl, fwd_input_index hx]

/-- Stack, every outcome: `X-Forwarded-Proto`, `-Host`, `-Url` keep their surviving lines when
the first of them is non-empty, else reflect the request (surviving = the original lines unless
the header was Connection-listed). -/
theorem stack_proto_host_url (env : Env) (h : Header) :
    let old := fun k => if k ∈ removedKeys h then [] else index h k
    index (stackReq env h).1.hdr kXFProto = (if (old kXFProto).headD [] = [] then [env.scheme] else old kXFProto) ∧
    index (stackReq env h).1.hdr kXFHost = (if (old kXFHost).headD [] = [] then [env.host] else old kXFHost) ∧
    index (stackReq env h).1.hdr kXFUrl = (if (old kXFUrl).headD [] = [] then [env.url] else old kXFUrl) := by
  intro old
  have hp : kXFProto ∈ fwdKeys := by simp [fwdKeys]
  have hh : kXFHost ∈ fwdKeys := by simp [fwdKeys]
  have hu : kXFUrl ∈ fwdKeys := by simp [fwdKeys]
  have := proto_host_url_preserved_or_set env (removeHopByHop (framingHeader h).1)
  simp only [Header.get, Header.values, canon_kXFProto, canon_kXFHost, canon_kXFUrl, fwd_input_index hp,
    fwd_input_index hh, fwd_input_index hu] at this
  rw [stackReq_index (ne_of_mem_of_not_mem hp kVia_notin_fwdKeys), stackReq_index (ne_of_mem_of_not_mem hh kVia_notin_fwdKeys),
    stackReq_index (ne_of_mem_of_not_mem hu kVia_notin_fwdKeys)]
  exact this

/-- A Transfer-Encoding whose last comma-separated value of the last line is not `chunked`. -/
def teBad (h : Header) : Prop := index h kTE ≠ [] ∧ teLast h ≠ chunked

/-- The framing modifier alone flags every request with conflicting Content-Length values or
a Transfer-Encoding not ending in chunked. -/
theorem framing_flagged (h : Header) (hb : clConflict h ∨ teBad h) : (framingHeader h).2 ≠ none := by
  rw [framingHeader_eq]
  cases hc : framingCL h with
  | none => simp
  | some h1 =>
    rcases hb with hb | hb
    · rw [framingCL_conflict hb] at hc; cases hc
    · simp [hb.1, hb.2]

/-- The framing modifier never invents an error: without Content-Length and Transfer-Encoding
it returns none and leaves the header alone. -/
theorem framing_no_spurious_error (h : Header) (hc : index h kCL = []) (ht : index h kTE = []) :
    framingHeader h = (h, none) := by
  rw [framingHeader_eq, framingCL_eq, if_pos hc]
  exact if_pos ht

/-- What the framing modifier leaves as `Content-Length` when it does not object: nothing when a
Transfer-Encoding (ending in chunked) is present, else the one agreed value, else nothing. -/
theorem framing_content_length (h : Header) (hok : (framingHeader h).2 = none) :
    index (framingHeader h).1 kCL =
      if index h kTE ≠ [] then []
      else if index h kCL ≠ [] then [(clScan (clTokens h) []).getD []] else [] := by
  rw [framingHeader_eq] at hok ⊢
  cases hc : framingCL h with
  | none => rw [hc] at hok; cases hok
  | some h1 =>
    rw [hc] at hok
    dsimp only at hok ⊢
    by_cases ht : index h kTE = []
    · rw [if_pos ht, if_neg (fun hn => hn ht), (framingCL_some hc).2.2]
      simp only [ne_eq, ite_not]
    · rw [if_neg ht] at hok ⊢
      by_cases hch : teLast h = chunked
      · rw [if_pos hch, if_pos ht, index_del, canon_kCL, if_pos rfl]
      · rw [if_neg hch] at hok
        cases hok

/-- The framing clause for the whole stack, for one header. -/
def FramingFlagged (env : Env) (h : Header) : Prop := clConflict h ∨ teBad h → (stackReq env h).2 ≠ []

/-- FULL (F14b repaired, the Transfer-Encoding and Connection-listed Content-Length variants): inside the stack,
every request with conflicting Content-Length values or a Transfer-Encoding not ending in chunked —
Connection-listed or not — is flagged with the
framing modifier's own error; and the stack's framing verdict is always exactly that of the
framing modifier alone on the header as received. -/
theorem stack_framing_flagged (env : Env) (h : Header) :
    FramingFlagged env h ∧
    (clConflict h ∨ teBad h → Err.cl ∈ (stackReq env h).2 ∨ Err.te ∈ (stackReq env h).2) ∧
    (∀ e, e ≠ Err.loop → (e ∈ (stackReq env h).2 ↔ (framingHeader h).2 = some e)) := by
  have hmem : ∀ e, e ≠ Err.loop → (e ∈ (stackReq env h).2 ↔ (framingHeader h).2 = some e) := by
    intro e hne
    rw [(stack_errors_exact env h).1, List.mem_append, framingErrs, Option.mem_toList]
    refine ⟨fun hm => hm.resolve_right fun hl => hne ?_, Or.inl⟩
    split at hl
    · exact List.mem_singleton.mp hl
    · cases hl
  have hfl : clConflict h ∨ teBad h → Err.cl ∈ (stackReq env h).2 ∨ Err.te ∈ (stackReq env h).2 := by
    intro hb
    rcases framingHeader_err h with h0 | h0 | h0
    · exact absurd h0 (framing_flagged h hb)
    · exact Or.inl ((hmem .cl (by decide)).mpr h0)
    · exact Or.inr ((hmem .te (by decide)).mpr h0)
  exact ⟨fun hb => (hfl hb).elim List.ne_nil_of_mem List.ne_nil_of_mem, hfl, hmem⟩

/-- Stack: no spurious framing error — a request without Content-Length and Transfer-Encoding is
never flagged for framing. -/
theorem stack_no_spurious_framing_error (env : Env) (h : Header) (hc : index h kCL = []) (ht : index h kTE = []) :
    Err.cl ∉ (stackReq env h).2 ∧ Err.te ∉ (stackReq env h).2 := by
  have hn : ∀ e, e ≠ Err.loop → e ∉ (stackReq env h).2 := fun e he hin => by
    have := ((stack_framing_flagged env h).2.2 e he).mp hin
    rw [framing_no_spurious_error h hc ht] at this
    cases this
  exact ⟨hn .cl (by decide), hn .te (by decide)⟩

def env0 : Env :=
  { major := 1, minor := 1, name := strBytes "martian", boundary := strBytes "00", scheme := strBytes "http",
    host := strBytes "example.com", url := strBytes "http://example.com/", remote := strBytes "192.0.2.1:4711" }

/-- F14b, Transfer-Encoding variant (repaired): `Transfer-Encoding: gzip`. -/
def hTE : Header := [(kTE, [strBytes "gzip"])]
/-- F14b, Connection-listed Content-Length variant (repaired): `Connection: content-length` with `Content-Length: 5` and `Content-Length: 6`. -/
def hCLListed : Header := [(kConnection, [strBytes "content-length"]), (kCL, [strBytes "5", strBytes "6"])]
/-- F14b, Connection-listed Via variant (open): `Connection: via` with a Via chain naming this instance. -/
def hViaListed : Header := [(kConnection, [strBytes "via"]), (kVia, [strBytes "1.1 martian-00"])]
/-- F14c (repaired): conflicting Content-Length and a Via chain naming this instance. -/
def hLoopCL : Header := [(kCL, [strBytes "5", strBytes "6"]), (kVia, [strBytes "1.1 martian-00"])]

theorem teBad_hTE : teBad hTE := by unfold teBad; decide +kernel
theorem clConflict_hCLListed : clConflict hCLListed :=
  ⟨strBytes "5", by decide +kernel, strBytes "6", by decide +kernel⟩

/-- Test (the three repaired witnesses, evaluated): the stack now answers `te`, `cl` and
`cl`+`loop` with the round trip skipped; in all three the hop-by-hop headers are gone and, where
no loop is seen, the Via entry is stamped. Against a tree without the repairs this fails. -/
theorem repaired_witnesses :
    (stackReq env0 hTE).2 = [.te] ∧ keys (stackReq env0 hTE).1.hdr = [kXFProto, kXFHost, kXFUrl, kXFF, kVia] ∧
    (stackReq env0 hCLListed).2 = [.cl] ∧ keys (stackReq env0 hCLListed).1.hdr = [kXFProto, kXFHost, kXFUrl, kXFF, kVia] ∧
    (stackReq env0 hLoopCL).2 = [.cl, .loop] ∧ (stackReq env0 hLoopCL).1.skip = true ∧
    (stackRes (stackReq env0 hLoopCL).1.loopKey { hdr := [], status := 200 }).1.status = 400 := by decide +kernel

/-- Witness of the open F14b variant: Connection-listed Via hides the loop from the stack (the via modifier alone sees it). -/
theorem loop_counterexample_via_listed :
    (viaReq env0 { hdr := hViaListed }).2 = some .loop ∧ ¬ LoopStopped env0 hViaListed := by
  have hw : (viaReq env0 { hdr := hViaListed }).2 = some .loop ∧
      hasLoop (join (index hViaListed kVia) commaSp) (tag env0) = true ∧ Err.loop ∉ (stackReq env0 hViaListed).2 := by
    decide +kernel
  exact ⟨hw.1, fun hf => hw.2.2 (hf hw.2.1).1⟩

def hGood : Header := [(strBytes "Accept", [strBytes "a", strBytes "b"]), (kConnection, [strBytes " keep-alive ,X-CUSTOM", strBytes "close"]),
  (strBytes "X-Custom", [strBytes "1"]), (strBytes "Keep-Alive", [strBytes "timeout=5"]), (kVia, [strBytes "1.0 fred", strBytes "1.1 p"]),
  (kXFF, [strBytes "10.0.0.1"]), (kCL, [strBytes "5", strBytes "5"])]

/-- Test (evaluation on one concrete header): forwarded without error; Keep-Alive, X-Custom and
Connection are gone; Accept is untouched; Via and X-Forwarded-For were appended to. -/
example : (stackReq env0 hGood).2 = [] ∧
    keys (stackReq env0 hGood).1.hdr = [strBytes "Accept", kCL, kXFProto, kXFHost, kXFUrl, kXFF, kVia] ∧
    index (stackReq env0 hGood).1.hdr (strBytes "Accept") = [strBytes "a", strBytes "b"] ∧
    index (stackReq env0 hGood).1.hdr kVia = [strBytes "1.0 fred, 1.1 p, 1.1 martian-00"] ∧
    index (stackReq env0 hGood).1.hdr kXFF = [strBytes "10.0.0.1, 192.0.2.1"] ∧
    index (stackReq env0 hGood).1.hdr kCL = [strBytes "5"] := by decide +kernel

/-- Hypothesis of `loop_stopped_partial` is satisfiable together with the loop premise (and a framing error). -/
example : kVia ∉ removedKeys hLoopCL ∧ hasLoop (join (index hLoopCL kVia) commaSp) (tag env0) = true ∧ clConflict hLoopCL :=
  ⟨by decide +kernel, by decide +kernel, strBytes "5", by decide +kernel, strBytes "6", by decide +kernel⟩

/-- The premise of `stack_framing_flagged` is satisfiable in both ways, also Connection-listed. -/
example : teBad hTE ∧ clConflict hCLListed ∧ kCL ∈ removedKeys hCLListed := ⟨teBad_hTE, clConflict_hCLListed, by decide +kernel⟩

/-- `connection_token_any_case` is not vacuous. -/
example : toLower (strBytes "KEEP-alive") = toLower (strBytes "Keep-Alive") ∧
    canonKey (strBytes "KEEP-alive") = strBytes "Keep-Alive" := by decide +kernel

end Martian.Props.C14
