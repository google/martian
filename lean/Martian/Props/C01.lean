import Martian.Props.C01.Wire
import Martian.Props.C01.Facts
import Martian.Props.C01.SemFacts
import Martian.Props.C01.KeepAlive
import Martian.Lemmas.Proxy
import Martian.Lemmas.ProxyTrace
import Martian.Lemmas.ProxyState
import Martian.Lemmas.Chunked
/-!
C01 — HTTP/1 relay preserves every request and response, one-to-one and in order.
Here, for every request sequence and every origin behaviour, the relay discipline of the exchange
machine (`Model/Proxy.lean`, messages are opaque): one response per request, in order, exactly the
origin's status, the connection served up to and including the first exchange that asks to close,
and closed exactly then. The content clauses (method, target, end-to-end headers, body bytes) are
in `Props/C01/Wire.lean`, the close decision over protocol versions in `Props/C01/KeepAlive.lean`.
-/
namespace Martian.Props.C01
open Martian.Proxy

variable (sd : Bool) (base : Nat) (items : List Item)

/-- With no-op modifiers, every request the proxy reads is forwarded upstream once and answered by
exactly one response. -/
theorem relay_one_to_one (k : Nat) (s' : St) (rc : Bool) (org : Org)
    (h : at? sd base {} 0 items k = some (s', .x rc .pass .pass org)) :
    countP (isUpstream k) (runConn sd base items) = 1 ∧ countP (isWrite k) (runConn sd base items) = 1 := by
  unfold runConn
  rw [count_run local_upstream, count_run local_write, h]
  simp [own_upstream, own_write, Item.hij, Item.rq, Item.rs, Item.up, rqSkip, countP_cons, countP_ite, countP_nil, isUpstream]

/-- Indices of the responses written to the client, in trace order. -/
def writeIdx (evs : List Ev) : List Nat := evs.filterMap fun | .write i _ _ _ => some i | _ => none

theorem writeIdx_item (sd : Bool) (s : St) (i c : Nat) (it : Item) :
    writeIdx (handleItem sd s i c it).1 = if it.hij then [] else [i] := by
  rw [handleItem_fst]
  cases it <;> simp [writeIdx, pre, post, hijExit, Item.up, Item.fin, Item.hij, ite_or, apply_ite (List.filterMap _)]

theorem writeIdx_tail (opn : List Nat) : writeIdx (opn.map Ev.unlink ++ [Ev.closeConn]) = [] := by
  refine List.filterMap_eq_nil_iff.mpr (forall_mem_closing (fun _ => ?_) ?_ opn) <;> rfl

theorem writeIdx_run_ge (s : St) (i : Nat) (opn : List Nat) :
    (∀ j ∈ writeIdx (run sd base s i opn items), i ≤ j) ∧ (writeIdx (run sd base s i opn items)).Pairwise (· < ·) := by
  induction items generalizing s i opn with
  | nil => simp [run, writeIdx_tail]
  | cons it rest ih =>
    have ⟨h1, h2⟩ := ih (it.after s i) (i + 1) (nextOpen (base + i) opn it)
    rw [run_cons, writeIdx, List.filterMap_append, ← writeIdx, ← writeIdx, writeIdx_item]
    cases endsConn sd it
    · simp only [Bool.false_eq_true, if_false]
      split
      · exact ⟨fun j hj => by have := h1 j hj; omega, h2⟩
      · refine ⟨fun j hj => ?_, List.pairwise_cons.mpr ⟨fun j hj => h1 j hj, h2⟩⟩
        rcases List.mem_cons.mp hj with rfl | hj
        · omega
        · have := h1 j hj; omega
    · simp only [if_true, writeIdx_tail, List.append_nil]
      split <;> simp

/-- Responses leave in request order: the indices of the written responses are strictly increasing. -/
theorem relay_in_order : (writeIdx (runConn sd base items)).Pairwise (· < ·) :=
  (writeIdx_run_ge sd base items {} 0 []).2

/-- The client receives the origin's status code, completely, marked `Connection: close` exactly
when the client, the origin or a shutdown asked to close. -/
theorem response_is_origins (k : Nat) (s' : St) (rc : Bool) (st : Nat) (cl : Bool)
    (h : at? sd base {} 0 items k = some (s', .x rc .pass .pass (.ok st cl))) :
    Ev.write k st (rc || cl || sd) true ∈ runConn sd base items := by
  apply mem_run_of_at? [] h
  rw [handleItem_fst]
  simp [Item.rq, Item.rs, Item.status, Item.fin, rqSkip]

/-- The connection is served up to and including the first exchange that ends it, and no further:
the number of requests read is the length of that prefix of the script. -/
theorem served_prefix_is_until_first_close :
    numReads (runConn sd base items) = (takeThrough (endsConn sd) items).length :=
  numReads_run sd base {} 0 [] items

/-- Without modifiers and faults an exchange ends the connection iff the client, the origin or a
shutdown asked for it - otherwise the connection stays usable for the next request. -/
theorem closes_iff_asked (rc : Bool) (st : Nat) (cl : Bool) :
    endsConn sd (.x rc .pass .pass (.ok st cl)) = (rc || cl || sd) := by
  cases rc <;> cases cl <;> cases sd <;> simp [endsConn, rqSkip]

/-- The next request on the connection is served iff no earlier exchange ended it. -/
theorem next_request_served_iff (s : St) (i : Nat) (it : Item) (c : Nat) :
    (handleItem sd s i c it).2.isAgain = !endsConn sd it :=
  again_iff_not_ends sd s i c it

/-- The client's end of input is looked at only between exchanges. The trace of a connection
closes it exactly once, as its very last event: a client that half-closes after its last request
still has every request it sent handled in full before the proxy reacts to the end of its input. -/
theorem connection_closed_once_at_the_very_end (s : St) (i : Nat) (opn : List Nat) :
    ∃ pre, run sd base s i opn items = pre ++ [Ev.closeConn] ∧ Ev.closeConn ∉ pre := by
  have hitem : ∀ s i c it, Ev.closeConn ∉ (handleItem sd s i c it).1 := fun _ _ _ _ h => of_item h
  have htail : ∀ opn : List Nat, Ev.closeConn ∉ opn.map Ev.unlink := by
    intro opn h; obtain ⟨c, _, hc⟩ := List.mem_map.mp h; cases hc
  induction items generalizing s i opn with
  | nil => exact ⟨opn.map Ev.unlink, rfl, htail opn⟩
  | cons it rest ih =>
    rw [run_cons]
    obtain ⟨pre, hp, hnp⟩ : ∃ pre, (if endsConn sd it then opn.map Ev.unlink ++ [Ev.closeConn]
        else run sd base (it.after s i) (i + 1) (nextOpen (base + i) opn it) rest) = pre ++ [Ev.closeConn] ∧
        Ev.closeConn ∉ pre := by
      split
      · exact ⟨_, rfl, htail opn⟩
      · exact ih _ _ _
    exact ⟨_ ++ pre, by rw [hp, List.append_assoc], fun h => (List.mem_append.mp h).elim (hitem _ _ _ _) hnp⟩

/-! ### Body framing

`MessageView.dechunk` transcribes net/http's chunked reader (it is compared with
`httputil.NewChunkedReader` on every run, op `golib.dechunk`). However an origin - or the relay
itself, re-framing with arbitrary write sizes - cuts a body into chunks, the reader of the next hop
gets the same bytes. -/

/-- Any chunking of a body decodes to exactly that body, whatever follows on the connection. -/
theorem chunked_body_identical_for_every_chunking (chunks : List Bytes) (hne : ∀ c ∈ chunks, c ≠ [])
    (rest : Bytes) :
    MessageView.dechunk (MessageView.chunkStream chunks ++ rest) = some chunks.flatten :=
  MessageView.dechunk_chunkStream chunks hne rest

/-- Re-chunking by the relay cannot change the body: two chunkings of the same bytes read the same. -/
theorem rechunking_by_the_relay_preserves_body (cs cs' : List Bytes) (h : cs.flatten = cs'.flatten)
    (hne : ∀ c ∈ cs, c ≠ []) (hne' : ∀ c ∈ cs', c ≠ []) (rest rest' : Bytes) :
    MessageView.dechunk (MessageView.chunkStream cs ++ rest) =
      MessageView.dechunk (MessageView.chunkStream cs' ++ rest') :=
  MessageView.rechunking_preserves_body cs cs' h hne hne' rest rest'

/-! Non-vacuity (tests): a chunking that meets `hne`; three pipelined exchanges, the second asking to close. -/
example : ∀ c ∈ [strBytes "ab", strBytes "c"], c ≠ ([] : Bytes) := by decide +kernel
example : numReads (runConn false 0 [.x false .pass .pass (.ok 200 false), .x true .pass .pass (.ok 404 false),
    .x false .pass .pass (.ok 200 false)]) = 2 := by decide +kernel
example : writeIdx (runConn false 0 [.x false .pass .pass (.ok 200 false), .x true .pass .pass (.ok 404 false),
    .x false .pass .pass (.ok 200 false)]) = [0, 1] := by decide +kernel
example : at? false 0 {} 0 [.x false .pass .pass (.ok 200 false), .x true .pass .pass (.ok 404 false)] 1
    = some ({ stored := 1 }, .x true .pass .pass (.ok 404 false)) := by decide +kernel

end Martian.Props.C01
