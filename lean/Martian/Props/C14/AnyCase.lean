import Martian.Lemmas.HttpSpec
/-!
C14, group "names in any letter case": the hop-by-hop clause read on header NAMES rather than on
canonical keys, for headers whose keys are as net/http parses them (valid tokens in canonical
spelling); what happens to keys written into the map directly in another spelling; the
de-facto hop-by-hop header `Proxy-Connection`.
-/
namespace Martian.Props.C14
open Martian Martian.Go Martian.Go.Header Martian.HttpSpec

/-- Keys as `net/http` (`textproto.ReadMIMEHeader`) produces them: tokens, canonical spelling. -/
def ParsedKeys (h : Header) : Prop := ∀ k ∈ keys h, k.all validHeaderFieldByte = true ∧ canonKey k = k

/-- No header whose NAME equals, in any letter case, a hop-by-hop field of the HTTP
specification survives hop-by-hop removal. -/
theorem hbh_no_rfc_name_survives_any_case (h : Header) (hp : ParsedKeys h) :
    ∀ k ∈ keys (removeHopByHop h), ∀ n ∈ rfcHopByHop, toLower k ≠ toLower n :=
  fun k hk n hn => survivor_ne_any_case hk (hp k (mem_keys_removeHopByHop.mp hk).1)
    (fixed_mem_removedKeys h (rfcHopByHop_fixed n hn))

/-- No header whose NAME equals, in any letter case and with any white space around the token,
a name listed in any `Connection` line survives hop-by-hop removal. -/
theorem hbh_no_connection_listed_name_survives_any_case (h : Header) (hp : ParsedKeys h) :
    ∀ k ∈ keys (removeHopByHop h), ∀ line ∈ index h kConnection, ∀ tok ∈ split line comma,
      toLower k ≠ toLower (trimSpace tok) :=
  fun k hk _ hl _ ht => survivor_ne_any_case hk (hp k (mem_keys_removeHopByHop.mp hk).1)
    (connToken_mem_removedKeys hl ht)

/-- The same two statements for the request side of the stack (every outcome), for names the
stack does not stamp itself. -/
theorem stack_no_hop_by_hop_name_survives_any_case (env : Env) (h : Header) (hp : ParsedKeys h) :
    ∀ k ∈ keys (stackReq env h).1.hdr, k ∉ stampedKeys →
      (∀ n ∈ rfcHopByHop, toLower k ≠ toLower n) ∧
      (∀ line ∈ index h kConnection, ∀ tok ∈ split line comma, toLower k ≠ toLower (trimSpace tok)) := by
  intro k hk hs
  have hsurv : k ∈ keys (removeHopByHop h) := (stackReq_keys hk).resolve_left hs
  exact ⟨hbh_no_rfc_name_survives_any_case h hp k hsurv, hbh_no_connection_listed_name_survives_any_case h hp k hsurv⟩

/-- Outside `ParsedKeys` the name-level statement is FALSE (concrete witnesses, evaluated): a key
written into the map directly in a non-canonical spelling (`keep-alive`, or `x-custom` named in
`Connection`) is neither seen by `header["Connection"]` nor deleted by `Header.Del`, so it
survives. net/http never produces such keys when it parses a message; only a modifier writing the
map directly can. -/
theorem hbh_noncanonical_key_counterexample :
    keys (removeHopByHop [(strBytes "keep-alive", [strBytes "timeout=5"])]) = [strBytes "keep-alive"] ∧
    keys (removeHopByHop [(kConnection, [strBytes "x-custom"]), (strBytes "x-custom", [strBytes "1"])]) = [strBytes "x-custom"] ∧
    keys (removeHopByHop [(strBytes "connection", [strBytes "X-Custom"]), (strBytes "X-Custom", [strBytes "1"])]) =
      [strBytes "connection", strBytes "X-Custom"] := by decide +kernel

/-- `Proxy-Connection` (not in the RFC list; the source calls it "non-standard, but required for
HTTP/2") is removed like the fixed ones. -/
theorem proxy_connection_removed (h : Header) : strBytes "Proxy-Connection" ∉ keys (removeHopByHop h) :=
  removed_not_in_keys (fixed_mem_removedKeys h (by decide +kernel))

/-- The value of `Proxy-Connection` is NOT read as a list of connection options: a header named only there stays
(concrete witness, evaluated). -/
theorem proxy_connection_tokens_not_options :
    keys (removeHopByHop [(strBytes "Proxy-Connection", [strBytes "keep-alive, X-Custom"]), (strBytes "X-Custom", [strBytes "1"]),
      (strBytes "Keep-Alive", [strBytes "timeout=5, max=100"])]) = [strBytes "X-Custom"] := by decide +kernel

/-- Removal is VALUE-INDEPENDENT: which keys survive depends only on the set of keys and on the
`Connection` lines — never on what a hop-by-hop header carries (`TE: trailers`, `Upgrade: websocket`,
`Proxy-Connection: keep-alive`, … are removed like any placeholder). `hbh_removed`, `hbh_fixed_removed`
and the stack theorems already quantify over every header, hence over every value; this states it
as an equation between two headers that differ in values only. -/
theorem hbh_value_independent (h h' : Header) (hk : keys h = keys h')
    (hc : index h kConnection = index h' kConnection) : keys (removeHopByHop h) = keys (removeHopByHop h') := by
  have hr : removedKeys h = removedKeys h' := by unfold removedKeys connTokens; rw [hc]
  rw [removeHopByHop_eq_filter, removeHopByHop_eq_filter, keys_filter_key (fun k => !(removedKeys h).contains k),
    keys_filter_key (fun k => !(removedKeys h').contains k), hk, hr]

/-- Test (evaluation): `TE: trailers`, also Connection-listed, in three spellings of the value, does
not reach the other side of the request stack; nor do the other fixed headers with real-world values. -/
theorem realistic_values_removed :
    let env : Env := ⟨1, 1, strBytes "martian", strBytes "00", strBytes "http", strBytes "h", strBytes "http://h/", strBytes "192.0.2.1:4711"⟩
    keys (stackReq env [(strBytes "Te", [strBytes "trailers"])]).1.hdr = [kXFProto, kXFHost, kXFUrl, kXFF, kVia] ∧
    keys (stackReq env [(kConnection, [strBytes "TE"]), (strBytes "Te", [strBytes "deflate, Trailers", strBytes "TRAILERS"])]).1.hdr =
      [kXFProto, kXFHost, kXFUrl, kXFF, kVia] ∧
    keys (removeHopByHop [(strBytes "Upgrade", [strBytes "websocket"]), (strBytes "Proxy-Connection", [strBytes "keep-alive"]),
      (strBytes "Keep-Alive", [strBytes "timeout=5, max=100"]), (strBytes "Trailer", [strBytes "X-Foo"]),
      (strBytes "Proxy-Authorization", [strBytes "Basic dXNlcjpwYXNz"]), (kTE, [strBytes "gzip, chunked"])]) = [] := by
  decide +kernel

/-- STATUS-INDEPENDENT: on the response side hop-by-hop removal happens for EVERY status code
(101 Switching Protocols, 1xx, 204, 304, 407, 426, 5xx, unassigned codes alike) — the modifier alone and
the stack with or without a loop: the header that comes out is `removeHopByHop` of the header that
went in, whatever the status, the status itself is untouched by the hop-by-hop modifier, and no
removed key survives. -/
theorem response_hop_by_hop_any_status (st : Nat) (key : Bool) (h : Header) :
    (hbhRes key { hdr := h, status := st }).1 = { hdr := removeHopByHop h, status := st } ∧
    (stackRes key { hdr := h, status := st }).1.hdr = removeHopByHop h ∧
    (∀ k ∈ removedKeys h, k ∉ keys (stackRes key { hdr := h, status := st }).1.hdr) ∧
    (∀ st', (stackRes key { hdr := h, status := st' }).1.hdr = (stackRes key { hdr := h, status := st }).1.hdr) := by
  refine ⟨rfl, stackRes_hdr _ _, fun k hk => ?_, fun st' => by rw [stackRes_hdr, stackRes_hdr]⟩
  rw [stackRes_hdr]
  exact removed_not_in_keys hk

/-- Test (evaluation): a `101 Switching Protocols` response loses `Connection`, `Upgrade`, `Keep-Alive`
and the Connection-named `Sec-Websocket-Accept`; `Etag` stays. -/
example : keys (stackRes false { hdr := [(kConnection, [strBytes "Upgrade, Sec-WebSocket-Accept"]), (strBytes "Upgrade", [strBytes "websocket"]),
    (strBytes "Sec-Websocket-Accept", [strBytes "x"]), (strBytes "Keep-Alive", [strBytes "timeout=5"]), (strBytes "Etag", [strBytes "e"])], status := 101 }).1.hdr
    = [strBytes "Etag"] := by decide +kernel

/-- `ParsedKeys` is satisfiable by a header with oddly cased Connection tokens. -/
example : ParsedKeys [(kConnection, [strBytes " KEEP-alive ,x-CUSTOM"]), (strBytes "X-Custom", [strBytes "1"]), (strBytes "Keep-Alive", [strBytes "timeout=5"])] := by
  intro k hk
  revert k
  decide +kernel

end Martian.Props.C14
