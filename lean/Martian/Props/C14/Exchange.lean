import Martian.Lemmas.HttpSpec
/-!
C14, group "one exchange through a proxy using the stack" (`exchange` = `Proxy.handle` around
`stackReq` / `stackRes`): what the origin is handed and how often it is contacted, what the client
gets. The harness compares the same record with a real `martian.Proxy` (op `e2e`).
-/
namespace Martian.Props.C14
open Martian Martian.Go Martian.Go.Header Martian.HttpSpec

/-- The origin is contacted at most once, and exactly when the request side did not skip the
round trip; what it is handed is the header the request side produced. -/
theorem exchange_calls (env : Env) (h : Header) (st : Nat) (oh : Header) :
    (exchange env h st oh).calls = (if (stackReq env h).1.skip then 0 else 1) ∧
    (exchange env h st oh).seen = (stackReq env h).1.hdr ∧
    (exchange env h st oh).reqErrs = (stackReq env h).2 := by
  rw [exchange_eq]
  cases (stackReq env h).1.skip <;> simp

/-- A request whose Via chain (not Connection-listed) names this instance is never sent upstream
and the client is answered 400 — whatever the origin would have said and whatever else is wrong
with the request. -/
theorem exchange_loop_never_upstream_400 (env : Env) (h : Header) (st : Nat) (oh : Header)
    (hv : kVia ∉ removedKeys h) (hn : hasLoop (join (index h kVia) commaSp) (tag env) = true) :
    (exchange env h st oh).calls = 0 ∧ (exchange env h st oh).status = 400 ∧
    Err.loop ∈ (exchange env h st oh).reqErrs ∧ (exchange env h st oh).resErrs = [.loop] := by
  have hpv : hasLoop (join (index (preVia env h) kVia) commaSp) (tag env) = true := by
    rw [preVia_index_kVia, if_neg hv]; exact hn
  rcases stackReq_cases env h with ⟨_, hr⟩ | ⟨hl, _⟩
  · rw [exchange_eq, hr]
    simp
  · rw [hpv] at hl; exact Bool.noConfusion hl

/-- A request in which no loop is seen goes upstream exactly once, and the client gets the
origin's status with the origin's header minus its hop-by-hop headers, everything else untouched. -/
theorem exchange_forwarded (env : Env) (h : Header) (st : Nat) (oh : Header)
    (hn : hasLoop (join (index (preVia env h) kVia) commaSp) (tag env) = false) :
    (exchange env h st oh).calls = 1 ∧ (exchange env h st oh).status = st ∧
    (exchange env h st oh).resHdr = removeHopByHop oh ∧ (exchange env h st oh).resErrs = [] ∧
    index (exchange env h st oh).seen kVia = [viaLine env (index (preVia env h) kVia)] := by
  rcases stackReq_cases env h with ⟨hl, _⟩ | ⟨_, hr⟩
  · rw [hn] at hl; exact Bool.noConfusion hl
  · rw [exchange_eq, hr]
    simp [index_set, canon_kVia]

/-- The header the client gets: the hop-by-hop-free part of the origin's header, or of the empty
header of the synthesised response when the round trip was skipped. -/
theorem exchange_resHdr (env : Env) (h : Header) (st : Nat) (oh : Header) :
    (exchange env h st oh).resHdr = removeHopByHop (if (stackReq env h).1.skip then [] else oh) := by
  rw [exchange_eq]
  cases (stackReq env h).1.skip <;> simp

/-- Whatever happens to the request, the client never gets a hop-by-hop header of the origin's
response (fixed or named in the response's own Connection header), and on a forwarded exchange every
other header of the response reaches it untouched. -/
theorem exchange_response_no_hop_by_hop (env : Env) (h : Header) (st : Nat) (oh : Header) :
    (∀ k ∈ removedKeys oh, k ∉ keys (exchange env h st oh).resHdr) ∧
    ((exchange env h st oh).calls = 1 → ∀ k, k ∉ removedKeys oh → index (exchange env h st oh).resHdr k = index oh k) := by
  rw [exchange_eq]
  split <;> dsimp only
  · -- skipped: the synthesised response has no header, and no call was made
    refine ⟨fun k _ hm => ?_, fun h1 => ?_⟩
    · exact List.not_mem_nil (mem_keys_removeHopByHop.mp hm).1
    · exact absurd h1 (by decide)
  · refine ⟨fun k hk => removed_not_in_keys hk, fun _ k hk => ?_⟩
    rw [index_removeHopByHop, if_neg hk]

def exEnv : Env :=
  { major := 1, minor := 1, name := strBytes "martian", boundary := strBytes "00", scheme := strBytes "http",
    host := strBytes "example.com", url := strBytes "http://example.com/", remote := strBytes "192.0.2.1:4711" }
def exLoop : Header := [(kCL, [strBytes "5", strBytes "6"]), (kVia, [strBytes "1.1 martian-00"])]
def exPlain : Header := [(kVia, [strBytes "1.1 fred"])]
def exOrigin : Header := [(kConnection, [strBytes "close"]), (strBytes "Etag", [strBytes "x"])]

/-- Test (evaluation): the loop witness with a framing error on top is stopped; a plain request is
forwarded and the hypotheses of `exchange_loop_never_upstream_400` and `exchange_forwarded` are satisfiable. -/
example :
    (exchange exEnv exLoop 200 []).calls = 0 ∧ (exchange exEnv exLoop 200 []).status = 400 ∧
    kVia ∉ removedKeys exLoop ∧ hasLoop (join (index exLoop kVia) commaSp) (tag exEnv) = true ∧
    (exchange exEnv exPlain 404 exOrigin).calls = 1 ∧ (exchange exEnv exPlain 404 exOrigin).status = 404 ∧
    keys (exchange exEnv exPlain 404 exOrigin).resHdr = [strBytes "Etag"] ∧
    hasLoop (join (index (preVia exEnv exPlain) kVia) commaSp) (tag exEnv) = false := by
  decide +kernel

end Martian.Props.C14
