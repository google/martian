import Martian.Lemmas.HttpSpec
/-!
C14, group "on re-split elements": the "appended after any existing ones" clauses of Via and
X-Forwarded-For stated on the comma-separated ELEMENTS of the written line (what a downstream
parser sees), not only on the joined line; idempotence of hop-by-hop removal.
-/
namespace Martian.Props.C14
open Martian Martian.Go Martian.Go.Header Martian.HttpSpec

/-- Via, on elements: the forwarded request's single Via line splits into the elements of the
chain the via modifier saw followed by exactly ONE element, this proxy's entry. `hc` holds whenever
the proxy's name and boundary contain no comma (`viaEntry_no_comma`). -/
theorem via_elements_appended_last (env : Env) (old : List Bytes) (hc : comma ∉ viaEntry env) :
    split (viaLine env old) comma =
      if join old commaSp = [] then [viaEntry env] else split (join old commaSp) comma ++ [32 :: viaEntry env] :=
  appended_elements _ _ hc

/-- X-Forwarded-For, on elements: the existing elements, then exactly one: the client address. -/
theorem xff_elements_appended_last (env : Env) (old : List Bytes) (hc : comma ∉ clientOf env.remote) :
    split (xffLine env old) comma =
      if join old commaSp = [] then [clientOf env.remote] else split (join old commaSp) comma ++ [32 :: clientOf env.remote] :=
  appended_elements _ _ hc

/-- Hop-by-hop removal is idempotent: a second pass (a second compliant hop) changes nothing. -/
theorem hbh_idempotent (h : Header) : removeHopByHop (removeHopByHop h) = removeHopByHop h := by
  have hconn : index (removeHopByHop h) kConnection = [] := by
    rw [index_removeHopByHop, if_pos (fixed_mem_removedKeys h (by decide +kernel))]
  have hrk : removedKeys (removeHopByHop h) = fixedList.map canonKey := by
    simp [removedKeys, connTokens, hconn]
  rw [removeHopByHop_eq_filter (removeHopByHop h), hrk]
  apply List.filter_eq_self.mpr
  intro e he
  have hk : e.1 ∈ keys (removeHopByHop h) := List.mem_map_of_mem he
  have : e.1 ∉ fixedList.map canonKey := fun hm => removed_not_in_keys (fixed_mem_removedKeys h hm) hk
  simpa using this

/-- The hypotheses are satisfiable; the element view on a concrete chain. -/
example :
    let env : Env := ⟨1, 1, strBytes "martian", strBytes "00", strBytes "http", strBytes "h", strBytes "http://h/", strBytes "192.0.2.1:4711"⟩
    comma ∉ viaEntry env ∧ comma ∉ clientOf env.remote ∧
    split (viaLine env [strBytes "1.0 fred", strBytes "1.1 p"]) comma = [strBytes "1.0 fred", strBytes " 1.1 p", strBytes " 1.1 martian-00"] := by
  decide +kernel

end Martian.Props.C14
