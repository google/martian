import Martian.Lemmas.H2Hpack
import Martian.Generated.H2Relay
/-!
C09 — "for any history of SETTINGS (initial window size, maximum frame size) …": a SETTINGS
frame is a LIST of (identifier, value) pairs. An identifier may occur several times; the endpoint
that sent the frame has the LAST value of each identifier in force afterwards (RFC 7540 6.5.3: the
values are processed in the order they appear, with no other frame processing in between).
-/
namespace Martian.Props.C09
open Martian Martian.H2Relay Martian.H2Hpack

/-- The three settings the relay acts on, as the endpoint that advertises them has them in force. -/
structure RecvView where
  initWin : Nat := 65535
  maxFrame : Nat := 16384
  tableSize : Nat := 4096
deriving DecidableEq, Repr

/-- RFC 7540 6.5.3 at the endpoint that sent the frame: the values in order, each overwriting. -/
def RecvView.apply (v : RecvView) : List (Nat × Nat) → RecvView
  | [] => v
  | (id, x) :: rest =>
    RecvView.apply (if id = 4 then { v with initWin := x }
                    else if id = 5 then { v with maxFrame := x }
                    else if id = 1 then { v with tableSize := x } else v) rest

/-- What the relay of direction `p` (sending TO the endpoint in question) works with. -/
def relayView (s : Sys) (p : Dir) : RecvView :=
  ⟨(s.relay p).initWin, (s.relay p).maxFrame, (s.hp p).enc.maxSize⟩

private theorem apply_cons (v : RecvView) (id x : Nat) (rest : List (Nat × Nat)) :
    v.apply ((id, x) :: rest) =
      RecvView.apply ⟨if id = 4 then x else v.initWin, if id = 5 then x else v.maxFrame,
        if id = 1 then x else v.tableSize⟩ rest := by
  rw [RecvView.apply]
  congr 1
  by_cases h4 : id = 4
  · subst h4; simp
  · by_cases h5 : id = 5
    · subst h5; simp
    · by_cases h1 : id = 1
      · subst h1; simp
      · simp [h4, h5, h1]

/-- **Last wins**, per identifier. -/
theorem settings_last_wins (v : RecvView) (kvs : List (Nat × Nat)) :
    (v.apply kvs).initWin = (lastOf 4 kvs).getD v.initWin ∧
    (v.apply kvs).maxFrame = (lastOf 5 kvs).getD v.maxFrame ∧
    (v.apply kvs).tableSize = (lastOf 1 kvs).getD v.tableSize := by
  induction kvs generalizing v with
  | nil => exact ⟨rfl, rfl, rfl⟩
  | cons kv rest ih =>
    obtain ⟨id, x⟩ := kv
    rw [apply_cons]
    simp only [lastOf_getD_cons]
    exact ih _

/-- `relayView s p` is `.of (s.inForce p)`. -/
private def RecvView.of (v : Nat × Nat × Nat × Nat) : RecvView := ⟨v.1, v.2.1, v.2.2.1⟩

private theorem RecvView.of_lastWins (kvs : List (Nat × Nat)) (v : Nat × Nat × Nat × Nat) :
    RecvView.of (lastWins kvs v) = (RecvView.of v).apply kvs := by
  obtain ⟨l1, l2, l3⟩ := settings_last_wins (.of v) kvs
  cases h : (RecvView.of v).apply kvs
  simp_all [RecvView.of, lastWins]

/-- **The relay applies what the receiver applies.** `s` any state, `p` the direction of the relay
that sends to the endpoint whose SETTINGS frame `kvs` is being processed (by the relay of the
opposite direction), `order` any map iteration order of the pass it triggers. The header table size
values are 32-bit (`≤` the encoder's limit, which `newRelay` sets to `math.MaxUint32`). -/
theorem settings_applied_eq_receivers (s : Sys) (p : Dir) (order : List Nat) (kvs : List (Nat × Nat))
    (hlim : ∀ kv ∈ kvs, kv.1 = 1 → kv.2 ≤ (s.hp p).enc.limit) :
    relayView (applySettings s p order kvs) p = (relayView s p).apply kvs := by
  have h := applySettings_inForce s p order kvs hlim p
  rw [if_pos rfl] at h
  exact (congrArg RecvView.of h).trans (RecvView.of_lastWins kvs _)

/-- **INITIAL_WINDOW_SIZE is applied once, with the last value.** Processing a SETTINGS frame is:
the loop (which moves no window and releases nothing), then — if the frame carries the identifier at
all — ONE `updateInitialWindowSize` with its last value (F09b repair: intermediate values are never in force at
the receiver and release nothing). -/
theorem initial_window_applied_once_with_last (s : Sys) (p : Dir) (order : List Nat) (kvs : List (Nat × Nat)) :
    ((settingsLoop s p kvs).relay p).emitted = (s.relay p).emitted ∧
    ((settingsLoop s p kvs).relay p).ob = (s.relay p).ob ∧
    ((settingsLoop s p kvs).relay p).connWin = (s.relay p).connWin ∧
    applySettings s p order kvs =
      (match lastOf 4 kvs with
       | some v => (settingsLoop s p kvs).on p (.initWin v order)
       | none => settingsLoop s p kvs) := by
  have := (settingsLoop_untouched s p kvs).1
  simp only [Prod.mk.injEq] at this
  exact ⟨this.2.1, this.2.2.1, this.2.2.2, rfl⟩

/-- INITIAL_WINDOW_SIZE 0 is in force and 5 bytes are queued. -/
def blocked : Sys :=
  (({} : Sys).on .c2s (.initWin 0 [])).on .c2s (.data 1 [1, 2, 3, 4, 5] false)

/-- Non-vacuity and the point of F09b: `[4=10, 4=1]` releases nothing (the receiver's window is 1),
`[4=1, 4=10]` releases the 5 bytes. -/
example : ((applySettings blocked .c2s [1] [(4, 10), (4, 1)]).relay .c2s).emitted = [] := by decide +kernel
example : ((applySettings blocked .c2s [1] [(4, 1), (99, 7), (4, 10)]).relay .c2s).emitted.length = 1 := by decide +kernel
example : relayView (applySettings blocked .c2s [1] [(5, 70000), (4, 10), (1, 0), (5, 20000), (4, 1), (1, 100)]) .c2s
    = ⟨1, 20000, 100⟩ := by decide +kernel

/-- The SETTINGS frames (not acknowledgements) read by the relay of direction `d`, i.e. sent by the
endpoint that the relay of direction `d.peer` sends to. -/
def settingsRead (d : Dir) : List Ev → List (List (Nat × Nat))
  | [] => []
  | e :: es =>
    (match e.f with
     | .settings kvs => if e.d = d then [kvs] else []
     | _ => []) ++ settingsRead d es

def tableSizesOk : List Ev → Prop
  | [] => True
  | e :: es =>
    (match e.f with
     | .settings kvs => ∀ kv ∈ kvs, kv.1 = 1 → kv.2 ≤ 4294967295
     | _ => True) ∧ tableSizesOk es

/-- The receiver's view after it sent frame `f`. -/
def RecvView.afterFrame (v : RecvView) : Frame → RecvView
  | .settings kvs => v.apply kvs
  | _ => v

private theorem settingsRead_foldl_cons (p : Dir) (e : Ev) (es : List Ev) (v : RecvView) :
    (settingsRead p.peer (e :: es)).foldl RecvView.apply v =
      (settingsRead p.peer es).foldl RecvView.apply (if p = e.d.peer then v.afterFrame e.f else v) := by
  rw [settingsRead, List.foldl_append]
  congr 1
  have : (e.d = p.peer) = (p = e.d.peer) := by cases p <;> cases e.d <;> simp [Dir.peer]
  cases e.f with
  | settings kvs => simp only [RecvView.afterFrame, this]; split <;> rfl
  | _ => exact (ite_self _).symm

private theorem runSys_view {evs : List Ev} {s s' : Sys} (h : runSys s evs = some s') (hok : tableSizesOk evs)
    (hl : ∀ q, (s.hp q).enc.limit = 4294967295) (p : Dir) :
    relayView s' p = (settingsRead p.peer evs).foldl RecvView.apply (relayView s p) := by
  induction evs generalizing s with
  | nil => cases h; rfl
  | cons e es ih =>
    rw [runSys] at h
    split at h
    · cases h
    · rename_i s1 hs
      have step := sysStep_inForce hs (fun kvs hk => by have := hok.1; rw [hk] at this; rw [hl]; exact this)
      have hl1 : ∀ q, (s1.inForce q).2.2.2 = (s.inForce q).2.2.2 := fun q => by
        rw [step q]; split
        · split <;> rfl
        · rfl
      rw [ih h hok.2 (fun q => (hl1 q).trans (hl q)), settingsRead_foldl_cons]
      congr 1
      show RecvView.of (s1.inForce p) = _
      rw [step p]
      cases e.f with
      | settings kvs =>
        dsimp only [RecvView.afterFrame]
        split
        · exact RecvView.of_lastWins kvs _
        · rfl
      | _ => exact (ite_self _).symm

/-- **History.** After ANY sequence of frames read by the two relays (both directions interleaved,
any implementation choices), the relay that sends to an endpoint works with exactly what that
endpoint has in force: the fold, frame by frame and value by value, of all SETTINGS frames it has
sent so far — `p.peer` is the direction in which those frames travel. -/
theorem settings_history_eq_receivers (evs : List Ev) (s' : Sys) (hrun : runSys {} evs = some s')
    (hok : tableSizesOk evs) (p : Dir) :
    relayView s' p = (settingsRead p.peer evs).foldl RecvView.apply {} := by
  have h0 : relayView {} p = {} := by cases p <;> rfl
  exact h0 ▸ runSys_view hrun hok (by intro q; cases q <;> rfl) p

/-- Non-vacuity: a history over both directions with two SETTINGS frames from the server, one with
duplicates; the client-to-server relay ends with the last values. -/
def sampleEvs : List Ev :=
  [⟨.s2c, .settings [(4, 100), (5, 20000), (4, 7)], [], []⟩, ⟨.c2s, .data 1 false [1, 2, 3] none, [], []⟩,
   ⟨.c2s, .settings [(4, 9)], [], []⟩, ⟨.s2c, .settings [(1, 0), (99, 3), (1, 256)], [], [1]⟩]

example : (runSys {} sampleEvs).map (fun s => (relayView s .c2s, relayView s .s2c)) =
    some (⟨7, 20000, 256⟩, ⟨9, 16384, 4096⟩) := by decide +kernel

/-! ### Facts regenerated from `/repo` on every run (`go/cmd/vextract/facts_c08.go`) -/

/-- How the relay reads a SETTINGS frame is how `settingsLoop` / `applySettings` read it: it iterates
over the frame in order (`ForeachSetting`; never `SettingsFrame.Value`, which returns the FIRST
value of an identifier); HEADER_TABLE_SIZE and MAX_FRAME_SIZE are handed to the peer relay inside
the loop (mode 1 = every value, in order), INITIAL_WINDOW_SIZE once after the loop with the value
the loop stored last (mode 2). -/
theorem facts_settings_read_modes :
    Generated.H2Relay.settingsIteratedInOrder = true ∧ Generated.H2Relay.tableSizeReadMode = 1 ∧
    Generated.H2Relay.maxFrameReadMode = 1 ∧ Generated.H2Relay.initialWindowReadMode = 2 := by
  decide +kernel

/-- `updateWindow` obtains the stream's buffer through the creating accessor `relay.outputBuffer`
(so a WINDOW_UPDATE that arrives before the first frame of the stream is not lost: `getOB` in
`rstep`), and the connection-level branch falls through to it (`sid = 0` included). -/
theorem facts_window_update_creates_buffer :
    Generated.H2Relay.windowUpdateCreatesBuffer = true ∧ Generated.H2Relay.connWindowUpdateFallsThrough = true := by
  decide +kernel

end Martian.Props.C09
