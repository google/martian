import Martian.Lemmas.Shutdown
/-!
C07 — CONNECT tunnels, MITM'd tunnels, HTTP/2 sessions and hijacked connections under shutdown.

What `Close()` waits for: every counted handler, whatever it is doing — an open blind tunnel (until BOTH
peers are done: the proxy never tears a tunnel down, `closing` is not consulted by the pumps), the first
byte / the TLS handshake of a MITM'd tunnel (until the client moves or the idle deadline `p.timeout`
fires), a hijacker (until the modifier returns). An HTTP/2 session is handed the closing channel and
ends by itself. Inside a MITM'd tunnel the decrypted connection is served by the same loop (`handle`,
`readRequest` selecting on `closing`), so every clause about where in an exchange shutdown arrives applies to it
verbatim — all theorems of `Props/C07.lean` quantify over all handlers and all schedules of this model.

Reading of the statement: `Close()` blocking while a tunnel is open is NOT the deadlock the statement
excludes — some move of a tunnel peer is enabled, the statement itself demands that shutdown return only
after every accepted connection has been closed, and it puts no bound on how long peers may take.
-/
namespace Martian.Props.C07
open Martian.Shutdown

/-- A handler that waits for a peer (open blind tunnel, first tunnel byte, TLS handshake, rest of a request
body) has no move of its own: every enabled move of it is a move of the peer, and is enabled or not regardless
of the shutdown state (`closing`, `connsMu`, `Close` returned). -/
theorem peer_blocked_handler_moves_only_by_its_peer {c m r : Bool} {h h' : Handler} {l : HL}
    (hp : h.pc.peerBlocked = true) (hs : hstep c m r h l = some h') :
    (Label.h 0 l).peerMove = true ∧ (Label.h 0 l).internal = false ∧
      ∀ c' m' r', hstep c' m' r' h l = some h' := by
  have st := hstep_eq_some_iff.mp hs
  rcases st.edge.peerBlocked hp with rfl | ⟨tls, rfl⟩ | ⟨r, rfl⟩ | rfl
  all_goals exact ⟨rfl, rfl, st.indep rfl⟩

/-- An open blind tunnel is left only when both of its peers are done (`tunnelEnd`); the handler then
closes the client connection. -/
theorem tunnel_ends_only_by_its_peers {c m r : Bool} {h h' : Handler} {l : HL}
    (hp : h.pc = .tunnel) (hs : hstep c m r h l = some h') :
    l = .tunnelEnd ∧ h' = { h with pc := .closingConn } := by
  have st := hstep_eq_some_iff.mp hs
  obtain ⟨_, e⟩ := st.edge_from hp
  cases e
  cases st with
  | tunnelEnd => exact ⟨rfl, rfl⟩

/-- `Close()` cannot pass `conns.Wait()` while any handler is counted — in particular while a blind
tunnel is open, a MITM'd tunnel is waiting for its client, an HTTP/2 session runs or a hijacker has not
returned. -/
theorem close_waits_for_every_counted_handler {s : Sys} {k : Nat} {h : Handler} (hr : Reachable s)
    (hk : s.hs[k]? = some h) (hc : h.pc.counted = true) : step s .waitZero = none := by
  have g := reachable_good hr
  have hpos := cnt_pos hk hc
  have : s.wg ≠ 0 := by rw [g.wg]; omega
  simp [step, this]

/-- When `Close()` returns no tunnel is open, no MITM'd tunnel is pending, no HTTP/2 session runs and
no CONNECT is in flight. -/
theorem close_returns_after_tunnels_ended {s s' : Sys} (hr : Reachable s) (hs : step s .ret = some s') :
    ∀ h ∈ s'.hs, h.pc.peerBlocked = false ∧ h.pc ≠ .h2session ∧ h.pc ≠ .dialing ∧ h.pc ≠ .cwriting := by
  cases step_eq_some_iff.mp hs with
  | ret hc =>
    intro h hm
    rcases Pc.counted_eq_false_iff.mp (((reachable_good hr).hok h hm).zero hc) with hp | hp | hp <;>
      rw [hp] <;> exact ⟨rfl, nofun, nofun, nofun⟩

/-- An HTTP/2 session ends by itself once shutdown is signalled (`h2Stop` is a move of the proxy, enabled
as soon as `closing` is closed); the handler is then back in `readRequest` (a readable point), where
`C07.shutdown_while_reading_closes` applies: the `closing` arm is enabled and the connection is closed
without any further exchange. -/
theorem h2_session_ends_on_shutdown {s : Sys} {k : Nat} {h : Handler}
    (hc : s.closing = true) (hk : s.hs[k]? = some h) (hp : h.pc = .h2session) :
    (Label.h k .h2Stop).internal = true ∧
    ∃ s1, step s (.h k .h2Stop) = some s1 ∧ s1.closing = true ∧ s1.wg = s.wg ∧ s1.cpc = s.cpc ∧
      s1.hs = s.hs.set k { h with pc := .idleRead } ∧ Pc.readable .idleRead = true := by
  exact ⟨rfl, _, step_eq_some_iff.mpr (.h hk nofun (.h2Stop ⟨hp, hc⟩)), hc, rfl, rfl, rfl, rfl⟩

/-- A modifier that hijacks the connection ends the exchange without a response from the proxy: when it
returns the handler closes the connection. Until then the handler is counted, so `Close()` waits for the
hijacker (`close_waits_for_every_counted_handler`). -/
theorem hijacked_exchange_gets_no_response {c m r : Bool} {h h' : Handler}
    (hs : hstep c m r h .hijack = some h') :
    (h.pc = .inReqmod ∨ h.pc = .inResmod) ∧ h'.pc = .closingConn ∧ h'.completed = h.completed ∧
      h'.hijacked = h.hijacked + 1 ∧ h'.marks = h.marks := by
  cases hstep_eq_some_iff.mp hs with
  | hijack hp => exact ⟨hp, rfl, rfl, rfl, rfl⟩

/-- The response to a CONNECT is completely written before the tunnel (or the MITM'd session) starts,
and it is the proxy's own move; afterwards the handler is in the tunnel, waiting for the first byte of
the MITM'd tunnel, or (502) back in the serving loop. -/
theorem connect_response_precedes_tunnel {c m r : Bool} {h h' : Handler}
    (hs : hstep c m r h .cwriteEnd = some h') :
    h.pc = .cwriting ∧ h'.completed = h.completed + 1 ∧ h'.cresps = h.cresps + 1 ∧ h'.marks = h.marks ∧
      (h'.pc = .tunnel ∨ h'.pc = .mitmPeek ∨ h'.pc = .idleRead) ∧ (Label.h 0 .cwriteEnd).internal = true := by
  cases hstep_eq_some_iff.mp hs with
  | cwriteEnd hp =>
    refine ⟨hp, rfl, rfl, rfl, ?_, rfl⟩
    show (match h.conn with | .dialOk => Pc.tunnel | .mitm => .mitmPeek | _ => .idleRead) = _ ∨ _
    cases h.conn <;> simp

/-- After a successful HTTP/1 handshake of a MITM'd tunnel the handler is in the ordinary serving loop
(`readRequest` on the decrypted connection), like any other connection. -/
theorem mitm_tunnel_is_served_by_the_ordinary_loop {c m r : Bool} {h h' : Handler}
    (hs : hstep c m r h (.handshakeEnd .h1) = some h') :
    h.pc = .mitmHandshake ∧ h'.pc = .idleRead ∧ h'.secure = true ∧ h'.pc.readable = true := by
  cases hstep_eq_some_iff.mp hs with
  | handshakeEnd _ hp => exact ⟨hp, rfl, rfl, rfl⟩

/-- `Close()` blocks on an open blind tunnel and returns once its peers are done. -/
theorem close_blocks_on_open_tunnel_witness :
    ∃ s, run init
      [.serveCheck, .accept, .h 0 .spawn, .h 0 .add, .h 0 .checkClosing, .h 0 .gotConnect, .h 0 .reqmodStart,
       .h 0 .reqmodEnd, .h 0 .dialStart, .h 0 (.dialEnd true), .h 0 .resmodStart, .h 0 .resmodEnd,
       .h 0 .cwriteStart, .h 0 .cwriteEnd, .closeCall, .closeChan, .lock] = some s ∧
      (∃ h, s.hs[0]? = some h ∧ h.pc = .tunnel ∧ h.started = 1 ∧ h.completed = 1) ∧
      step s .waitZero = none ∧
      (∀ l, (step s (.h 0 l)).isSome = true → l = .tunnelEnd) ∧
      ∃ s', run s [.h 0 .tunnelEnd, .h 0 .closeConn, .h 0 .finish, .waitZero, .ret] = some s' ∧
        Final s' ∧ s'.returnedEarly = false := by
  refine ⟨_, rfl, ⟨_, rfl, rfl, rfl, rfl⟩, rfl, ?_, _, rfl, ⟨rfl, ?_⟩, rfl⟩
  · intro l hl
    obtain ⟨s', hs'⟩ := Option.isSome_iff_exists.mp hl
    cases step_eq_some_iff.mp hs' with
    | h hk _ st =>
      cases hk
      exact (tunnel_ends_only_by_its_peers rfl (hstep_eq_some_iff.mpr st)).1
  · decide

/-- A CONNECT in flight when shutdown begins still opens its tunnel: the CONNECT path does not consult
`closing`; `Close()` then waits for that tunnel's peers. -/
theorem tunnel_can_open_during_shutdown_witness :
    ∃ s, run init
      [.serveCheck, .accept, .h 0 .spawn, .h 0 .add, .h 0 .checkClosing, .h 0 .gotConnect, .h 0 .reqmodStart,
       .closeCall, .closeChan, .lock,
       .h 0 .reqmodEnd, .h 0 .dialStart, .h 0 (.dialEnd true), .h 0 .resmodStart, .h 0 .resmodEnd,
       .h 0 .cwriteStart, .h 0 .cwriteEnd] = some s ∧
      s.closing = true ∧ (∃ h, s.hs[0]? = some h ∧ h.pc = .tunnel) ∧ step s .waitZero = none :=
  ⟨_, rfl, rfl, ⟨_, rfl, rfl⟩, rfl⟩

/-- Shutdown while a request inside a MITM'd tunnel is parked in the request modifier: the response is
complete and marked, the connection closed, `Close()` returns afterwards. -/
theorem mitm_exchange_during_shutdown_witness :
    ∃ s, run init
      [.serveCheck, .accept, .h 0 .spawn, .h 0 .add, .h 0 .checkClosing, .h 0 .gotConnect, .h 0 .reqmodStart,
       .h 0 .reqmodEnd, .h 0 .mitmAccept, .h 0 .resmodStart, .h 0 .resmodEnd, .h 0 .cwriteStart, .h 0 .cwriteEnd,
       .h 0 (.peeked true), .h 0 (.handshakeEnd .h1), .h 0 (.gotReq false), .h 0 .reqmodStart,
       .closeCall, .closeChan, .lock,
       .h 0 .reqmodEnd, .h 0 .rtStart, .h 0 (.rtEnd false), .h 0 .resmodStart, .h 0 .resmodEnd, .h 0 .decide,
       .h 0 .writeStart, .h 0 .writeEnd, .h 0 .closeConn, .h 0 .finish, .waitZero, .ret] = some s ∧
      Final s ∧ s.returnedEarly = false ∧
      ∃ h, s.hs[0]? = some h ∧ h.marks = [(true, false, true)] ∧ h.started = 2 ∧ h.completed = 2 ∧ h.cresps = 1 ∧
        h.secure = true := by
  refine ⟨_, rfl, ⟨rfl, ?_⟩, rfl, _, rfl, rfl, rfl, rfl, rfl, rfl⟩
  decide

end Martian.Props.C07
