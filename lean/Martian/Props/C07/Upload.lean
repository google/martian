import Martian.Lemmas.Shutdown
/-!
C07 — exchanges whose REQUEST BODY is incomplete when the response is ready (a client that
announced `Content-Length: N` and sent only part, an `Expect: 100-continue` client holding its body back, a
chunked upload paused mid-chunk). `readRequest` returns as soon as the head is parsed (`gotReqOpen`); the body
is read lazily, by whoever reads `req.Body`. `handle` itself never reads it before the response is written:
the only place is its deferred `req.Body.Close()`, which runs AFTER `res.Write`/`Flush` (`drainBody`). So the
response of such an exchange does not wait for the client, shutdown or not; what waits for the client (or for
its going away) is only the handler's return — and `Close()` with it, like for any peer-blocked handler.
-/
namespace Martian.Props.C07
open Martian.Shutdown

/-- The proxy waits for the rest of a request body only after the response has been written completely:
the only step that enters `drainBody` is `writeEnd`, which counts the response as complete. -/
theorem request_body_tail_awaited_only_after_response {c m r b : Bool} {h h' : Handler} {l : HL}
    (hs : hstep c m r h l = some h') (hp' : h'.pc = .drainBody b) :
    l = .writeEnd ∧ h'.completed = h.completed + 1 ∧ h.pc = .writing b ∧ h.bodyOpen = true := by
  have st := hstep_eq_some_iff.mp hs
  obtain ⟨rfl, hpw⟩ := st.edge.drainBody hp'
  cases st with
  | writeEnd b0 hp0 =>
    refine ⟨rfl, rfl, hpw, ?_⟩
    cases hbo : h.bodyOpen
    · simp only [hbo] at hp'; cases b0 <;> cases hp'
    · rfl

/-- An open request body does not hold up the exchange: at every point of a started exchange — request
modifier, round trip, response modifier, close decision, response write — the handler's next move is a move
of the proxy itself (a modifier, round trip or write in progress is assumed to return), enabled during shutdown,
whatever `bodyOpen` is. -/
theorem open_request_body_does_not_block_the_response {mu r : Bool} {h : Handler}
    (hp : h.pc.inExchange = true) :
    (hstep true mu r h h.next).isSome = true ∧ (Label.h 0 h.next).internal = true := by
  obtain ⟨hen, _, hmove⟩ := next_enabled (mu := mu) (r := r) (Pc.counted_of_inExchange hp)
  refine ⟨hen, (hmove 0).resolve_right fun hb => ?_⟩
  rw [Pc.not_peerBlocked_of_inExchange hp] at hb; cases hb.1

/-- The wait for the rest of the body ends only by the client (it sends the rest, or goes away): `bodyDone`
is the only move, it is not a move of the proxy, and it does not depend on the shutdown state; afterwards the
handler closes the connection (marked response) or reads the next request. -/
theorem body_drain_ends_only_by_the_client {c m r b : Bool} {h h' : Handler} {l : HL}
    (hp : h.pc = .drainBody b) (hs : hstep c m r h l = some h') :
    l = .bodyDone ∧ (Label.h 0 l).internal = false ∧ (Label.h 0 l).peerMove = true ∧
      h'.pc = (if b then .closingConn else .idleRead) ∧ h'.completed = h.completed ∧
      ∀ c' m' r', hstep c' m' r' h l = some h' := by
  have st := hstep_eq_some_iff.mp hs
  have hl : l = .bodyDone := by
    obtain ⟨_, e⟩ := st.edge_from hp
    cases e <;> rfl
  subst hl
  have hi := st.indep rfl
  cases st with
  | bodyDone b0 hp0 =>
    rw [hp] at hp0; cases hp0
    exact ⟨rfl, rfl, rfl, rfl, rfl, hi⟩

/-- Test on a concrete schedule: an `Expect: 100-continue` exchange parked in the response modifier when
`Close` is called — the response is written completely and marked close while the body is still held back;
`Close` then waits (`waitZero` disabled) until the client, having its response, goes away. -/
theorem open_body_exchange_during_shutdown_witness :
    ∃ s, run init
      [.serveCheck, .accept, .h 0 .spawn, .h 0 .add, .h 0 .checkClosing, .h 0 (.gotReqOpen false), .h 0 .reqmodStart,
       .h 0 .reqmodEnd, .h 0 .rtStart, .h 0 (.rtEnd false), .h 0 .resmodStart, .closeCall, .closeChan, .lock,
       .h 0 .resmodEnd, .h 0 .decide, .h 0 .writeStart, .h 0 .writeEnd] = some s ∧
      (∃ h, s.hs[0]? = some h ∧ h.pc = .drainBody true ∧ h.marks = [(true, false, true)] ∧ h.completed = 1) ∧
      step s .waitZero = none ∧
      ∃ s', run s [.h 0 .bodyDone, .h 0 .closeConn, .h 0 .finish, .waitZero, .ret] = some s' ∧
        Final s' ∧ s'.returnedEarly = false := by
  refine ⟨_, rfl, ⟨_, rfl, rfl, rfl, rfl⟩, rfl, _, rfl, ⟨rfl, ?_⟩, rfl⟩
  decide

end Martian.Props.C07
