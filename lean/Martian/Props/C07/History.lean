import Martian.Lemmas.Shutdown
/-!
C07 — histories. A schedule may contain any number of earlier connection lifecycles (connections
accepted, served and closed before the ones that are open when `Close` is called): the model keeps them in
`hs` with `pc = done`. When `Close` may pass `conns.Wait()` depends only on the handlers counted NOW — the wait
group has no memory of connections that came and went (an implementation that signals "drained" through a
token left behind by an earlier last-connection-out does).
-/
namespace Martian.Props.C07
open Martian.Shutdown

/-- `Close` may pass `conns.Wait()` exactly when it holds `connsMu` and no handler is counted at this moment. -/
theorem close_may_pass_iff_no_counted_handler {s : Sys} (hr : Reachable s) :
    (step s .waitZero).isSome = true ↔ (s.cpc = .locked ∧ ∀ h ∈ s.hs, h.pc.counted = false) := by
  have g := reachable_good hr
  constructor
  · intro h
    obtain ⟨s', hs⟩ := Option.isSome_iff_exists.mp h
    cases step_eq_some_iff.mp hs with
    | waitZero hc => exact ⟨hc.1, cnt_eq_zero.mp (g.wg ▸ hc.2)⟩
  · intro ⟨hc, hn⟩
    rw [step_eq_some_iff.mpr (.waitZero ⟨hc, g.wg.trans (cnt_eq_zero.mpr hn)⟩)]; rfl

/-- The wait-group counter is the number of counted handlers among the connections that are not finished:
connections that were opened and completely closed earlier (`done`) contribute nothing, however many there
were and whatever they did. -/
theorem finished_connections_do_not_count {s : Sys} (hr : Reachable s) :
    s.wg = cnt (s.hs.filter (fun h => h.pc != .done)) := by
  have g := reachable_good hr
  rw [g.wg]
  simp only [cnt, List.countP_filter]
  apply List.countP_congr
  intro h _
  cases hp : h.pc <;> simp [Pc.counted]

/-- Test on a concrete schedule: a connection is opened, serves one exchange and is closed (the counter is back
to 0); then a second connection is parked in its round trip when `Close` is called — `Close` cannot pass the
wait, and returns only after that exchange has been answered and the connection closed. -/
theorem close_after_history_witness :
    ∃ s, run init
      [.serveCheck, .accept, .h 0 .spawn, .h 0 .add, .h 0 .checkClosing, .h 0 (.gotReq false), .h 0 .reqmodStart,
       .h 0 .reqmodEnd, .h 0 .rtStart, .h 0 (.rtEnd false), .h 0 .resmodStart, .h 0 .resmodEnd, .h 0 .decide,
       .h 0 .writeStart, .h 0 .writeEnd, .h 0 .readErr, .h 0 .closeConn, .h 0 .finish,
       .serveCheck, .accept, .h 1 .spawn, .h 1 .add, .h 1 .checkClosing, .h 1 (.gotReq false), .h 1 .reqmodStart,
       .h 1 .reqmodEnd, .h 1 .rtStart, .closeCall, .closeChan, .lock] = some s ∧
      (∃ h, s.hs[0]? = some h ∧ h.pc = .done ∧ h.completed = 1) ∧ s.wg = 1 ∧ step s .waitZero = none ∧
      ∃ s', run s [.h 1 (.rtEnd false), .h 1 .resmodStart, .h 1 .resmodEnd, .h 1 .decide, .h 1 .writeStart,
                   .h 1 .writeEnd, .h 1 .closeConn, .h 1 .finish, .waitZero, .ret] = some s' ∧
        Final s' ∧ s'.returnedEarly = false := by
  refine ⟨_, rfl, ⟨_, rfl, rfl, rfl⟩, rfl, rfl, _, rfl, ⟨rfl, ?_⟩, rfl⟩
  decide

end Martian.Props.C07
