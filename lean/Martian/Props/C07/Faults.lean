import Martian.Lemmas.Shutdown
/-!
C07 — response-write failures, hijacking modifiers, further callers of `Close`.

`writeErr` is the ENVIRONMENT's label: `res.Write`/`Flush` on the client connection failed because the
client closed or reset the connection, or stalled longer than the idle timeout `p.timeout` the
application configured (the only deadline `handleLoop` puts on the connection — `deadlineKinds` in
`C07.facts_shutdown_round3`). The proxy itself has no move that abandons a response
(`C07.response_write_ends_only_complete`).
`hijack` is the application's modifier calling `Session.Hijack()`.
-/
namespace Martian.Props.C07
open Martian.Shutdown

/-- On every schedule without the labels `writeErr` and `hijack`, no response was aborted and no exchange
hijacked on any connection. -/
theorem no_fault_labels_no_faults {sched : List Label} {s : Sys} (hr : run init sched = some s)
    (hl : ∀ l ∈ sched, l.isFault = false) : ∀ h ∈ s.hs, h.aborted = 0 ∧ h.hijacked = 0 := by
  refine run_invariant (P := fun s => ∀ h ∈ s.hs, h.aborted = 0 ∧ h.hijacked = 0)
    (Q := fun l => l.isFault = false) ?_ (fun _ hm => by cases hm) hl hr
  intro s s' l hn hl hs
  refine (step_eq_some_iff.mp hs).forall_handlers hn ⟨rfl, rfl⟩ ?_
  intro k l' h h' e st h0
  subst e
  have h1 : l' ≠ .writeErr := fun e => by subst e; cases hl
  have h2 : l' ≠ .hijack := fun e => by subst e; cases hl
  obtain ⟨_, _, hhij, habo, _, _⟩ := st.counters
  rw [if_neg h1] at habo
  rw [if_neg h2] at hhij
  exact ⟨habo.trans h0.1, hhij.trans h0.2⟩

/-- Without the two fault labels the clause of the statement holds at full strength: every exchange whose request
modifier had started is either still in flight or has had its response completely written, and a handler that is
closing (or has closed) its connection has completed everything it started. -/
theorem started_exchange_completes_without_faults {sched : List Label} {s : Sys} (hr : run init sched = some s)
    (hl : ∀ l ∈ sched, l.isFault = false) :
    ∀ h ∈ s.hs, h.started = h.completed + (if h.pc.inExchange then 1 else 0) ∧
      (h.pc.winding = true → h.completed = h.started) := by
  intro h hm
  have hf := no_fault_labels_no_faults hr hl h hm
  have he := ((reachable_good ⟨sched, hr⟩).hok h hm).exch
  rw [hf.1, hf.2] at he
  refine ⟨he, fun hw => ?_⟩
  rw [Pc.not_inExchange_of_winding hw] at he
  exact he.symm

/-- A response is aborted only by the environment label `writeErr` of that very connection (which is not
a move of the proxy), an exchange is hijacked only by the label `hijack`. -/
theorem abort_only_by_client_failure {s s' : Sys} {l : Label} {k : Nat} {h h' : Handler}
    (hs : step s l = some s') (hk : s.hs[k]? = some h) (hk' : s'.hs[k]? = some h') :
    (h'.aborted ≠ h.aborted → l = .h k .writeErr ∧ l.internal = false) ∧
    (h'.hijacked ≠ h.hijacked → l = .h k .hijack) := by
  rcases (step_eq_some_iff.mp hs).getElem hk with hk2 | ⟨l', h2, rfl, st, hk2⟩ <;> rw [hk'] at hk2 <;> cases hk2
  · exact ⟨fun x => absurd rfl x, fun x => absurd rfl x⟩
  · have hc := st.counters
    constructor
    · intro hne
      by_cases e : l' = .writeErr
      · subst e; exact ⟨rfl, rfl⟩
      · rw [if_neg e] at hc; exact absurd hc.2.2.2.1 hne
    · intro hne
      by_cases e : l' = .hijack
      · subst e; rfl
      · rw [if_neg e] at hc; exact absurd hc.2.2.1 hne

/-- After a failed write, and after a hijack, the handler closes the connection (its next and only move
is `closeConn`); `Close` keeps waiting for it until it has. -/
theorem fault_is_followed_by_close {c m r : Bool} {h h' : Handler} {l : HL}
    (hl : l = .writeErr ∨ l = .hijack) (hs : hstep c m r h l = some h') :
    h'.pc = .closingConn ∧ h'.completed = h.completed ∧ h'.started = h.started ∧ h'.marks = h.marks := by
  rcases hl with e | e <;> subst e <;> cases hstep_eq_some_iff.mp hs <;> exact ⟨rfl, rfl, rfl, rfl⟩

/-! ### further callers of `Close()` (outside the statement, which speaks of one shutdown request)

The caller whose `close(p.closing)` executes first is the one tracked by `cpc`; all theorems of this
property quantify over schedules that may contain any number of further calls (`closeCall2`), so
every clause holds for the first caller regardless of the others. What happens to the others: -/

/-- Bookkeeping: every further call to `Close` is still before its `close(p.closing)` or has panicked;
none ever returns. -/
theorem further_close_calls_pend_or_panic {s : Sys} (hr : Reachable s) : s.calls2 = s.extra + s.panics := by
  obtain ⟨sched, hr⟩ := hr
  refine run_invariant (P := fun s => s.calls2 = s.extra + s.panics) (Q := fun _ => True) ?_ rfl
    (fun _ _ => trivial) hr
  intro s s' l hc _ hs
  cases step_eq_some_iff.mp hs with
  | closeCall2 => show s.calls2 + 1 = s.extra + 1 + s.panics; omega
  | closeChan2 hx => show s.calls2 = s.extra - 1 + (s.panics + 1); omega
  | _ => exact hc

/-- Once shutdown has been signalled, a pending further caller's next statement `close(p.closing)` is
enabled and panics (`close of closed channel`). -/
theorem further_close_call_panics {s : Sys} (he : 0 < s.extra) (hc : s.closing = true) :
    ∃ s', step s .closeChan2 = some s' ∧ s'.panics = s.panics + 1 ∧ s'.extra = s.extra - 1 ∧
      s'.cpc = s.cpc ∧ s'.hs = s.hs ∧ s'.wg = s.wg :=
  ⟨{ s with extra := s.extra - 1, panics := s.panics + 1 }, by simp [step, he, hc], rfl, rfl, rfl, rfl, rfl⟩

/-- Test on a concrete schedule: two concurrent `Close()` calls on an idle proxy — one returns, the
other panics. -/
theorem concurrent_close_panics_counterexample :
    ∃ s, run init [.serveCheck, .closeCall, .closeCall2, .closeChan, .closeChan2, .lock, .waitZero, .ret] = some s ∧
      s.cpc = .returned ∧ s.panics = 1 ∧ s.extra = 0 := by
  decide

/-- A panic happens only in a further caller: the panic counter moves only by `closeChan2`, which needs
a pending further call. With a single `Close` call (no `closeCall2` in the schedule) nothing panics. -/
theorem single_close_never_panics {sched : List Label} {s : Sys} (hr : run init sched = some s)
    (hl : Label.closeCall2 ∉ sched) : s.panics = 0 ∧ s.extra = 0 := by
  have h1 : s.calls2 = 0 := by
    refine run_invariant (P := fun s => s.calls2 = 0) (Q := (· ≠ .closeCall2)) ?_ rfl (fun l hm e => hl (e ▸ hm)) hr
    intro s s' l h0 hne hs
    cases step_eq_some_iff.mp hs with
    | closeCall2 => exact absurd rfl hne
    | _ => exact h0
  have h2 := further_close_calls_pend_or_panic ⟨sched, hr⟩
  omega

end Martian.Props.C07
