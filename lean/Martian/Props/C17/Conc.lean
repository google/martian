import Martian.Lemmas.HarLogApi
import Martian.Generated.HarLog
/-!
C17, "these outcomes are the same when the calls are made concurrently from many connections".

The argument has two halves.
* A FACT about har.go, re-extracted from the source on every check (`Generated.HarLog.lockTable`,
  go/cmd/vextract/facts_c17.go): on every path of every method that touches the log (`entries`,
  `tail`, `Entry.next`, `Entry.Response`), all those accesses sit in ONE critical section of
  `l.mu`; the two record methods have a path (the message error) that touches nothing.
  `facts_lock_discipline` pins it; if the source stops having that shape this file stops building.
* A THEOREM about the model (`Model/HarLogConc.lean`): the concurrent machine gives a call a
  semantics only when the table says it is atomic, and then every schedule of every set of thread
  programs runs to the end of the schedule and yields exactly the observations of ONE sequential
  history — the calls in the order in which they took the lock — which keeps every thread's
  program order and lies inside every real-time order (a call takes the lock between its
  invocation and its return).  So everything proved for sequential histories (Props/C17.lean,
  Props/C17/Faults.lean) holds for concurrent ones.
`sync.Mutex` itself (mutual exclusion) is trusted.  The harness checks the same thing on the real
code (`conc` ops: Wing–Gong search; the linearisation it finds is replayed by the Lean model).
-/
namespace Martian.Props.C17
open Martian Martian.HarLog Martian.HarLog.Conc

/-- The lock discipline of har.go as extracted from the tree under test (kernel-checked test of a
    generated table). -/
theorem facts_lock_discipline : LockOK Generated.HarLog.lockTable = true := by decide +kernel

/-- The shared state the extraction watched is the state the model's heap has. -/
theorem facts_guarded_fields :
    Generated.HarLog.guardedFields = ["Response", "entries", "next", "tail"] := rfl

/-- Under the lock discipline every call of the model is one atomic step. -/
theorem every_call_atomic (o : Op) : atomicIn Generated.HarLog.lockTable o = true :=
  atomic_of_lockOK facts_lock_discipline o

/-- Linearisability.  For all thread programs and every schedule, the concurrent execution is
    defined and (1) what the calls returned is what the list specification returns on the
    sequential history `callsOf tr` (the calls in lock order), (2) the final heap is that
    history's and represents its log, (3) each thread's calls appear in it in program order
    (what is left of the thread's program is what the schedule did not reach). -/
theorem concurrent_execution_is_sequential (progs : List Prog) (sched : List Nat) :
    ∃ cf tr, exec Generated.HarLog.lockTable ⟨init, progs⟩ sched = some (cf, tr) ∧
      tr.map (·.obs) = Spec.runT [] (callsOf tr) ∧
      Reach cf.heap (Spec.afterT [] (callsOf tr)) ∧
      ∀ i, (progs[i]?).getD [] = ofThread i tr ++ (cf.progs[i]?).getD [] :=
  exec_sequential facts_lock_discipline ⟨init, progs⟩ [] Reach_init sched

/-- The dependency on the fact is real: for ANY table, a defined execution is sequential, but
    only a table satisfying `LockOK` guarantees that the execution is defined; with a method
    that is not one critical section the machine has no semantics for its calls. -/
theorem execution_defined_iff_calls_atomic (tbl : LockTable) (h : Heap) (t : Nat) (o : Op) :
    (∃ r, exec tbl ⟨h, [[(t, o)]]⟩ [0] = some r) ↔ atomicIn tbl o = true := by
  cases ha : atomicIn tbl o <;> simp [exec, fire, ha]

/-- Real-time order: whatever instants the calls were invoked and returned at, as long as each
    call took the lock inside its own interval, a call that returned before another was invoked
    precedes it in the sequential history. -/
theorem linearisation_respects_real_time (lockedAt inv ret : Nat → Nat)
    (hin : ∀ c, inv c ≤ lockedAt c ∧ lockedAt c ≤ ret c) (c1 c2 : Nat) (h : ret c1 < inv c2) :
    lockedAt c1 < lockedAt c2 := by
  have := (hin c1).2; have := (hin c2).1; omega

/-- In every sequential history, with any tags, no list handed out names an ID twice. -/
theorem exports_never_list_an_id_twice (cs : List (Nat × Op)) (es : List Ent)
    (h : Obs.log es ∈ runT init cs) : (idsOf es).Nodup := by
  rw [(runT_refines cs init [] Reach_init).1] at h
  exact runT_logs_nodup_ids cs [] .nil es h

/-- A table in which RecordRequest goes through two critical sections is rejected. -/
theorem split_request_table_rejected :
    LockOK [("Export", 1, 1, 0, true), ("ExportAndReset", 1, 1, 0, true), ("RecordRequest", 1, 2, 0, true),
            ("RecordResponse", 0, 1, 0, true), ("Reset", 1, 1, 0, true)] = false ∧
    -- … and so is one in which the failing path of RecordResponse takes the lock (C17-D),
    LockOK [("Export", 1, 1, 0, true), ("ExportAndReset", 1, 1, 0, true), ("RecordRequest", 0, 1, 0, true),
            ("RecordResponse", 1, 1, 0, true), ("Reset", 1, 1, 0, true)] = false ∧
    -- … one with an access outside the lock, and one with a method missing.
    LockOK [("Export", 1, 1, 1, true), ("ExportAndReset", 1, 1, 0, true), ("RecordRequest", 0, 1, 0, true),
            ("RecordResponse", 0, 1, 0, true), ("Reset", 1, 1, 0, true)] = false ∧
    LockOK [("Export", 1, 1, 0, true), ("ExportAndReset", 1, 1, 0, true), ("RecordRequest", 0, 1, 0, true),
            ("RecordResponse", 0, 1, 0, true)] = false := by decide +kernel

/-- Duplicate check and insertion in two critical sections: two threads recording the same ID
    both pass the check and both insert; Export then lists the ID twice. -/
theorem split_request_accepts_duplicate :
    SplitRequest.race "a" = (false, false, .log [⟨"a", 0, none⟩, ⟨"a", 1, none⟩]) := by decide +kernel

/-- … which no sequential history of the real (one-section) methods can produce: the split
    method is not linearisable. -/
theorem split_request_not_linearisable (cs : List (Nat × Op)) :
    (SplitRequest.race "a").2.2 ∉ runT init cs := by
  rw [split_request_accepts_duplicate]
  intro h
  have := exports_never_list_an_id_twice cs _ h
  simp [idsOf] at this

/-- Every `ServeHTTP` of package har makes at most one call of a log method per execution, the
    export handler answers with the result of `Export`, the reset handler with the result of
    `ExportAndReset` (regenerated; kernel-checked test of the generated table).  So a handler call
    is the same atomic step as the method it wraps, and `concurrent_execution_is_sequential` covers
    histories that mix handler calls with direct calls. -/
theorem facts_handler_discipline : HandlersOK Generated.HarLog.handlerTable = true := by decide +kernel

/-- The shape of C17-H (answer from an Export snapshot, clear with a second call) is rejected. -/
theorem split_reset_handler_table_rejected :
    HandlersOK [("exportHandler", 0, 1, ["Export"]), ("resetHandler", 0, 2, ["Export"])] = false ∧
    HandlersOK [("exportHandler", 0, 1, ["Export"]), ("resetHandler", 0, 1, ["Export"])] = false := by decide +kernel

/-- … and this is what it does: the request was accepted, its response recorded, no reset was
    made — yet the handler answered with nothing, and nothing is left: the completed entry was
    removed (by the call whose result was dropped) without ever being returned.  In a sequential
    history that cannot happen (`completed_returned_by_next_export_and_reset`). -/
theorem split_reset_handler_loses_entry :
    SplitResetHandler.race "a" = (.log [], .log [⟨"a", 0, some 1⟩], .log []) := by decide +kernel

/-- two threads, two schedules of the same programs: both defined, both sequential. -/
example : (exec Generated.HarLog.lockTable ⟨init, [[(0, .req "a"), (1, .res "a")], [(10, .req "a"), (11, .xreset)]]⟩
      [0, 1, 0, 1]).map (fun r => r.2.map (·.obs))
    = some [.ok, .dup, .ok, .log [⟨"a", 0, some 1⟩]] := by decide +kernel

example : (exec Generated.HarLog.lockTable ⟨init, [[(0, .req "a"), (1, .res "a")], [(10, .req "a"), (11, .xreset)]]⟩
      [1, 1, 0, 0, 0]).map (fun r => r.2.map (·.obs))
    = some [.ok, .log [], .dup, .ok] := by decide +kernel

end Martian.Props.C17
