import Martian.Lemmas.HarLogApi
/-!
C17, API level: `har.Logger` with its options and the failure paths of `NewRequest` /
`NewResponse` (`Model/HarLog.lean`, `Logger`, `Call`).  A call that cannot turn its message into a
HAR message returns the error BEFORE the lock and leaves the log exactly as it was; everything
proved for histories of critical sections holds for histories of API calls.

`Logger.run Logger.init 0 cs` is the pointer-level model run on the API history `cs` (the i-th call
carries tag i); `criticals Cfg.default cs` are the critical sections those calls go through
(`Op.idle` for a call that returned before the lock).
-/
namespace Martian.Props.C17
open Martian Martian.HarLog

/-- Every observation of the API-level pointer model, on every history of calls (with any
    options set along the way and any failing messages), is the list specification's. -/
theorem logger_refines_spec (cs : List Call) :
    Logger.run Logger.init 0 cs = SLogger.run ⟨Cfg.default, []⟩ 0 cs := by
  rw [logger_run_eq, slogger_run_eq]
  exact run_refines _ init [] 0 Reach_init

/-- An API history IS a history of critical sections: each call contributes at most one, decided
    by its prelude (options, message) alone, and nothing else touches the log. -/
theorem api_history_is_history_of_critical_sections (cs : List Call) :
    Logger.run Logger.init 0 cs = run init 0 (criticals Cfg.default cs) ∧
    (Logger.after Logger.init 0 cs).heap = after init 0 (criticals Cfg.default cs) :=
  ⟨logger_run_eq cs Logger.init 0, logger_after_eq cs Logger.init 0⟩

/-- A RecordResponse whose response cannot be logged (body read error, undecodable body — with
    body logging on for its content type) returns the error and changes NOTHING: not the index,
    not the ring, not the entry it was meant for (the seeded defect C17-D deleted the ID). -/
theorem failed_response_leaves_log_unchanged (l : Logger) (id : String) (t : Nat) (m : Msg)
    (hf : newResponseFails (l.cfg.bodyLog.eval m.ctype) m = true) :
    l.recordResponse id t m = (l, .err) := by
  simp [Logger.recordResponse, hf]

/-- Same for RecordRequest; in particular the message error is reported whether or not the ID is
    already in the log (`NewRequest` runs before the duplicate check). -/
theorem failed_request_leaves_log_unchanged (l : Logger) (id : String) (t : Nat) (m : Msg)
    (hf : newRequestFails (l.cfg.postLog.eval m.ctype) m = true) :
    l.recordRequest id t m = (l, .err) := by
  simp [Logger.recordRequest, hf]

/-- A call with a loggable message is exactly its critical section. -/
theorem good_message_runs_the_critical_section (l : Logger) (id : String) (t : Nat) (m : Msg) :
    (newRequestFails (l.cfg.postLog.eval m.ctype) m = false →
      l.recordRequest id t m = (⟨l.cfg, (recordRequest l.heap id t).1⟩, (recordRequest l.heap id t).2)) ∧
    (newResponseFails (l.cfg.bodyLog.eval m.ctype) m = false →
      l.recordResponse id t m = (⟨l.cfg, recordResponse l.heap id t⟩, .ok)) := by
  constructor
  · intro hf; simp [Logger.recordRequest, hf]
  · intro hf; simp [Logger.recordResponse, hf]

/-- "Each response attached to its own request" whatever the response is.  For EVERY message
    whose body can be read and decoded — any status code (1xx, 101, 204, 304, 4xx, 5xx, 0, 999 …),
    any header and cookie shape, any body (`content`), any Content-Type, under ANY logging options —
    RecordResponse succeeds and its effect on the log is the attachment to the entry with that ID;
    two such messages are interchangeable.  (The seeded defect C17-F returned early for 1xx.) -/
theorem attachment_independent_of_message_content (l : Logger) (id : String) (t : Nat) (lg : Log)
    (hr : Reach l.heap lg) (framed : Bool) (ctype : String) (content : Nat) :
    (l.recordResponse id t ⟨framed, ctype, .none, content⟩).2 = .ok ∧
    Reach (l.recordResponse id t ⟨framed, ctype, .none, content⟩).1.heap (Spec.res lg id t) ∧
    (∀ framed' ctype' content', l.recordResponse id t ⟨framed', ctype', .none, content'⟩ =
      l.recordResponse id t ⟨framed, ctype, .none, content⟩) := by
  have h : ∀ f c k, l.recordResponse id t ⟨f, c, .none, k⟩ =
      (⟨l.cfg, recordResponse l.heap id t⟩, .ok) := by
    intro f c k; simp [Logger.recordResponse, newResponseFails]
  refine ⟨by rw [h], ?_, fun f c k => by rw [h, h]⟩
  rw [h]
  exact (step_sim l.heap lg t (.res id) hr).1

/-- The same for requests: every loggable request (any method — CONNECT, HEAD, … —, URL, headers,
    cookies, body) is appended if its ID is fresh and rejected as a duplicate otherwise; nothing
    else about it matters. -/
theorem request_recording_independent_of_message_content (l : Logger) (id : String) (t : Nat) (lg : Log)
    (hr : Reach l.heap lg) (framed : Bool) (ctype : String) (content : Nat) :
    (l.recordRequest id t ⟨framed, ctype, .none, content⟩).2 = (Spec.req lg id t).2 ∧
    Reach (l.recordRequest id t ⟨framed, ctype, .none, content⟩).1.heap (Spec.req lg id t).1 ∧
    (∀ framed' ctype' content', l.recordRequest id t ⟨framed', ctype', .none, content'⟩ =
      l.recordRequest id t ⟨framed, ctype, .none, content⟩) := by
  have h : ∀ f c k, l.recordRequest id t ⟨f, c, .none, k⟩ =
      (⟨l.cfg, (recordRequest l.heap id t).1⟩, (recordRequest l.heap id t).2) := by
    intro f c k; simp [Logger.recordRequest, newRequestFails]
  have hs := step_sim l.heap lg t (.req id) hr
  refine ⟨by rw [h]; exact hs.2, by rw [h]; exact hs.1, fun f c k => by rw [h, h]⟩

/-- A body that is not read cannot fail the call: a request without Content-Length /
    Transfer-Encoding, and any message whose body is not logged under the options in force. -/
theorem unread_body_never_fails (withBody : Bool) (ct : String) (f : Fault) (m : Msg) :
    newRequestFails withBody ⟨false, ct, f, 0⟩ = false ∧
    newRequestFails false m = false ∧ newResponseFails false m = false := by
  simp [newRequestFails, newResponseFails]

/-- Removing a call that returned before the lock from anywhere in a (tagged) history changes no
    other observation and not the final log: a failed call is indistinguishable from no call. -/
theorem failed_call_is_invisible (h : Heap) (pre suf : List (Nat × Op)) (t : Nat) (f : Bool) :
    runT h (pre ++ (t, .idle f) :: suf) =
      runT h pre ++ (if f then Obs.err else Obs.ok) :: runT (afterT h pre) suf ∧
    runT h (pre ++ suf) = runT h pre ++ runT (afterT h pre) suf ∧
    afterT h (pre ++ (t, .idle f) :: suf) = afterT h (pre ++ suf) := by
  refine ⟨?_, (runT_append pre suf h).1, ?_⟩
  · rw [(runT_append pre _ h).1]; rfl
  · rw [(runT_append pre _ h).2, (runT_append pre suf h).2]; rfl

/-- The situation of C17-D: an entry is pending, a response for it fails to be logged, then
    export-and-reset runs.  The entry is still in the log, still pending, with its own request. -/
theorem failed_response_keeps_entry_pending (pre : List Call) (e : Ent) (m : Msg)
    (he : e ∈ logAfter (criticals Cfg.default pre)) (hp : e.done = false)
    (hf : newResponseFails ((cfgAfter Cfg.default pre).bodyLog.eval m.ctype) m = true) :
    e ∈ logAfter (criticals Cfg.default (pre ++ [.res e.id m, .xreset])) ∧
    Logger.run Logger.init 0 (pre ++ [.res e.id m, .xreset, .exp]) =
      Logger.run Logger.init 0 pre ++
        [.err, .log ((logAfter (criticals Cfg.default pre)).filter fun x => x.done),
         .log ((logAfter (criticals Cfg.default pre)).filter fun x => !x.done)] := by
  have hc : ∀ tl, criticals Cfg.default (pre ++ Call.res e.id m :: tl) =
      criticals Cfg.default pre ++ Op.idle true :: criticals (cfgAfter Cfg.default pre) tl := by
    intro tl
    rw [criticals_append, criticals, Call.critical, if_pos hf]
    rfl
  constructor
  · rw [hc, logAfter_append]
    exact List.mem_filter.mpr ⟨he, by rw [hp]; rfl⟩
  · rw [logger_run_init, logger_run_init, hc, Spec.run_append]
    rfl

/-- With post-data and body logging off (and no SetOption later) no call ever fails. -/
theorem no_message_error_when_logging_off (cs : List Call) (h : Heap) (l : Log) (t : Nat)
    (hr : Reach h l) (hs : ∀ c ∈ cs, ∀ o, c ≠ .setPost o ∧ c ≠ .setBody o) :
    Obs.err ∉ Logger.run ⟨⟨.all false, .all false⟩, h⟩ t cs := by
  rw [logger_run_eq, run_refines _ h l t hr]
  intro he
  have hm : Op.idle true ∈ criticals ⟨.all false, .all false⟩ cs := by
    obtain ⟨pre, o, suf, hops, hb⟩ := Spec.mem_run _ _ _ he
    rw [hops, ← Spec.step_err hb.symm]
    exact List.mem_append_right _ List.mem_cons_self
  clear he
  -- with logging off no prelude fails, and without SetOption logging stays off
  induction cs with
  | nil => cases hm
  | cons c cs ih =>
    have hc := hs c List.mem_cons_self
    have hcs := fun c' hc' => hs c' (List.mem_cons_of_mem _ hc')
    rw [criticals, List.mem_cons] at hm
    cases c with
    | req id m =>
      exact hm.elim (by simp [Call.critical, LogOpt.eval, newRequestFails]) (ih hcs)
    | res id m =>
      exact hm.elim (by simp [Call.critical, LogOpt.eval, newResponseFails]) (ih hcs)
    | setPost o => exact absurd rfl (hc o).1
    | setBody o => exact absurd rfl (hc o).2
    | _ => exact hm.elim (by simp [Call.critical]) (ih hcs)

/-- No nil dereference, no unbounded loop, on any history of API calls. -/
theorem api_never_panics_nor_diverges (cs : List Call) :
    Obs.panic ∉ Logger.run Logger.init 0 cs ∧ Obs.diverge ∉ Logger.run Logger.init 0 cs := by
  rw [logger_run_init]
  exact Spec.run_safe _ [] 0

/-- Every list handed out is in request-arrival order (so no entry twice). -/
theorem api_exports_in_arrival_order (cs : List Call) (es : List Ent)
    (h : Obs.log es ∈ Logger.run Logger.init 0 cs) : (rqs es).Pairwise (· < ·) := by
  rw [logger_run_init] at h
  exact sorted_outputs _ [] 0 (WF_nil 0) es h

/-- Over the whole life of the log — through failing calls, option changes, resets and ID re-use —
    no request is returned by export-and-reset more than once, and only completed ones are. -/
theorem api_returned_at_most_once_and_completed (cs : List Call) :
    (rqs (returned (criticals Cfg.default cs) (Logger.run Logger.init 0 cs))).Nodup ∧
    ∀ e ∈ returned (criticals Cfg.default cs) (Logger.run Logger.init 0 cs), e.done = true := by
  rw [logger_run_init]
  exact ⟨(returned_inv _ [] 0 (WF_nil 0)).1, returned_done _ [] 0⟩

/-- "Each response attached to its own request", in terms of the calls: an exported entry's
    request tag names a RecordRequest call with its ID, its response tag a later RecordResponse
    call with the same ID (both of which got past their message). -/
theorem api_each_response_attached_to_own_request (cs : List Call) (es : List Ent)
    (h : Obs.log es ∈ Logger.run Logger.init 0 cs) :
    ∀ e ∈ es, (∃ m, cs[e.rq]? = some (.req e.id m)) ∧
      ∀ j, e.rs = some j → (∃ m, cs[j]? = some (.res e.id m)) ∧ e.rq < j := by
  rw [logger_run_init] at h
  intro e he
  obtain ⟨h1, h2⟩ := own_outputs _ es h e he
  refine ⟨?_, ?_⟩
  · obtain ⟨x, c', hx, hcx⟩ := criticals_get cs _ _ _ h1
    obtain ⟨m, rfl⟩ := critical_eq_record.1 hcx
    exact ⟨m, hx⟩
  · intro j hj
    obtain ⟨h3, h4⟩ := h2 j hj
    obtain ⟨x, c', hx, hcx⟩ := criticals_get cs _ _ _ h3
    obtain ⟨m, rfl⟩ := critical_eq_record.2 hcx
    exact ⟨⟨m, hx⟩, h4⟩

/-- C17-D's history: request a; response a whose body fails; export-and-reset; export; a good
    response; export-and-reset.  The entry survives the failure and is returned once completed. -/
example : Logger.run Logger.init 0
    [.req "a" Msg.plain, .res "a" ⟨false, "", .read, 0⟩, .xreset, .exp, .req "a" Msg.plain,
     .res "a" Msg.plain, .xreset, .exp]
    = [.ok, .err, .log [], .log [⟨"a", 0, none⟩], .dup, .ok, .log [⟨"a", 0, some 5⟩], .log []] := by decide +kernel

/-- the message error comes before the duplicate check; with logging off the same call is a
    plain duplicate; an unframed request is never read. -/
example : Logger.run Logger.init 0
    [.req "a" Msg.plain, .req "a" ⟨true, "", .read, 0⟩, .setPost (.all false), .req "a" ⟨true, "", .read, 0⟩,
     .req "b" ⟨true, "", .decode, 0⟩, .setPost (.all true), .req "c" ⟨false, "", .read, 0⟩, .exp]
    = [.ok, .err, .ok, .dup, .ok, .ok, .ok, .log [⟨"a", 0, none⟩, ⟨"b", 4, none⟩, ⟨"c", 6, none⟩]] := by decide +kernel

/-- hypotheses of `failed_response_keeps_entry_pending` are satisfiable. -/
example : (⟨"a", 0, none⟩ : Ent) ∈ logAfter (criticals Cfg.default [.req "a" Msg.plain]) ∧
    newResponseFails ((cfgAfter Cfg.default [.req "a" Msg.plain]).bodyLog.eval "") ⟨false, "", .read, 0⟩ = true := by
  decide +kernel

end Martian.Props.C17
