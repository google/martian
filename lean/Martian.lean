-- Root of the library: everything a check may need is built by `lake build Martian`.
import Martian.Util
import Martian.Lemmas.Ascii
import Martian.Lemmas.Be32
import Martian.Lemmas.Lists
import Martian.Lemmas.Strings
import Martian.Props.C01
import Martian.Drv.C01
import Martian.Props.C02
import Martian.Drv.C02
import Martian.Props.C03
import Martian.Drv.C03
import Martian.Props.C04
import Martian.Drv.C04
import Martian.Props.C05
import Martian.Drv.C05
import Martian.Props.C06
import Martian.Drv.C06
import Martian.Lemmas.ShutdownStep
import Martian.Props.C07
import Martian.Drv.C07
import Martian.Props.C08
import Martian.Drv.C08
import Martian.Props.C09
import Martian.Drv.C09
import Martian.Lemmas.H2Step
import Martian.Props.C10
import Martian.Drv.C10
import Martian.Props.C11
import Martian.Drv.C11
import Martian.Props.C12
import Martian.Drv.C12
import Martian.Props.C13
import Martian.Drv.C13
import Martian.Props.C14
import Martian.Drv.C14
import Martian.Props.C15
import Martian.Drv.C15
import Martian.Props.C16
import Martian.Drv.C16
import Martian.Props.C17
import Martian.Drv.C17
import Martian.Props.C18
import Martian.Drv.C18
import Martian.Props.C19
import Martian.Drv.C19
import Martian.Props.C20
import Martian.Drv.C20
